import Tcell.Lemmas.Pipeline
/-
C05 — events are delivered exactly once, in order, with back-pressure not loss.   PARTIAL: theorems about the
transition-system model `Tcell.Model.Pipeline` (tied to the code by trace inclusion, engine `pipe`, which replays the real
screen's schedule points on the model instantiated with the real parser model).  The parser is abstract here: any `collect`
that satisfies the chunk law (`ChunkLaw`; proved for the real parser model under property C02, not used from there).

All theorems quantify over every label list (= every interleaving of input arrival, resize notifications, posting
goroutines, a poller that polls at arbitrary moments or not at all), every capacity, every chunking of the input.
`lossy` is the model's ghost flag for "something was discarded"; `lossy_only_after_shutdown` shows that this needs a closed
`quit`/`stopQ`, i.e. a Fini or Suspend: before that, nothing is ever dropped, duplicated or reordered, however full the
queues are (back-pressure: a producer whose queue is full simply has no enabled step).
Not covered by a theorem: `When()` (the model has no clock; the harness checks it on every delivered event).
-/
namespace Tcell.Props.C05
open Tcell Tcell.Model.Pipeline

variable {Ev PSt : Type}

/-- the chunk law of the parser: decoding `a ++ b` in one go = decoding `a`, then the leftover followed by `b` -/
structure ChunkLaw (P : Parser Ev PSt) : Prop where
  nil : ∀ st, P.collect st [] false = ([], st, [])
  append : ∀ st a b, P.collect st (a ++ b) false =
    ((P.collect st a false).1 ++ (P.collect (P.collect st a false).2.1 ((P.collect st a false).2.2 ++ b) false).1,
     (P.collect (P.collect st a false).2.1 ((P.collect st a false).2.2 ++ b) false).2.1,
     (P.collect (P.collect st a false).2.1 ((P.collect st a false).2.2 ++ b) false).2.2)

def keysOf : List (Item Ev) → List Ev
  | [] => []
  | .key e :: r => e :: keysOf r
  | _ :: r => keysOf r

def postedOf : List (Item Ev) → List Nat
  | [] => []
  | .posted n :: r => n :: postedOf r
  | _ :: r => postedOf r

@[simp] theorem keysOf_append (a b : List (Item Ev)) : keysOf (a ++ b) = keysOf a ++ keysOf b := by
  induction a with
  | nil => rfl
  | cons x r ih => cases x <;> simp [keysOf, ih]

def pending (s : State Ev PSt) : List Ev :=
  match s.mainPc with
  | .scan p _ => p
  | _ => []

def held (s : State Ev PSt) : Bytes :=
  match s.inPc with
  | .hold ch => ch
  | _ => []

def cePend (s : State Ev PSt) : List (Item Ev) :=
  match s.cePc with
  | .fwd it => [it]
  | _ => []

/-- queue conservation (single consumer through ChannelEvents or PollEvent): nothing enqueued is lost, duplicated or reordered -/
def QueueInv (s : State Ev PSt) : Prop := s.delivered ++ s.ch ++ cePend s ++ s.eventQ = s.log ∨ s.lossy = true
/-- every decoded key event is either still pending in scanInput or was enqueued, in order -/
def KeysInv (s : State Ev PSt) : Prop := keysOf s.log ++ pending s = s.decoded ∨ s.lossy = true
/-- every injected byte is unread, held by inputLoop, in keychan, or was received by mainLoop, in order -/
def BytesInv (s : State Ev PSt) : Prop :=
  s.received ++ s.keychan.flatten ++ held s ++ s.unread.flatten = s.allInput ∨ s.lossy = true
/-- PollEvent is not used while events are in ChannelEvents' hands (single consumer) -/
def chIdle (s : State Ev PSt) : Prop := s.ch = [] ∧ cePend s = []

theorem step_queue (P : Parser Ev PSt) (c : Cfg) (s : State Ev PSt) (l : Label) (s' : State Ev PSt)
    (hg : l = .pollEv → chIdle s) (hi : QueueInv s) (h : step P c s l = some s') : QueueInv s' := by
  rcases hi with hi | hi
  · cases Step.of_step h with
    | inErrSent | scanSent | resizeSent | post | postWaitSent => exact .inl (by simp [← hi, cePend])
    | pollEv heq =>
      obtain ⟨h1, h2⟩ := hg rfl
      refine .inl ?_
      show s.delivered ++ [_] ++ s.ch ++ cePend s ++ _ = s.log
      simp [← hi, heq, h1, h2]
    | ceEv hpc heq => exact .inl (by simp [← hi, cePend, hpc, heq])
    | ceFwdSent hpc => exact .inl (by simp [← hi, cePend, hpc])
    | recv hch => exact .inl (by simp [← hi, cePend, hch])
    | ceStart hpc | ceQuit hpc | ceStop hpc | ceClose hpc => exact .inl (by simpa [cePend, hpc] using hi)
    | inSendStop | scanQuit | scanStop | ceFwdQuit | ceFwdStop => exact .inr rfl
    | _ => exact .inl hi
  · exact .inr (step_lossy_mono h hi)

theorem step_keys (P : Parser Ev PSt) (c : Cfg) (s : State Ev PSt) (l : Label) (s' : State Ev PSt)
    (hi : KeysInv s) (h : step P c s l = some s') : KeysInv s' := by
  rcases hi with hi | hi
  · cases Step.of_step h with
    | inErrSent | resizeSent | post | postWaitSent => exact .inl (by simpa [keysOf, pending] using hi)
    | scanSent hpc | timerScan hpc | mainChunk hpc => exact .inl (by simp [← hi, keysOf, pending, hpc])
    | mainStop hpc | mainQuit hpc | mainResize hpc | mainResizeEnd hpc | mainTimer hpc | timerEnd hpc | timerEndScan hpc
    | chunkEnd hpc | mainExit hpc | callInit _ _ _ hpc | callResume _ _ _ hpc =>
      exact .inl (by simpa [pending, engage, hpc] using hi)
    | inSendStop | scanQuit | scanStop | ceFwdQuit | ceFwdStop => exact .inr rfl
    | _ => exact .inl hi
  · exact .inr (step_lossy_mono h hi)

theorem step_bytes (P : Parser Ev PSt) (c : Cfg) (s : State Ev PSt) (l : Label) (s' : State Ev PSt)
    (hi : BytesInv s) (h : step P c s l = some s') : BytesInv s' := by
  rcases hi with hi | hi
  · cases Step.of_step h with
    | inject => exact .inl (by simp [← hi, held])
    | inReadChunk hpc hun => exact .inl (by simp [← hi, held, hpc, hun])
    | inSent hpc => exact .inl (by simp [← hi, held, hpc])
    | mainChunk _ hkc => exact .inl (by simp [← hi, held, hkc])
    | inStop hpc | inToRead hpc | inReadErr hpc | inReadEmpty hpc | inErr hpc | inErrExit hpc | inErrSent hpc
    | inErrQuit hpc | inErrStop hpc | inExit hpc | callInit _ _ hpc | callResume _ _ hpc =>
      exact .inl (by simpa [held, engage, hpc] using hi)
    | inSendStop | scanQuit | scanStop | ceFwdQuit | ceFwdStop => exact .inr rfl
    | _ => exact .inl hi
  · exact .inr (step_lossy_mono h hi)

theorem step_chIdle (P : Parser Ev PSt) (c : Cfg) (s : State Ev PSt) (l : Label) (s' : State Ev PSt)
    (hg : l ≠ .ceEv) (hi : chIdle s) (h : step P c s l = some s') : chIdle s' := by
  obtain ⟨h1, h2⟩ := hi
  cases Step.of_step h with
  | ceEv => exact absurd rfl hg
  | ceFwdSent hpc | ceFwdQuit hpc | ceFwdStop hpc => simp [cePend, hpc] at h2
  | recv hch => simp [h1] at hch
  | ceStart | ceQuit | ceStop | ceClose => exact ⟨h1, rfl⟩
  | _ => exact ⟨h1, h2⟩

theorem inv_init (pst0 : PSt) :
    QueueInv (init pst0 : State Ev PSt) ∧ KeysInv (init pst0 : State Ev PSt) ∧ BytesInv (init pst0 : State Ev PSt) ∧
    chIdle (init pst0 : State Ev PSt) := by
  simp [QueueInv, KeysInv, BytesInv, chIdle, init, cePend, pending, held, keysOf]

/-- **`pipeline_inv` (consumer = PollEvent).**  For every label list without ChannelEvents receiving (every interleaving of
input arrival, read faults, resizes, any number of PostEvent calls, polls at arbitrary moments or never, Suspend/Resume/Fini),
every capacity and every parser: unless something was discarded by a shutdown (`lossy`),
* delivered ++ eventQ is exactly the sequence of everything ever enqueued (nothing lost, duplicated or reordered),
* the key events enqueued so far followed by the ones pending in scanInput are exactly the decoded events, in order,
* received ++ keychan ++ chunk held by inputLoop ++ unread is exactly the injected input (back-pressure, not loss). -/
theorem pipeline_inv (P : Parser Ev PSt) (c : Cfg) (pst0 : PSt) (ls : List Label) (s : State Ev PSt)
    (hpoll : ∀ l ∈ ls, l ≠ .ceEv) (hr : run P c (init pst0) ls = some s) :
    QueueInv s ∧ KeysInv s ∧ BytesInv s ∧ chIdle s :=
  run_induction P c (· ≠ .ceEv) (fun s => QueueInv s ∧ KeysInv s ∧ BytesInv s ∧ chIdle s)
    (fun s l s' hg hi h => ⟨step_queue P c s l s' (fun _ => hi.2.2.2) hi.1 h, step_keys P c s l s' hi.2.1 h,
      step_bytes P c s l s' hi.2.2.1 h, step_chIdle P c s l s' hg hi.2.2.2 h⟩)
    ls (init pst0) s (inv_init pst0) hpoll hr

/-- **`pipeline_inv` (consumer = one ChannelEvents reader).**  Same statement with the events in ChannelEvents' hands
(`ch`, and the one it holds between its two selects) in the middle: ChannelEvents forwards in order. -/
theorem pipeline_inv_chan (P : Parser Ev PSt) (c : Cfg) (pst0 : PSt) (ls : List Label) (s : State Ev PSt)
    (hchan : ∀ l ∈ ls, l ≠ .pollEv) (hr : run P c (init pst0) ls = some s) :
    QueueInv s ∧ KeysInv s ∧ BytesInv s :=
  run_induction P c (· ≠ .pollEv) (fun s => QueueInv s ∧ KeysInv s ∧ BytesInv s)
    (fun s l s' hg hi h => ⟨step_queue P c s l s' (fun e => absurd e hg) hi.1 h, step_keys P c s l s' hi.2.1 h,
      step_bytes P c s l s' hi.2.2 h⟩)
    ls (init pst0) s ⟨(inv_init pst0).1, (inv_init pst0).2.1, (inv_init pst0).2.2.1⟩ hchan hr

/-- **exactly once, in order.**  What the application has received is a prefix of what was enqueued, and the key events in
it are a prefix of the decoded events: no loss, no duplicate, no reordering — for every interleaving and polling pattern. -/
theorem exactly_once_in_order (P : Parser Ev PSt) (c : Cfg) (pst0 : PSt) (ls : List Label) (s : State Ev PSt)
    (hpoll : ∀ l ∈ ls, l ≠ .ceEv) (hr : run P c (init pst0) ls = some s) (hl : s.lossy = false) :
    s.delivered <+: s.log ∧ keysOf s.delivered <+: s.decoded := by
  obtain ⟨hq, hk, _⟩ := pipeline_inv P c pst0 ls s hpoll hr
  have hnl : ¬ s.lossy = true := by simp [hl]
  rw [← hk.resolve_right hnl, ← hq.resolve_right hnl]
  exact ⟨⟨s.ch ++ cePend s ++ s.eventQ, by simp⟩, ⟨keysOf (s.ch ++ cePend s ++ s.eventQ) ++ pending s, by simp⟩⟩

/-- when everything has been consumed, the delivered key events are exactly the decoded ones -/
theorem all_delivered_when_drained (P : Parser Ev PSt) (c : Cfg) (pst0 : PSt) (ls : List Label) (s : State Ev PSt)
    (hpoll : ∀ l ∈ ls, l ≠ .ceEv) (hr : run P c (init pst0) ls = some s) (hl : s.lossy = false)
    (hq : s.eventQ = []) (hp : pending s = []) : keysOf s.delivered = s.decoded := by
  obtain ⟨hqi, hk, _, hc⟩ := pipeline_inv P c pst0 ls s hpoll hr
  have hnl : ¬ s.lossy = true := by simp [hl]
  rw [← hk.resolve_right hnl, ← hqi.resolve_right hnl, hc.1, hc.2, hq, hp]
  simp

/-- **`post_nil_iff_enqueued`.**  PostEvent never blocks; it returns nil (`postOk`) exactly when it enqueued the event, and
ErrEventQFull exactly when it enqueued nothing. -/
theorem post_nil_iff_enqueued (P : Parser Ev PSt) (c : Cfg) (s s' : State Ev PSt) (h : step P c s .post = some s') :
    (postOk c s = true ∧ s'.log = s.log ++ [.posted s.nextSeq] ∧ s'.eventQ = s.eventQ ++ [.posted s.nextSeq]) ∨
    (postOk c s = false ∧ s'.log = s.log ∧ s'.eventQ = s.eventQ) := by
  cases Step.of_step h with
  | postFull hf => exact .inr ⟨by simp [postOk, hf], rfl, rfl⟩
  | post hf => exact .inl ⟨by simp [postOk, hf], rfl, rfl⟩

theorem post_always_enabled (P : Parser Ev PSt) (c : Cfg) (s : State Ev PSt) : enabled P c s .post = true := by
  cases hf : full c.eqCap s.eventQ with
  | false => exact Step.enabled (.post hf)
  | true => exact Step.enabled (.postFull hf)

/-- posted events carry increasing sequence numbers and the queue is FIFO (`pipeline_inv`): per-goroutine posting order is
preserved.  Here: the sequence number only grows. -/
theorem post_seq_increases (P : Parser Ev PSt) (c : Cfg) (s s' : State Ev PSt) (h : step P c s .post = some s') :
    s'.nextSeq = s.nextSeq + 1 := by
  cases Step.of_step h <;> rfl

/-- **`pending_implies_nonblocking`.**  If HasPendingEvent is true, it stays true under every step that is not the (single)
consumer taking an event, and PollEvent is enabled: the next PollEvent does not block. -/
theorem pending_implies_nonblocking (P : Parser Ev PSt) (c : Cfg) (s s' : State Ev PSt) (l : Label)
    (hp : hasPending s = true) (h : step P c s l = some s') (h1 : l ≠ .pollEv) (h2 : l ≠ .ceEv) :
    hasPending s' = true ∧ enabled P c s' .pollEv = true := by
  suffices hs : hasPending s' = true by
    cases hq : s'.eventQ with
    | nil => simp [hasPending, hq] at hs
    | cons it rest => exact ⟨hs, (Step.pollEv hq).enabled⟩
  cases Step.of_step h with
  | pollEv => exact absurd rfl h1
  | ceEv => exact absurd rfl h2
  | inErrSent | scanSent | resizeSent | post | postWaitSent => simp [hasPending]
  | _ => exact hp

/-- **`lossy_only_after_shutdown`.**  Something can only be discarded once `quit`, `stopQ` or the ChannelEvents quit channel
is closed (or at an engage, i.e. after a complete Suspend): before any shutdown, back-pressure is the only thing that happens. -/
theorem lossy_only_after_shutdown (P : Parser Ev PSt) (c : Cfg) (s s' : State Ev PSt) (l : Label)
    (h : step P c s l = some s') (h0 : s.lossy = false) (h1 : s'.lossy = true) :
    s.quit = true ∨ s.stop = true ∨ s.userQuit = true ∨ s.running = false := by
  obtain ⟨d, hd, hs⟩ := step_lossy h
  exact hs (by simpa [hd, h0] using h1)

/-- **`channel_events_closes`.**  Once `quit` (Fini) or the caller's quit channel is closed, a ChannelEvents goroutine at either
of its selects has an enabled step that leads to closing its channel, and nothing else is in its way. -/
theorem channel_events_closes (P : Parser Ev PSt) (c : Cfg) (s : State Ev PSt) (hq : s.quit = true ∨ s.userQuit = true) :
    (s.cePc.isSel = true → enabled P c s .ceStop = true ∨ enabled P c s .ceQuit = true) ∧
    (∀ it, s.cePc = .fwd it → enabled P c s .ceFwdStop = true ∨ enabled P c s .ceFwdQuit = true) ∧
    (s.cePc.isClosing = true → enabled P c s .ceClose = true) := by
  refine ⟨fun h => ?_, fun it h => ?_, fun h => Step.enabled (.ceClose (by simpa using h))⟩
  · exact hq.imp (fun hq => Step.enabled (.ceStop (by simpa using h) hq))
      (fun hq => Step.enabled (.ceQuit (by simpa using h) hq))
  · exact hq.imp (fun hq => Step.enabled (.ceFwdStop h hq)) (fun hq => Step.enabled (.ceFwdQuit h hq))

/-- **decode is independent of chunking and interleaving.**  Under the parser's chunk law, as long as the escape timer has not
decoded anything on its own (no `timerScan`) and nothing was discarded, the events decoded so far, the parser registers
and the buffered bytes are exactly what one call of `collect` on all bytes received so far gives.  With `pipeline_inv`:
delivered ++ queued ++ pending ++ (events still to be decoded from buf ++ keychan ++ unread) = events of the whole input. -/
theorem decode_independent_of_chunking (P : Parser Ev PSt) (law : ChunkLaw P) (c : Cfg) (pst0 : PSt) (ls : List Label)
    (s : State Ev PSt) (hno : ∀ l ∈ ls, l ≠ .timerScan) (hr : run P c (init pst0) ls = some s) :
    P.collect pst0 s.received false = (s.decoded, s.pst, s.buf) ∨ s.lossy = true := by
  refine run_induction P c (· ≠ .timerScan)
    (fun s => P.collect pst0 s.received false = (s.decoded, s.pst, s.buf) ∨ s.lossy = true) ?_ ls (init pst0) s
    (Or.inl (law.nil pst0)) hno hr
  intro s l s' hg hi h
  rcases hi with hi | hi
  · cases Step.of_step h with
    | timerScan => exact absurd rfl hg
    | mainChunk => exact .inl (by rw [law.append, hi])
    | callInit | callResume =>
      cases hb : s.buf with
      | nil => exact .inl (by simpa [engage, hb] using hi)
      | cons => exact .inr (by simp [engage, hb])
    | inSendStop | scanQuit | scanStop | ceFwdQuit | ceFwdStop => exact .inr rfl
    | _ => exact .inl hi
  · exact .inr (step_lossy_mono h hi)

/-- the hypotheses are satisfiable: the byte parser obeys the chunk law, and a run with a slow consumer (eventQ of capacity 1,
three events, polls only at the end) delivers everything in order -/
def byteParser : Parser Nat Unit := { collect := fun st b _ => (b, st, []) }

theorem byteParser_law : ChunkLaw byteParser := ⟨fun _ => rfl, fun _ _ _ => by simp [byteParser]⟩

example :
    (run byteParser { eqCap := 1, kcCap := 1 } (init ())
      [.callInit, .inject [1, 2], .inject [3], .inToRead, .inReadChunk, .inSent, .mainChunk, .scanSent,
       .inToRead, .inReadChunk, .inSent, .post, .pollEv, .scanSent, .chunkEnd, .pollEv, .mainChunk, .scanSent, .chunkEnd,
       .pollEv]).map (fun s => (s.delivered, s.lossy, s.decoded)) =
    some ([.key 1, .key 2, .key 3], false, [1, 2, 3]) := by decide

end Tcell.Props.C05
