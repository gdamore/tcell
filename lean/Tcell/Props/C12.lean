import Tcell.Lemmas.MouseSeq
import Tcell.Spec.XtermMouse
import Tcell.Gen.Consts
/-
C12 — "Mouse reports decode to the right position, buttons and modifiers".

Model: `Tcell.Model.Parser` (tscreen.go:1295-1812).  Specification: `Tcell.Spec.XtermMouse` (xterm ctlseqs).
All theorems are about `collect`, the model of `collectEventsFromInput`, on the bytes a terminal sends.

* `sgr_decode`            one SGR report, all b x y (any sign, any number of digits, |·| < 2^63 = Go int), both finals,
                          both introducers → exactly one mouse event, nothing left in the buffer
* `sgr_event_spec`        that event has the position, modifiers and (for every code the statement fixes) buttons of the
                          independent specification, and the button-held register follows the specification
* `x11_decode`            one X11 report, all bytes Cb Cx Cy → exactly one event (closed form `x11Out`)
* `x11_pinned_wrong_iff`  the pinned tree decodes exactly the motion codes 32..63 wrongly (drag with left/middle → wheel,
                          right-drag while held → no button): the finding `x11-motion-as-wheel` / `x11-drag-loses-button`
* `x11_fixed_event_spec`  with the repair of fixes/C12-x11-offset.patch the X11 path satisfies the specification
* `reports_decode`, `reports_match_spec`   arbitrary report sequences: one event per report, matching the spec run
* `release_buttonless`, `motion_without_press_buttonless`, `drag_keeps_button`, `press_then_release_ends_buttonless`
-/
namespace Tcell.Props.C12
open Tcell Tcell.Model Tcell.Dec
open Tcell.Lemmas.SgrMouse Tcell.Lemmas.Collect Tcell.Lemmas.MouseStep Tcell.Lemmas.MouseSeq
open Tcell.Spec.XtermMouse

/-! ### constants used by model and spec = constants of the current source (regenerated) -/
example : (1 : Nat) = Gen.button1 ∧ (2 : Nat) = Gen.button2 ∧ (4 : Nat) = Gen.button3 := by decide
example : (256 : Nat) = Gen.wheelUp ∧ (512 : Nat) = Gen.wheelDown := by decide
example : Model.modShift = Gen.modShift ∧ Model.modCtrl = Gen.modCtrl ∧ Model.modAlt = Gen.modAlt ∧ Model.modMeta = Gen.modMeta := by decide
example : button1 = Gen.button1 ∧ button2 = Gen.button2 ∧ button3 = Gen.button3 ∧ wheelUp = Gen.wheelUp ∧ wheelDown = Gen.wheelDown := by decide
example : Spec.XtermMouse.modShift = Gen.modShift ∧ Spec.XtermMouse.modCtrl = Gen.modCtrl ∧ Spec.XtermMouse.modAlt = Gen.modAlt := by decide

theorem decUtf8_silent_9b : DecSilent decUtf8 0x9b := by
  intro p r n
  simp [decUtf8, utf8Validate, utf8DecodeRune]

/-- a configuration satisfying every hypothesis below (used by the `example`s) -/
def exCfg : Cfg :=
  { keys := [⟨[27, 79, 80], 279, 0⟩, ⟨[27, 91, 65], 257, 0⟩, ⟨[13], 13, 0⟩], mouse := true, clipboard := true,
    dec := decUtf8, w := 80, h := 24 }

theorem exCfg_ok : MouseOK exCfg := ⟨rfl, decUtf8_silent_9b⟩
theorem exCfg_clear : mouseClear exCfg.keys = true := by decide

/-- **SGR decode.**  For every button code `b`, coordinates `x y` (negative, zero, multi-digit: any integers a Go `int`
holds), final `M` or `m`, 7-bit or 8-bit CSI introducer, parser state and `expire` flag: the bytes
`intro < b ; x ; y final` fed alone produce exactly one mouse event and leave nothing buffered. -/
theorem sgr_decode (cfg : Cfg) (hc : MouseOK cfg) (hT : mouseClear cfg.keys = true) (st : PState)
    (intro : Bytes) (hi : IsIntro intro) (b x y : Int) (hb : Fits b) (hx : Fits x) (hy : Fits y)
    (fin : Nat) (hf : fin = 77 ∨ fin = 109) (expire : Bool) :
    collect cfg st (render intro b x y fin) expire
      = ⟨[sgrEvent cfg st b x y fin], sgrState st b fin, [], false⟩ := by
  have h := collect_reports cfg hc hT expire [.sgr intro b x y fin] (by intro r hr; simp at hr; subst hr; exact ⟨hi, hb, hx, hy, hf⟩) st
  simpa [renderAll, outs, MRep.bytes, MRep.out] using h

example : collect exCfg {} (render [27, 91] 0 (-3) 1234 77) false
    = ⟨[.mouse 0 23 1 0], { buttondn := true }, [], false⟩ := by
  rw [sgr_decode exCfg exCfg_ok exCfg_clear {} _ (Or.inl rfl) 0 (-3) 1234 (by unfold Fits two63; omega) (by unfold Fits two63; omega) (by unfold Fits two63; omega) 77 (Or.inl rfl)]
  decide

def heldOf (dn : Bool) : Held := if dn then .yes else .no

/-- the model's event has the spec's position and modifiers, and the spec's buttons whenever the statement fixes them -/
def Matches (ev : Event) (ex : Expect) : Prop :=
  ∃ btn, ev = .mouse ex.x ex.y btn ex.mods ∧ (ex.buttons = none ∨ ex.buttons = some btn)

def evBtnMods : Event → Nat × Nat
  | .mouse _ _ b m => (b, m)
  | _ => (0, 0)

def cfg0 : Cfg := { keys := [], mouse := true, clipboard := false, dec := decUtf8, w := 1, h := 1 }

theorem buildMouseEvent_eq (cfg : Cfg) (x y btn : Int) :
    buildMouseEvent cfg x y btn
      = .mouse (clip1 x cfg.w) (clip1 y cfg.h) (evBtnMods (buildMouseEvent cfg0 0 0 btn)).1
          (evBtnMods (buildMouseEvent cfg0 0 0 btn)).2 := rfl

theorem clip1_spec (v lim : Int) (h : 1 ≤ lim) : clip1 (v - 1) lim = clip v lim := by
  unfold clip1 clip
  dsimp only
  split <;> split <;> omega

/-- buttons of the event for button code `c8` (low eight bits), register `dn` and release flag `rel` … -/
def btn8 (c8 : Nat) (dn rel : Bool) : Nat :=
  (evBtnMods (buildMouseEvent cfg0 0 0 ((sgrButtons { buttondn := dn } (c8 : Int) rel).1 : Int))).1

/-- … its modifiers … -/
def mod8 (c8 : Nat) (dn rel : Bool) : Nat :=
  (evBtnMods (buildMouseEvent cfg0 0 0 ((sgrButtons { buttondn := dn } (c8 : Int) rel).1 : Int))).2

/-- … and the register afterwards -/
def dn8 (c8 : Nat) (dn rel : Bool) : Bool := (sgrButtons { buttondn := dn } (c8 : Int) rel).2

theorem bits_lt (b : Int) : bits b < 256 := by unfold bits; omega

theorem sgrButtons_bits (st : PState) (b : Int) (rel : Bool) :
    sgrButtons st b rel = sgrButtons { buttondn := st.buttondn } ((bits b : Nat) : Int) rel := by
  have : (b % 128).toNat = (((bits b : Nat) : Int) % 128).toNat := by unfold bits; omega
  simp only [sgrButtons, this]

/-- model against specification on one button code, for every register and release flag and each held state the
register may stand for: modifiers, buttons where the statement fixes them, and the held state afterwards -/
theorem step8 : ∀ c8, c8 < 256 → ∀ dn rel : Bool, ∀ held ∈ [Held.unknown, heldOf dn],
    mod8 c8 dn rel = mods c8 ∧
    ((buttons held ⟨(c8 : Int), 0, 0, rel⟩).1 = none ∨ (buttons held ⟨(c8 : Int), 0, 0, rel⟩).1 = some (btn8 c8 dn rel)) ∧
    ((buttons held ⟨(c8 : Int), 0, 0, rel⟩).2 = .unknown ∨ (buttons held ⟨(c8 : Int), 0, 0, rel⟩).2 = heldOf (dn8 c8 dn rel)) := by
  decide +kernel

theorem buttons_congr (held : Held) (r r' : Report) (h1 : bits r.code = bits r'.code) (h2 : r.release = r'.release) :
    buttons held r = buttons held r' := by
  unfold buttons
  simp only [h1, h2]

theorem core_step_spec (cfg : Cfg) (hw : 1 ≤ cfg.w) (hh : 1 ≤ cfg.h) (st : PState) (b x y : Int) (rel : Bool)
    (held : Held) (hheld : held = .unknown ∨ held = heldOf st.buttondn) :
    Matches (buildMouseEvent cfg (x - 1) (y - 1) ((sgrButtons st b rel).1 : Int)) (expect cfg.w cfg.h held ⟨b, x, y, rel⟩).1
    ∧ ((expect cfg.w cfg.h held ⟨b, x, y, rel⟩).2 = .unknown
       ∨ (expect cfg.w cfg.h held ⟨b, x, y, rel⟩).2 = heldOf (sgrButtons st b rel).2) := by
  obtain ⟨hm, hb, hh'⟩ := step8 (bits b) (bits_lt b) st.buttondn rel held (by simpa using hheld)
  have e2 : buttons held ⟨b, x, y, rel⟩ = buttons held ⟨((bits b : Nat) : Int), 0, 0, rel⟩ :=
    buttons_congr _ _ _ (by simp only [bits]; omega) rfl
  have e3 : bits b = bits ((bits b : Nat) : Int) := by simp only [bits]; omega
  unfold btn8 mod8 dn8 at *
  rw [← sgrButtons_bits, ← e2] at hb hh'
  rw [← sgrButtons_bits] at hm
  refine ⟨⟨(evBtnMods (buildMouseEvent cfg0 0 0 ((sgrButtons st b rel).1 : Int))).1, ?_, hb⟩, hh'⟩
  rw [buildMouseEvent_eq, clip1_spec _ _ hw, clip1_spec _ _ hh, hm]
  rfl

/-- **SGR event = specification.**  Position: reported cell 0-based clipped into the screen; modifiers: Shift/Alt/Ctrl bits;
buttons: as ctlseqs + the property's held-button rule wherever the statement fixes them; the `buttondn` register
afterwards is the specification's held state (whenever the spec knows it). -/
theorem sgr_event_spec (cfg : Cfg) (hw : 1 ≤ cfg.w) (hh : 1 ≤ cfg.h) (st : PState) (b x y : Int) (fin : Nat)
    (held : Held) (hheld : held = .unknown ∨ held = heldOf st.buttondn) :
    Matches (sgrEvent cfg st b x y fin) (expect cfg.w cfg.h held ⟨b, x, y, fin = 109⟩).1
    ∧ ((expect cfg.w cfg.h held ⟨b, x, y, fin = 109⟩).2 = .unknown
       ∨ (expect cfg.w cfg.h held ⟨b, x, y, fin = 109⟩).2 = heldOf (sgrState st b fin).buttondn) :=
  core_step_spec cfg hw hh st b x y (fin = 109) held hheld

example : (sgrEvent exCfg {} 18 5 7 77) = .mouse 4 6 2 2 := by decide
example : (expect 80 24 .no ⟨18, 5, 7, false⟩).1 = ⟨4, 6, some 2, 2⟩ := by decide

/-- **X11 decode (model closed form).**  For all bytes Cb Cx Cy and both introducers: exactly one event, nothing left. -/
theorem x11_decode (cfg : Cfg) (hc : MouseOK cfg) (hT : mouseClear cfg.keys = true) (st : PState)
    (intro : Bytes) (hi : IsIntro intro) (cb cx cy : Nat) (expire : Bool) :
    collect cfg st (renderX11 intro cb cx cy) expire
      = ⟨[(x11Out cfg st cb cx cy).1], (x11Out cfg st cb cx cy).2, [], false⟩ := by
  have h := collect_reports cfg hc hT expire [.x11 intro cb cx cy] (by intro r hr; simp at hr; subst hr; exact hi) st
  simpa [renderAll, outs, MRep.bytes, MRep.out] using h

/-- button of the event the PINNED tree builds for X11 button byte `cb` (offset not removed, no held register) -/
def x11PinnedBtn (cb : Nat) : Nat := (evBtnMods (buildMouseEvent cfg0 0 0 (cb : Int))).1

/-- the pinned X11 path contradicts the specification on report `cb` with held register `dn` -/
def X11Wrong (cb : Nat) (dn : Bool) : Prop :=
  ∃ k, (buttons (heldOf dn) (ofX11 cb 33 33)).1 = some k ∧ x11PinnedBtn cb ≠ k

instance (cb : Nat) (dn : Bool) : Decidable (X11Wrong cb dn) :=
  match h : (buttons (heldOf dn) (ofX11 cb 33 33)).1 with
  | none => isFalse (by intro ⟨k, hk, _⟩; rw [h] at hk; cases hk)
  | some k =>
    if hne : x11PinnedBtn cb ≠ k then isTrue ⟨k, h, hne⟩
    else isFalse (by intro ⟨k', hk, hk'⟩; rw [h] at hk; cases hk; exact hne hk')

/-- **Exactly which X11 reports the pinned tree decodes wrongly**: those whose code (Cb − 32) is a motion report
32..63 with the left or middle button (decoded as WheelUp / WheelDown) or with the right button while a button is held
(decoded as no button).  Every other code the statement fixes is decoded correctly, because bit 5 of the un-subtracted
byte is ignored by `btn & 0x43`.  -/
theorem x11_pinned_wrong_iff : ∀ cb, 32 ≤ cb → cb < 256 → ∀ dn : Bool,
    X11Wrong cb dn ↔ (64 ≤ cb ∧ cb < 96 ∧ (cb % 4 = 0 ∨ cb % 4 = 1 ∨ (cb % 4 = 2 ∧ dn = true))) := by
  have h : ∀ cb, cb < 256 → ∀ dn : Bool, 32 ≤ cb →
      (X11Wrong cb dn ↔ (64 ≤ cb ∧ cb < 96 ∧ (cb % 4 = 0 ∨ cb % 4 = 1 ∨ (cb % 4 = 2 ∧ dn = true)))) := by
    decide +kernel
  exact fun cb h1 h2 dn => h cb h2 dn h1

/-- the witness of the finding: a left-button drag report `CSI M @ ! !` (code 32) decodes to WheelUp -/
theorem x11_motion_as_wheel_counterexample :
    (collect exCfg { buttondn := true } (renderX11 [27, 91] 64 33 33) false).evs = [.mouse 0 0 256 0] := by
  rw [x11_decode exCfg exCfg_ok exCfg_clear _ _ (Or.inl rfl)]
  decide

theorem x11_rel_eq (cb : Nat) :
    (decide ((((cb : Int) - 32) % 128).toNat % 4 = 3 ∧ (((cb : Int) - 32) % 128).toNat / 64 % 2 = 0
        ∧ (((cb : Int) - 32) % 128).toNat / 32 % 2 = 0))
      = (ofX11 cb 0 0).release := by
  have hc : (((cb : Int) - 32) % 256).toNat < 256 := by omega
  have e : (((cb : Int) - 32) % 128).toNat = (((cb : Int) - 32) % 256).toNat % 128 := by omega
  have h : ∀ c8, c8 < 256 → decide ((c8 % 128) % 4 = 3 ∧ (c8 % 128) / 64 % 2 = 0 ∧ (c8 % 128) / 32 % 2 = 0)
      = (c8 % 4 == 3 && !bit c8 5 && !bit c8 6) := by decide +kernel
  simp only [ofX11, bits, e]
  exact h _ hc

/-- **Repaired X11 path = specification** (variant `x11Fixed`, fixes/C12-x11-offset.patch): for every byte triple the
event matches the specification of the report `ofX11 cb cx cy` and the held register follows it. -/
theorem x11_fixed_event_spec (cfg : Cfg) (hfx : cfg.x11Fixed = true) (hw : 1 ≤ cfg.w) (hh : 1 ≤ cfg.h) (st : PState)
    (cb cx cy : Nat) (held : Held) (hheld : held = .unknown ∨ held = heldOf st.buttondn) :
    Matches (x11Out cfg st cb cx cy).1 (expect cfg.w cfg.h held (ofX11 cb cx cy)).1
    ∧ ((expect cfg.w cfg.h held (ofX11 cb cx cy)).2 = .unknown
       ∨ (expect cfg.w cfg.h held (ofX11 cb cx cy)).2 = heldOf (x11Out cfg st cb cx cy).2.buttondn) := by
  have hrel := x11_rel_eq cb
  have h := core_step_spec cfg hw hh st ((cb : Int) - 32) ((cx : Int) - 32) ((cy : Int) - 32) (ofX11 cb 0 0).release held hheld
  have e : ofX11 cb cx cy = ⟨(cb : Int) - 32, (cx : Int) - 32, (cy : Int) - 32, (ofX11 cb 0 0).release⟩ := rfl
  rw [e]
  simp only [x11Out, hfx, if_true]
  rw [hrel]
  exact h

/-- **Any sequence of reports** (SGR and X11 mixed, any introducers) decodes to exactly one event per report, in order,
with nothing left in the buffer — `outs` folds the per-report closed forms over the `buttondn` register. -/
theorem reports_decode (cfg : Cfg) (hc : MouseOK cfg) (hT : mouseClear cfg.keys = true) (expire : Bool)
    (rs : List MRep) (hv : ∀ r ∈ rs, r.Valid) (st : PState) :
    collect cfg st (renderAll rs) expire = ⟨(outs cfg st rs).1, (outs cfg st rs).2, [], false⟩ :=
  collect_reports cfg hc hT expire rs hv st

theorem outs_length (cfg : Cfg) : ∀ (rs : List MRep) (st : PState), (outs cfg st rs).1.length = rs.length := by
  intro rs
  induction rs with
  | nil => intro st; rfl
  | cons r rs ih => intro st; simp [outs, ih]

/-- the report a terminal meant -/
def toReport : MRep → Report
  | .sgr _ b x y fin => ⟨b, x, y, fin = 109⟩
  | .x11 _ cb cx cy => ofX11 cb cx cy

/-- the code path that handles the report satisfies the specification: SGR always, X11 in the repaired variant -/
def Covered (cfg : Cfg) : MRep → Prop
  | .sgr .. => True
  | .x11 .. => cfg.x11Fixed = true

theorem rep_step_spec (cfg : Cfg) (hw : 1 ≤ cfg.w) (hh : 1 ≤ cfg.h) (st : PState) (r : MRep) (hcv : Covered cfg r)
    (held : Held) (hheld : held = .unknown ∨ held = heldOf st.buttondn) :
    Matches (r.out cfg st).1 (expect cfg.w cfg.h held (toReport r)).1
    ∧ ((expect cfg.w cfg.h held (toReport r)).2 = .unknown
       ∨ (expect cfg.w cfg.h held (toReport r)).2 = heldOf (r.out cfg st).2.buttondn) := by
  cases r with
  | sgr intro b x y fin => exact sgr_event_spec cfg hw hh st b x y fin held hheld
  | x11 intro cb cx cy => exact x11_fixed_event_spec cfg hcv hw hh st cb cx cy held hheld

/-- pointwise `Matches` of two lists of equal length -/
inductive AllMatch : List Event → List Expect → Prop where
  | nil : AllMatch [] []
  | cons {ev ex evs exs} : Matches ev ex → AllMatch evs exs → AllMatch (ev :: evs) (ex :: exs)

/-- **The state machine over arbitrary report sequences.**  Running the specification (`Spec.XtermMouse.run`: press
starts held, release ends it, motion shows its button only while held, wheel leaves it alone) over the reports gives,
report by report, the position, modifiers and — wherever the statement fixes them — buttons of the model's events. -/
theorem reports_match_spec (cfg : Cfg) (hw : 1 ≤ cfg.w) (hh : 1 ≤ cfg.h) :
    ∀ (rs : List MRep), (∀ r ∈ rs, Covered cfg r) → ∀ (st : PState) (held : Held),
      (held = .unknown ∨ held = heldOf st.buttondn) →
      AllMatch (outs cfg st rs).1 (run cfg.w cfg.h held (rs.map toReport)) := by
  intro rs
  induction rs with
  | nil => intro _ st held _; exact AllMatch.nil
  | cons r rs ih =>
    intro hcv st held hheld
    have hs := rep_step_spec cfg hw hh st r (hcv r (by simp)) held hheld
    simp only [outs, List.map, run]
    exact AllMatch.cons hs.1 (ih (fun x hx => hcv x (by simp [hx])) _ _ hs.2)

example : (outs exCfg {} [.sgr [27, 91] 0 5 5 77, .sgr [0x9b] 32 6 5 77, .sgr [27, 91] 0 6 5 109, .sgr [27, 91] 35 7 5 77]).1
    = [.mouse 4 4 1 0, .mouse 5 4 1 0, .mouse 5 4 0 0, .mouse 6 4 0 0] := by decide

def buttonsOf (ev : Event) : Nat := (evBtnMods ev).1

theorem buttonsOf_sgrEvent (cfg : Cfg) (st : PState) (b x y : Int) (fin : Nat) :
    buttonsOf (sgrEvent cfg st b x y fin) = btn8 (bits b) st.buttondn (fin = 109) := by
  rw [btn8, ← sgrButtons_bits]; rfl

theorem buttondn_sgrState (st : PState) (b : Int) (fin : Nat) :
    (sgrState st b fin).buttondn = dn8 (bits b) st.buttondn (fin = 109) := by
  rw [dn8, ← sgrButtons_bits]; rfl

/-- a release report carries no buttons and clears the register, whatever came before -/
theorem release_buttonless (cfg : Cfg) (st : PState) (b x y : Int) :
    buttonsOf (sgrEvent cfg st b x y 109) = 0 ∧ (sgrState st b 109).buttondn = false := by
  have hall : ∀ c8, c8 < 256 → ∀ dn : Bool, btn8 c8 dn true = 0 ∧ dn8 c8 dn true = false := by decide +kernel
  rw [buttonsOf_sgrEvent, buttondn_sgrState]
  exact hall (bits b) (bits_lt b) st.buttondn

/-- motion with no button held carries no buttons (and does not start a press) -/
theorem motion_without_press_buttonless (cfg : Cfg) (st : PState) (hst : st.buttondn = false) (b x y : Int)
    (hmotion : bit (bits b) 5 = true) :
    buttonsOf (sgrEvent cfg st b x y 77) = 0 ∧ (sgrState st b 77).buttondn = false := by
  have hall : ∀ c8, c8 < 256 → bit c8 5 = true → btn8 c8 false false = 0 ∧ dn8 c8 false false = false := by
    decide +kernel
  rw [buttonsOf_sgrEvent, buttondn_sgrState, hst]
  exact hall (bits b) (bits_lt b) hmotion

/-- motion while a button is held keeps that button (codes 32..34 plus modifiers) and the register stays set -/
theorem drag_keeps_button (cfg : Cfg) (st : PState) (hst : st.buttondn = true) (b x y : Int)
    (hmotion : bit (bits b) 5 = true) (h6 : bit (bits b) 6 = false) :
    buttonsOf (sgrEvent cfg st b x y 77) = buttonOf (bits b % 4) ∧ (sgrState st b 77).buttondn = true := by
  have hall : ∀ c8, c8 < 256 → bit c8 5 = true → bit c8 6 = false →
      btn8 c8 true false = buttonOf (c8 % 4) ∧ dn8 c8 true false = true := by decide +kernel
  rw [buttonsOf_sgrEvent, buttondn_sgrState, hst]
  exact hall (bits b) (bits_lt b) hmotion h6

/-- a wheel-left / wheel-right report (xterm codes 66/67 with any modifier bits, in any press state) is never reported
as wheel-up, wheel-down or a primary/middle/secondary button: the event carries no button at all -/
theorem hwheel_not_a_button (cfg : Cfg) (st : PState) (b x y : Int) (hw : hwheel (bits b) = true) :
    buttonsOf (sgrEvent cfg st b x y 77) = 0 ∧ ∀ m ∈ forbidden (bits b), buttonsOf (sgrEvent cfg st b x y 77) ≠ m := by
  have hall : ∀ dn : Bool, ∀ c8, c8 < 256 → hwheel c8 = true → btn8 c8 dn false = 0 := by decide +kernel
  have h0 : buttonsOf (sgrEvent cfg st b x y 77) = 0 := by
    rw [buttonsOf_sgrEvent]; exact hall st.buttondn (bits b) (bits_lt b) hw
  refine ⟨h0, fun m hm => ?_⟩
  rw [h0]
  simp only [forbidden, hw, if_true] at hm
  simp [button1, button2, button3, wheelUp, wheelDown] at hm
  omega

example : hwheel (bits 66) = true ∧ hwheel (bits (67 + 16)) = true ∧ hwheel (bits 64) = false ∧ hwheel (bits 2) = false := by decide
example : buttonsOf (sgrEvent exCfg {} 66 10 5 77) = 0 := by decide

theorem outs_append (cfg : Cfg) : ∀ (rs ss : List MRep) (st : PState),
    outs cfg st (rs ++ ss) = ((outs cfg st rs).1 ++ (outs cfg (outs cfg st rs).2 ss).1, (outs cfg (outs cfg st rs).2 ss).2) := by
  intro rs
  induction rs with
  | nil => intro ss st; simp [outs]
  | cons r rs ih => intro ss st; simp [outs, ih]

/-- **Every press is eventually followed by a buttonless event when a release arrives**: after any history of
reports (presses, drags, wheels, in any state), a release report yields a last event without buttons and leaves the
register clear, so the next motion is buttonless again. -/
theorem press_then_release_ends_buttonless (cfg : Cfg) (rs : List MRep) (st : PState) (intro : Bytes) (b x y : Int) :
    let o := outs cfg st (rs ++ [.sgr intro b x y 109])
    (o.1.getLast?.map buttonsOf = some 0) ∧ o.2.buttondn = false := by
  have hr := release_buttonless cfg (outs cfg st rs).2 b x y
  simp only [outs_append, outs, MRep.out]
  refine ⟨?_, hr.2⟩
  simp [hr.1]

end Tcell.Props.C12
