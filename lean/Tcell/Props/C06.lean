import Tcell.Lemmas.Pipeline
/-
C06 — Fini and Suspend always return; the screen is inert afterwards.   PARTIAL: theorems about the transition-system
model `Tcell.Model.Pipeline` (tied to the code by trace inclusion, engine `pipe`); the Go scheduler, timers and real tty
drivers are not modelled.

The property quantifies over all interleavings, all queue fill levels, read errors anywhere and repeated
Suspend/Resume cycles: every theorem below is about every *reachable* state (any label list from the initial state, any
capacities `Cfg.eqCap/kcCap/chCap`, any parser `P`, any injected chunks and faults).

* The PINNED tree (`Cfg.fixed = false`) does not satisfy the property: `pinned_suspend_stuck`, `pinned_fini_stuck` and
  `pinned_suspend_stuck_on_error` are concrete reachable states in which Suspend/Fini waits at `wg.Wait()` and no goroutine
  of the library can move (the engine reproduces them on the real code: findings hang:suspend:scanInput.select,
  hang:fini:inputLoop.chan-send, hang:suspend:inputLoop.select).  `no_stuck_pinned_partial` says these are the only ways.
* The REPAIRED variant (`fixed = true`, fixes/C06-shutdown-selects-stopq.patch) satisfies it: `no_stuck_after_shutdown`
  + `rank_decreases` / `bounded_termination`.
Environment assumptions are explicit: the tty contract "Drain wakes a blocked Read" is the label `inReadEmpty` being
enabled once `draining` is set; fairness = an enabled internal step is eventually taken, and a `select` with a closed
stopQ case eventually takes it (`selectFair`).
-/
namespace Tcell.Props.C06
open Tcell Tcell.Model.Pipeline

variable {Ev PSt : Type}

/-- a live input loop that cannot move: only possible on the pinned tree -/
def inBlocked (c : Cfg) (s : State Ev PSt) : Prop :=
  c.fixed = false ∧
  ((∃ ch, s.inPc = .hold ch ∧ full c.kcCap s.keychan = true) ∨
   (s.inPc = .errSend ∧ full c.eqCap s.eventQ = true ∧ s.quit = false))

/-- a live main loop that cannot move: only possible on the pinned tree -/
def mainBlocked (c : Cfg) (s : State Ev PSt) : Prop :=
  c.fixed = false ∧ (∃ e r a, s.mainPc = .scan (e :: r) a) ∧ full c.eqCap s.eventQ = true ∧ s.quit = false

theorem in_moves (P : Parser Ev PSt) (c : Cfg) (s : State Ev PSt)
    (hstop : s.stop = true) (hdr : s.draining = true) (halive : s.inPc ≠ .idle) (hnb : ¬ inBlocked c s) :
    ∃ l, l.internal = true ∧ enabled P c s l = true := by
  cases hpc : s.inPc with
  | idle => exact absurd hpc halive
  | top => exact ⟨.inStop, rfl, (Step.inStop hpc hstop).enabled⟩
  | reading =>
    cases hcl : s.closed with
    | true => exact ⟨.inReadErr, rfl, (Step.inReadErr hpc (by simp [hcl])).enabled⟩
    | false =>
      cases hfa : s.fault with
      | true => exact ⟨.inReadErr, rfl, (Step.inReadErr hpc (by simp [hfa])).enabled⟩
      | false =>
        cases hu : s.unread with
        | nil => exact ⟨.inReadEmpty, rfl, (Step.inReadEmpty hpc hcl hfa hu (by simp [hdr])).enabled⟩
        | cons ch rest => exact ⟨.inReadChunk, rfl, (Step.inReadChunk hpc hu hcl hfa).enabled⟩
  | errChk =>
    cases hrun : s.running with
    | true => exact ⟨.inErr, rfl, (Step.inErr hpc hrun).enabled⟩
    | false => exact ⟨.inErr, rfl, (Step.inErrExit hpc hrun).enabled⟩
  | errSend =>
    cases hfull : full c.eqCap s.eventQ with
    | false => exact ⟨.inErrSent, rfl, (Step.inErrSent hpc hfull).enabled⟩
    | true =>
      cases hq : s.quit with
      | true => exact ⟨.inErrQuit, rfl, (Step.inErrQuit hpc hq).enabled⟩
      | false =>
        cases hfx : c.fixed with
        | true => exact ⟨.inErrStop, rfl, (Step.inErrStop hpc hfx hstop).enabled⟩
        | false => exact absurd ⟨hfx, .inr ⟨hpc, hfull, hq⟩⟩ hnb
  | hold ch =>
    cases hfull : full c.kcCap s.keychan with
    | false => exact ⟨.inSent, rfl, (Step.inSent hpc hfull).enabled⟩
    | true =>
      cases hfx : c.fixed with
      | true => exact ⟨.inSendStop, rfl, (Step.inSendStop hpc hfx hstop).enabled⟩
      | false => exact absurd ⟨hfx, .inl ⟨ch, hpc, hfull⟩⟩ hnb
  | exiting => exact ⟨.inExit, rfl, (Step.inExit hpc).enabled⟩

theorem main_moves (P : Parser Ev PSt) (c : Cfg) (s : State Ev PSt)
    (hstop : s.stop = true) (halive : s.mainPc ≠ .idle) (hnb : ¬ mainBlocked c s) :
    ∃ l, l.internal = true ∧ enabled P c s l = true := by
  cases hpc : s.mainPc with
  | idle => exact absurd hpc halive
  | sel => exact ⟨.mainStop, rfl, (Step.mainStop hpc hstop).enabled⟩
  | timerCase => exact ⟨.timerEnd, rfl, (Step.timerEnd hpc).enabled⟩
  | resizing => exact ⟨.mainResizeEnd, rfl, (Step.mainResizeEnd hpc).enabled⟩
  | exiting => exact ⟨.mainExit, rfl, (Step.mainExit hpc).enabled⟩
  | scan p a =>
    cases p with
    | nil =>
      cases a with
      | chunk => exact ⟨.chunkEnd, rfl, (Step.chunkEnd hpc).enabled⟩
      | timer => exact ⟨.timerEnd, rfl, (Step.timerEndScan hpc).enabled⟩
    | cons e r =>
      cases hfull : full c.eqCap s.eventQ with
      | false => exact ⟨.scanSent, rfl, (Step.scanSent hpc hfull).enabled⟩
      | true =>
        cases hq : s.quit with
        | true => exact ⟨.scanQuit, rfl, (Step.scanQuit hpc hq).enabled⟩
        | false =>
          cases hfx : c.fixed with
          | true => exact ⟨.scanStop, rfl, (Step.scanStop hpc hfx hstop).enabled⟩
          | false => exact absurd ⟨hfx, ⟨e, r, a, hpc⟩, hfull, hq⟩ hnb

/-- **Pinned tree, what does hold (`_partial`).**  On the code as it is, a shutdown call in progress can always make a step
*provided* no live loop sits in one of the two unguarded sends with its queue full (`inBlocked`, `mainBlocked`): i.e. as
long as the application keeps polling (eventQ not full, or Fini's `quit` closed) and keychan has room. -/
theorem no_stuck_pinned_partial (P : Parser Ev PSt) (c : Cfg) (pst0 : PSt) (s : State Ev PSt)
    (hr : Reachable P c pst0 s) (hsd : shutdownInProgress s = true)
    (hin : ¬ inBlocked c s) (hmain : ¬ mainBlocked c s) :
    ∃ l, l.internal = true ∧ enabled P c s l = true := by
  have inv := (reachable_inv6 P c pst0 s hr).1
  cases hc : s.callPc with
  | idle => simp [shutdownInProgress, hc] at hsd
  | finStart => exact ⟨.finClosed, rfl, (Step.finClosed hc).enabled⟩
  | dis f =>
    cases hrun : s.running with
    | true => exact ⟨.disStopped, rfl, (Step.disStopped hc hrun).enabled⟩
    | false => exact ⟨.disIdle, rfl, (Step.disIdle hc hrun).enabled⟩
  | ret f => exact ⟨.callRet, rfl, (Step.callRet hc).enabled⟩
  | wait f =>
    obtain ⟨hstop, hdr, _⟩ := inv.waiting f hc
    by_cases hi : s.inPc = .idle
    · by_cases hm : s.mainPc = .idle
      · have hwg : s.wg = 0 := by rw [inv.wg]; simp [inAlive, mainAlive, hi, hm]
        exact ⟨.disJoined, rfl, (Step.disJoined hc hwg).enabled⟩
      · exact main_moves P c s hstop hm hmain
    · exact in_moves P c s hstop hdr hi hin

/-- **`no_stuck_after_shutdown` (repaired variant).**  For all capacities and fill levels, all injected chunks and read
errors, every interleaving: a reachable state in which Fini or Suspend has been called and has not returned has an
enabled internal step. -/
theorem no_stuck_after_shutdown (P : Parser Ev PSt) (c : Cfg) (pst0 : PSt) (s : State Ev PSt) (hfix : c.fixed = true)
    (hr : Reachable P c pst0 s) (hsd : shutdownInProgress s = true) :
    ∃ l, l.internal = true ∧ enabled P c s l = true :=
  no_stuck_pinned_partial P c pst0 s hr hsd (fun h => absurd h.1 (by simp [hfix]))
    (fun h => absurd h.1 (by simp [hfix]))

/-! ### the refutation on the pinned tree: concrete reachable stuck states -/

/-- one byte = one event, no state: the smallest parser (it satisfies the chunk law) -/
def byteParser : Parser Nat Unit := { collect := fun st b _ => (b, st, []) }

def allInternal : List Label :=
  [.inStop, .inToRead, .inReadErr, .inReadChunk, .inReadEmpty, .inErr, .inErrSent, .inErrQuit, .inErrStop, .inSent,
   .inSendStop, .inExit, .mainStop, .mainQuit, .mainResize, .mainResizeEnd, .mainTimer, .timerScan, .timerEnd,
   .mainChunk, .scanSent, .scanQuit, .scanStop, .chunkEnd, .mainExit, .finClosed, .disIdle, .disStopped, .disJoined,
   .callRet]

theorem allInternal_complete (l : Label) (h : l.internal = true) : l ∈ allInternal := by
  cases l <;> first | (cases h; done) | decide

/-- a shutdown call is waiting and no internal label is enabled -/
def stuck (P : Parser Ev PSt) (c : Cfg) (s : State Ev PSt) : Bool :=
  shutdownInProgress s && allInternal.all (fun l => !enabled P c s l)

def pinned1 : Cfg := { eqCap := 1, kcCap := 1, fixed := false }

/-- Suspend with a full event queue and nobody polling: scanInput waits on `eventQ <- ev | quit`, Suspend closes only stopQ -/
def suspendWitness : List Label :=
  [.callInit, .inject [1], .inject [2], .inToRead, .inReadChunk, .inSent, .mainChunk, .scanSent, .chunkEnd,
   .inToRead, .inReadChunk, .inSent, .mainChunk,             -- mainLoop now holds event 2, eventQ = [1] is full
   .callSuspend, .disStopped, .inStop, .inExit]

theorem pinned_suspend_stuck :
    ((run byteParser pinned1 (init ()) suspendWitness).map (stuck byteParser pinned1)) = some true := by decide

/-- Fini while inputLoop holds a chunk, keychan is full and mainLoop has already left through `quit` -/
def finiWitness : List Label :=
  [.callInit, .inject [1], .inject [2], .inject [3], .inject [4],
   .inToRead, .inReadChunk, .inSent, .mainChunk, .scanSent, .chunkEnd,
   .inToRead, .inReadChunk, .inSent, .mainChunk,             -- pending event 2, eventQ full
   .inToRead, .inReadChunk, .inSent,                          -- keychan = [[3]] full
   .inToRead, .inReadChunk,                                   -- inputLoop holds [4]
   .callFini, .finClosed, .disStopped, .scanQuit, .chunkEnd, .mainQuit, .mainExit]

theorem pinned_fini_stuck :
    ((run byteParser pinned1 (init ()) finiWitness).map (stuck byteParser pinned1)) = some true := by decide

/-- Suspend after a read error with a full event queue: inputLoop waits on `eventQ <- EventError | quit` -/
def suspendErrWitness : List Label :=
  [.callInit, .inject [1], .inToRead, .inReadChunk, .inSent, .mainChunk, .scanSent, .chunkEnd,
   .setFault, .inToRead, .inReadErr, .inErr, .callSuspend, .disStopped, .mainStop, .mainExit]

theorem pinned_suspend_stuck_on_error :
    ((run byteParser pinned1 (init ()) suspendErrWitness).map (stuck byteParser pinned1)) = some true := by decide

/-- the same three label lists on the repaired variant do not end stuck -/
theorem repaired_not_stuck_on_witnesses :
    let c : Cfg := { pinned1 with fixed := true }
    (run byteParser c (init ()) suspendWitness).map (stuck byteParser c) = some false ∧
    (run byteParser c (init ()) finiWitness).map (stuck byteParser c) = some false ∧
    (run byteParser c (init ()) suspendErrWitness).map (stuck byteParser c) = some false := by decide

/-- `stuck` really means: no internal label at all is enabled -/
theorem stuck_sound (P : Parser Ev PSt) (c : Cfg) (s : State Ev PSt) (h : stuck P c s = true) :
    shutdownInProgress s = true ∧ ∀ l, l.internal = true → enabled P c s l = false := by
  simp only [stuck, Bool.and_eq_true, List.all_eq_true] at h
  refine ⟨h.1, fun l hl => ?_⟩
  have := h.2 l (allInternal_complete l hl)
  simpa using this

/-! ### bounded termination: a ranking function -/

def inRank : InPc → Nat
  | .idle => 0 | .exiting => 1 | .top => 2 | .errSend => 2 | .hold _ => 3 | .errChk => 3 | .reading => 4

def mainRank (P : Parser Ev PSt) (s : State Ev PSt) : Nat :=
  match s.mainPc with
  | .idle => 0 | .exiting => 1 | .sel => 2 | .resizing => 3
  | .scan p _ => 3 + p.length
  | .timerCase => 4 + (P.collect s.pst s.buf true).1.length

def callRank : CallPc → Nat
  | .idle => 0 | .ret _ => 1 | .wait _ => 2 | .dis _ => 3 | .finStart => 4

/-- number of internal steps still possible once stopQ is closed -/
def rank (P : Parser Ev PSt) (s : State Ev PSt) : Nat := inRank s.inPc + mainRank P s + callRank s.callPc

/-- fairness of `select` (assumption about the Go runtime): with stopQ closed, mainLoop's select does not keep preferring
its other ready cases for ever; the ranking argument counts only the steps that are not such picks -/
def selectFair : Label → Bool
  | .mainChunk | .mainTimer | .mainResize => false
  | _ => true

/-- **Ranking.**  Once stopQ is closed (from `disStopped` until the next engage), every internal step other than an unfair
select pick strictly decreases `rank` — whatever the capacities, fill levels, parser and variant. -/
theorem rank_decreases (P : Parser Ev PSt) (c : Cfg) (s s' : State Ev PSt) (l : Label)
    (hstop : s.stop = true) (hint : l.internal = true) (hfair : selectFair l = true)
    (h : step P c s l = some s') : rank P s' < rank P s ∧ s'.stop = true := by
  cases Step.of_step h with
  | inToRead _ hns => simp [hstop] at hns
  | inStop hpc | inReadErr hpc | inReadChunk hpc | inReadEmpty hpc | inErr hpc | inErrExit hpc | inErrSent hpc
  | inErrQuit hpc | inErrStop hpc | inSent hpc | inSendStop hpc | inExit hpc =>
    exact ⟨by simp [rank, inRank, mainRank, hpc], hstop⟩
  | mainStop hpc | mainQuit hpc | mainResizeEnd hpc | timerScan hpc | timerEnd hpc | timerEndScan hpc | scanSent hpc
  | scanQuit hpc | scanStop hpc | chunkEnd hpc | mainExit hpc =>
    exact ⟨by simp [rank, mainRank, hpc] <;> omega, hstop⟩
  | finClosed hpc | disIdle hpc | disJoined hpc | callRet hpc => exact ⟨by simp [rank, mainRank, callRank, hpc], hstop⟩
  | disStopped hpc => exact ⟨by simp [rank, mainRank, callRank, hpc], rfl⟩
  | mainResize | mainTimer | mainChunk => cases hfair
  | _ => cases hint

/-- **Bounded termination.**  From any state with stopQ closed, a run of internal, select-fair steps has at most `rank`
steps.  With `no_stuck_after_shutdown` (some internal step is enabled until the call has returned) and a scheduler that is
fair to enabled goroutines, Fini/Suspend therefore return within `rank P s` further steps of the library. -/
theorem bounded_termination (P : Parser Ev PSt) (c : Cfg) (ls : List Label) :
    ∀ (s s' : State Ev PSt), s.stop = true → (∀ l ∈ ls, l.internal = true ∧ selectFair l = true) →
      run P c s ls = some s' → ls.length + rank P s' ≤ rank P s := by
  induction ls with
  | nil => intro s s' _ _ h; cases h; simp
  | cons l ls ih =>
    intro s s' hstop hall h
    obtain ⟨s1, hs, h⟩ := run_cons.mp h
    have hl := hall l (List.mem_cons_self ..)
    have hd := rank_decreases P c s s1 l hstop hl.1 hl.2 hs
    have := ih s1 s' hd.2 (fun l' hl' => hall l' (List.mem_cons_of_mem _ hl')) h
    simp only [List.length_cons]
    omega

/-! ### after Fini; after Suspend + Resume -/

/-- **`after_fini_inert`.**  At the moment Fini returns (the step `callRet` of a Fini call), in every reachable state: `quit`
is closed, so PollEvent returns nil without blocking (`pollNil` is enabled) and a ChannelEvents goroutine at either of its
selects can take the stop case (and then closes its channel); both loops have exited (`wg = 0`, both program counters
idle); the tty is closed; and a second Fini is a no-op (`callFini` leaves the state unchanged). -/
theorem after_fini_inert (P : Parser Ev PSt) (c : Cfg) (pst0 : PSt) (s s' : State Ev PSt)
    (hr : Reachable P c pst0 s) (hc : s.callPc = .ret true) (h : step P c s .callRet = some s') :
    s'.quit = true ∧ enabled P c s' .pollNil = true ∧
    s'.inPc = .idle ∧ s'.mainPc.isIdle = true ∧ s'.wg = 0 ∧ s'.closed = true ∧
    step P c s' .callFini = some s' ∧
    (s'.cePc.isSel = true → enabled P c s' .ceStop = true) ∧
    (∀ it, s'.cePc = .fwd it → enabled P c s' .ceFwdStop = true) ∧
    (s'.cePc.isClosing = true → enabled P c s' .ceClose = true) := by
  obtain ⟨inv, invb⟩ := reachable_inv6 P c pst0 s hr
  have hq := inv.fini (.inr (.inr hc))
  have hrun := invb.retq true hc
  have hnw : ∀ f, s.callPc ≠ .wait f := by simp [hc]
  obtain ⟨hi, hm⟩ := inv.idle hrun hnw
  have honce : s.finiOnce = true := by
    cases ho : s.finiOnce with
    | true => rfl
    | false => have := invb.once ho; simp [hc] at this
  simp only [step, hc, Option.some.injEq] at h
  subst h
  exact ⟨hq, Step.enabled (.pollNil hq), hi, by simp [hm], inv.quiet hrun hnw, by simp,
    Step.step_eq (.callFiniAgain rfl honce), fun h => Step.enabled (.ceStop (by simpa using h) hq),
    fun _ h => Step.enabled (.ceFwdStop h hq), fun h => Step.enabled (.ceClose (by simpa using h))⟩

theorem resume_engages (P : Parser Ev PSt) (c : Cfg) (pst0 : PSt) (s : State Ev PSt)
    (hr : Reachable P c pst0 s) (hc : s.callPc = .idle) (hrun : s.running = false) :
    step P c s .callResume = some (engage s) ∧ s.wg = 0 := by
  have inv := (reachable_inv6 P c pst0 s hr).1
  have hnw : ∀ f, s.callPc ≠ .wait f := by simp [hc]
  obtain ⟨hi, hm⟩ := inv.idle hrun hnw
  exact ⟨(Step.callResume hc hrun hi hm).step_eq, inv.quiet hrun hnw⟩

/-- **`resume_restarts_loops`.**  After a Suspend has returned (caller idle, not running) — in every reachable such state,
whatever was queued or parked before — Resume starts both loops afresh: new open stopQ, tty started and no longer
draining, input loop at the top of its loop, main loop at its select with an empty buffer, WaitGroup = 2.  From there a
chunk injected into the tty travels to mainLoop by enabled steps as soon as keychan has room. -/
theorem resume_restarts_loops (P : Parser Ev PSt) (c : Cfg) (pst0 : PSt) (s : State Ev PSt)
    (hr : Reachable P c pst0 s) (hc : s.callPc = .idle) (hrun : s.running = false) :
    ∃ s', step P c s .callResume = some s' ∧ s'.running = true ∧ s'.stop = false ∧ s'.draining = false ∧
      s'.ttyStopped = false ∧ s'.inPc = .top ∧ s'.mainPc.isSel = true ∧ s'.buf = [] ∧ s'.wg = 2 ∧
      s'.keychan = s.keychan ∧ s'.eventQ = s.eventQ ∧ enabled P c s' .inToRead = true := by
  obtain ⟨h, hwg⟩ := resume_engages P c pst0 s hr hc hrun
  exact ⟨engage s, h, rfl, rfl, rfl, rfl, rfl, rfl, rfl, by simp [engage, hwg], rfl, rfl, (Step.inToRead rfl rfl).enabled⟩

/-- hypotheses of the theorems above are satisfiable: a Suspend/Resume/Fini life cycle on the repaired variant runs to
completion, ends inert, and the intermediate state after Suspend is one `resume_restarts_loops` applies to -/
example :
    let c : Cfg := { eqCap := 2, kcCap := 1, fixed := true }
    (run byteParser c (init ()) [.callInit, .inject [7], .inToRead, .inReadChunk, .inSent, .mainChunk, .scanSent, .chunkEnd,
      .callSuspend, .disStopped, .inStop, .inExit, .mainStop, .mainExit, .disJoined, .callRet]).map
        (fun s => (s.callPc, s.running, s.wg)) = some (.idle, false, 0) ∧
    (run byteParser c (init ()) [.callInit, .callSuspend, .disStopped, .inStop, .inExit, .mainStop, .mainExit, .disJoined,
      .callRet, .callResume, .callFini, .finClosed, .disStopped, .inStop, .inExit, .mainQuit, .mainExit, .disJoined]).map
        (fun s => (s.callPc, s.quit)) = some (.ret true, true) := by decide
end Tcell.Props.C06
