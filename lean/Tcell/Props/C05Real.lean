import Tcell.Model.PipelineReal
import Tcell.Props.C05
import Tcell.Props.C02
import Tcell.Props.C11
/-
C05, connected to the REAL parser — no abstract hypothesis left.

`Tcell.Props.C05` proves conservation for the pipeline transition system with an abstract parser that obeys `ChunkLaw`.
`Tcell.Props.C02` proves that law for the real parser model under the decidable `Stable`, and `Stable` for the key table of
EVERY built-in terminal description (`db_stable`).  `Tcell.Props.C11` proves `stream_delivery` for the real parser model.
This file puts the three together for `Tcell.Model.Pipeline.realParser` — the very instance the trace replay of engine `pipe`
runs the real screen's schedule points against (`lean/Driver/Pipe.lean`): exactly-once without timer expiry
(`pipeline_exactly_once`), `lossy` implied by a condition on the history (`lossless_before_shutdown`), exactly-once with the
escape timer (`pipeline_exactly_once_expire`), text through the whole pipeline (`text_through_pipeline`), and the boundary
situations of engine `pipe` (kinds 5, 6) in the model; each also for every built-in terminal description (`db_…`).

The escape timer.  `opsOf` is the actual sequence of decode steps of a run (`chunk c` = `mainChunk` took `c` out of keychan,
`expire` = `timerScan`), `decodeOps` what the pipeline computes over it, `flushDecode` the specification: bytes accumulate; an
expiry decodes everything accumulated in ONE read with the timeout flag and, by `C02.expire_drains`, leaves nothing; the open
stretch at the end is ONE read without the flag.  `run_decode` (any parser) ties a run to `decodeOps`, `decodeOps_eq_flush`
(real parser, `Stable`) ties `decodeOps` to `flushDecode`: chunking inside a stretch between two expiries is irrelevant, only
the positions of the expiries matter.

How the nondeterministic label `timerScan` (the 50 ms escape timer fired and `time.Now().After(t.keyexpire)`,
tscreen.go:1934-1946) enters.  The property says "with no escape timeout expiring in between" for chunk independence:
that is the hypothesis `∀ l ∈ ls, l ≠ .timerScan` of `pipeline_exactly_once` / `text_through_pipeline`, and it cannot be
dropped (`expire_changes_decoding`: ESC, expiry, `[A` gives Esc,`[`,`A`; without the expiry it is the Up key).  Exactly-once
needs no such condition: `pipeline_exactly_once_expire` holds for EVERY label list; its right-hand side is
`flushDecode` over the actual decode steps.  `timerScan` is only enabled while bytes are buffered
(`expire_needs_buffered`), i.e. only at a point where the stretch received so far does NOT decode completely; where it does,
an expiry would change nothing (`expire_harmless_when_drained`).

Quantification: every label list (interleavings of input arrival in any chunking, read faults, resize notifications, any
number of posts, polls at arbitrary moments or never, Suspend/Resume/Fini), every `Pipeline.Cfg` (capacities, shutdown
variant), every screen size and X11 variant of the parser configuration; no bound anywhere.  `s.lossy = false` = nothing was
discarded by a shutdown (`C05.lossy_only_after_shutdown`, `lossless_before_shutdown`).
Still PARTIAL in the sense of `Tcell.Props.C05`: statements about the model; Go scheduler, wall clock and tty drivers are
not modelled; the tie to the code is the sampled trace inclusion of engine `pipe` plus the `parsechunk`/`text` engines
for the parser.
-/
namespace Tcell.Props.C05Real
open Tcell Tcell.Model Tcell.Model.Pipeline Tcell.Props.C05 Tcell.Lemmas.Chunk

abbrev PCfg := Tcell.Model.Pipeline.Cfg
abbrev RState := State Event PState

/-- **`realParser_chunkLaw`.**  The real parser model obeys the chunk law that `Tcell.Props.C05` assumes, for every
configuration satisfying the decidable `Stable` (prefix-free key table, table guard, decoder laws, repaired clipboard
parser where active).  `nil` is `C02.collect_total`, `append` is `C02.collect_append` with no timeout on the second read. -/
theorem realParser_chunkLaw (cfg : Model.Cfg) (hs : Stable cfg) : ChunkLaw (realParser cfg) where
  nil := fun _ => rfl
  append := fun st a b => by
    simp only [realParser_collect]
    rw [C02.collect_append cfg hs st a b false]

/-- the chunk law for the screen of every built-in terminal description, at any size, either X11 variant -/
theorem db_chunkLaw : ∀ p ∈ Gen.dbTables, ∀ (w h : Int) (x11 : Bool), ChunkLaw (realParser (C02.dbCfgAt p w h x11)) :=
  fun p hp w h x11 => realParser_chunkLaw _ (C02.db_stable_at p hp w h x11)

variable {Ev PSt : Type}

/-- the single consumer: a PollEvent loop (no `ceEv` step) or one ChannelEvents reader (no `pollEv` step) -/
def SingleConsumer (ls : List Label) : Prop := (∀ l ∈ ls, l ≠ .ceEv) ∨ (∀ l ∈ ls, l ≠ .pollEv)

/-- everything decoded so far is with the application, in ChannelEvents' hands, in the event queue, or still pending in
`scanInput` — in this order, nothing twice, nothing missing (any parser) -/
theorem keys_conserved (P : Parser Ev PSt) (c : PCfg) (pst0 : PSt) (ls : List Label) (s : State Ev PSt)
    (hcons : SingleConsumer ls) (hr : run P c (init pst0) ls = some s) (hl : s.lossy = false) :
    keysOf (s.delivered ++ s.ch ++ cePend s ++ s.eventQ) ++ pending s = s.decoded ∧
    s.received ++ s.keychan.flatten ++ held s ++ s.unread.flatten = s.allInput := by
  obtain ⟨hq, hk, hb⟩ : QueueInv s ∧ KeysInv s ∧ BytesInv s := by
    rcases hcons with h | h
    · have := pipeline_inv P c pst0 ls s h hr; exact ⟨this.1, this.2.1, this.2.2.1⟩
    · exact pipeline_inv_chan P c pst0 ls s h hr
  have hnl : ¬ s.lossy = true := by simp [hl]
  exact ⟨by rw [hq.resolve_right hnl, hk.resolve_right hnl], hb.resolve_right hnl⟩

/-- **`pipeline_exactly_once`** (any `Stable` parser configuration).  In every reachable state of the pipeline — any
capacities, any schedule, any polling pattern, the input injected in any chunking — in which no escape timeout has decoded
anything on its own and nothing was discarded by a shutdown:
the key events delivered to the application ++ those ChannelEvents holds ++ those still queued ++ those pending in
`scanInput` are EXACTLY the events `collectEventsFromInput` yields for ALL bytes mainLoop has received so far, in ONE read
(in order, exactly once); parser registers and buffered bytes are those of that one read; and every injected byte is
received, in keychan, held by inputLoop or unread (back-pressure, not loss). -/
theorem pipeline_exactly_once (cfg : Model.Cfg) (hs : Stable cfg) (c : PCfg) (pst0 : PState) (ls : List Label) (s : RState)
    (hcons : SingleConsumer ls) (hno : ∀ l ∈ ls, l ≠ .timerScan)
    (hr : run (realParser cfg) c (init pst0) ls = some s) (hl : s.lossy = false) :
    keysOf (s.delivered ++ s.ch ++ cePend s ++ s.eventQ) ++ pending s = (collect cfg pst0 s.received false).evs ∧
    s.pst = (collect cfg pst0 s.received false).st ∧ s.buf = (collect cfg pst0 s.received false).rest ∧
    s.received ++ s.keychan.flatten ++ held s ++ s.unread.flatten = s.allInput := by
  obtain ⟨hk, hb⟩ := keys_conserved (realParser cfg) c pst0 ls s hcons hr hl
  have hd := (decode_independent_of_chunking (realParser cfg) (realParser_chunkLaw cfg hs) c pst0 ls s hno hr).resolve_right
    (by simp [hl])
  simp only [realParser_collect, Prod.mk.injEq] at hd
  exact ⟨by rw [hk, hd.1], hd.2.1.symm, hd.2.2.symm, hb⟩

/-- **`db_pipeline_exactly_once`.**  `pipeline_exactly_once` for the screen of EVERY built-in terminal description (its
real key table, its active parsers, the tree's parser variants, UTF-8), any screen size, either X11 variant. -/
theorem db_pipeline_exactly_once : ∀ p ∈ Gen.dbTables, ∀ (w h : Int) (x11 : Bool) (c : PCfg) (pst0 : PState)
    (ls : List Label) (s : RState), SingleConsumer ls → (∀ l ∈ ls, l ≠ .timerScan) →
    run (realParser (C02.dbCfgAt p w h x11)) c (init pst0) ls = some s → s.lossy = false →
    keysOf (s.delivered ++ s.ch ++ cePend s ++ s.eventQ) ++ pending s
        = (collect (C02.dbCfgAt p w h x11) pst0 s.received false).evs ∧
    s.pst = (collect (C02.dbCfgAt p w h x11) pst0 s.received false).st ∧
    s.buf = (collect (C02.dbCfgAt p w h x11) pst0 s.received false).rest ∧
    s.received ++ s.keychan.flatten ++ held s ++ s.unread.flatten = s.allInput :=
  fun p hp w h x11 c pst0 ls s hcons hno hr hl =>
    pipeline_exactly_once _ (C02.db_stable_at p hp w h x11) c pst0 ls s hcons hno hr hl

/-! ### `lossy` needs a shutdown in the history -/

/-- the three ways an application starts discarding: Fini, Suspend, closing the quit channel it gave to ChannelEvents -/
def Label.shutdown : Label → Bool
  | .callFini | .callSuspend | .closeUserQuit => true
  | _ => false

/-- no shutdown has begun: nothing is closed, the life-cycle caller is idle; the screen either runs with an open stopQ, or
has no loops and an empty buffer -/
structure Quiet (s : State Ev PSt) : Prop where
  lossy : s.lossy = false
  quit : s.quit = false
  userQuit : s.userQuit = false
  call : s.callPc = .idle
  loops : s.running = true ∧ s.stop = false ∨ s.inPc = .idle ∧ s.mainPc = .idle ∧ s.buf = []

theorem quiet_init (pst0 : PSt) : Quiet (init pst0 : State Ev PSt) := by
  constructor <;> simp [init]

theorem step_quiet (P : Parser Ev PSt) (c : PCfg) (s : State Ev PSt) (l : Label) (s' : State Ev PSt)
    (hg : Label.shutdown l = false) (hi : Quiet s) (h : step P c s l = some s') : Quiet s' := by
  obtain ⟨h1, h2, h3, h4, h5⟩ := hi
  cases Step.of_step h with
  -- a live loop means the screen is running with an open stopQ
  | inStop hpc | inToRead hpc | inReadErr hpc | inReadChunk hpc | inReadEmpty hpc | inErr hpc | inErrExit hpc
  | inErrSent hpc | inErrQuit hpc | inErrStop hpc | inSent hpc | inExit hpc
  | mainStop hpc | mainQuit hpc | mainResize hpc | mainResizeEnd hpc | mainTimer hpc | timerScan hpc | timerEnd hpc
  | timerEndScan hpc | mainChunk hpc | scanSent hpc | chunkEnd hpc | mainExit hpc =>
    exact ⟨h1, h2, h3, h4, .inl (h5.resolve_right (by simp [hpc]))⟩
  | inSendStop hpc _ hstop | scanStop hpc _ hstop => simp [(h5.resolve_right (by simp [hpc])).2] at hstop
  | scanQuit _ hquit | ceFwdStop _ hquit => simp [h2] at hquit
  | ceFwdQuit _ huq => simp [h3] at huq
  | callInit _ hrun | callResume _ hrun =>
    exact ⟨by simp [engage, h1, (h5.resolve_left (by simp [hrun])).2.2], h2, h3, h4, .inl ⟨rfl, rfl⟩⟩
  | finClosed hpc | disIdle hpc | disStopped hpc | disJoined hpc | callRet hpc => simp [h4] at hpc
  | callFini | callFiniAgain | callSuspend | closeUserQuit => cases hg
  | _ => exact ⟨h1, h2, h3, h4, h5⟩

/-- **`lossless_before_shutdown`.**  A run that contains no Fini, no Suspend and no closing of a ChannelEvents quit channel
never discards anything, whatever else happens (full queues, a consumer that never polls, read errors, resizes, posts): the
ghost flag `lossy` is false in its final state. -/
theorem lossless_before_shutdown (P : Parser Ev PSt) (c : PCfg) (pst0 : PSt) (ls : List Label) (s : State Ev PSt)
    (hns : ∀ l ∈ ls, Label.shutdown l = false) (hr : run P c (init pst0) ls = some s) : s.lossy = false :=
  (run_induction P c (fun l => Label.shutdown l = false) Quiet (fun s l s' hg hi h => step_quiet P c s l s' hg hi h)
    ls (init pst0) s (quiet_init pst0) hns hr).lossy

/-- `db_pipeline_exactly_once` with the condition on the history instead of the ghost flag: as long as the application
has not called Fini or Suspend (and has not closed the ChannelEvents quit channel), for every built-in terminal … -/
theorem db_pipeline_exactly_once_before_shutdown : ∀ p ∈ Gen.dbTables, ∀ (w h : Int) (x11 : Bool) (c : PCfg)
    (pst0 : PState) (ls : List Label) (s : RState), SingleConsumer ls → (∀ l ∈ ls, l ≠ .timerScan) →
    (∀ l ∈ ls, Label.shutdown l = false) →
    run (realParser (C02.dbCfgAt p w h x11)) c (init pst0) ls = some s →
    keysOf (s.delivered ++ s.ch ++ cePend s ++ s.eventQ) ++ pending s
        = (collect (C02.dbCfgAt p w h x11) pst0 s.received false).evs ∧
    s.received ++ s.keychan.flatten ++ held s ++ s.unread.flatten = s.allInput :=
  fun p hp w h x11 c pst0 ls s hcons hno hns hr =>
    have hl := lossless_before_shutdown _ c pst0 ls s hns hr
    have := db_pipeline_exactly_once p hp w h x11 c pst0 ls s hcons hno hr hl
    ⟨this.1, this.2.2.2⟩

/-! ### the escape timer: the actual sequence of decode steps -/

/-- one decode step of mainLoop: a chunk taken out of keychan (`buf.Write(chunk); scanInput(buf, false)`, tscreen.go:1948)
or an expired escape timer (`scanInput(buf, true)`, tscreen.go:1943) -/
inductive DecOp where
  | chunk (c : Bytes)
  | expire
deriving DecidableEq, Repr

/-- the decode step a label performs in state `s` (none for all labels but `mainChunk`, `timerScan`) -/
def opOf (s : State Ev PSt) : Label → List DecOp
  | .mainChunk => match s.keychan with
    | ch :: _ => [.chunk ch]
    | [] => []
  | .timerScan => [.expire]
  | _ => []

/-- the decode steps of a run, in order -/
def opsOf (P : Parser Ev PSt) (c : PCfg) : State Ev PSt → List Label → List DecOp
  | _, [] => []
  | s, l :: ls =>
    match step P c s l with
    | some s' => opOf s l ++ opsOf P c s' ls
    | none => []

/-- the bytes of the chunk steps -/
def chunkBytes : List DecOp → Bytes
  | [] => []
  | .chunk c :: r => c ++ chunkBytes r
  | .expire :: r => chunkBytes r

def hasExpire : List DecOp → Bool
  | [] => false
  | .chunk _ :: r => hasExpire r
  | .expire :: _ => true

/-- what mainLoop computes over a sequence of decode steps, from registers `st` and buffer `buf`: events, registers, buffer -/
def decodeOps (P : Parser Ev PSt) : PSt → Bytes → List DecOp → List Ev × PSt × Bytes
  | st, buf, [] => ([], st, buf)
  | st, buf, .chunk ch :: ops =>
    let r := P.collect st (buf ++ ch) false
    let t := decodeOps P r.2.1 r.2.2 ops
    (r.1 ++ t.1, t.2)
  | st, buf, .expire :: ops =>
    let r := P.collect st buf true
    let t := decodeOps P r.2.1 r.2.2 ops
    (r.1 ++ t.1, t.2)

theorem run_lossy_mono (P : Parser Ev PSt) (c : PCfg) (ls : List Label) (s0 s : State Ev PSt)
    (hr : run P c s0 ls = some s) (hl : s.lossy = false) : s0.lossy = false :=
  Bool.eq_false_iff.mpr fun h0 => Bool.eq_false_iff.mp hl <|
    run_induction P c (fun _ => True) (·.lossy = true) (fun _ _ _ _ hi h => step_lossy_mono h hi) ls s0 s h0
      (fun _ _ => trivial) hr

theorem step_decode (P : Parser Ev PSt) (c : PCfg) (s : State Ev PSt) (l : Label) (s' : State Ev PSt)
    (h : step P c s l = some s') (hl : s'.lossy = false) (ops : List DecOp) :
    (s'.decoded ++ (decodeOps P s'.pst s'.buf ops).1, (decodeOps P s'.pst s'.buf ops).2) =
      (s.decoded ++ (decodeOps P s.pst s.buf (opOf s l ++ ops)).1, (decodeOps P s.pst s.buf (opOf s l ++ ops)).2) ∧
    s'.received ++ chunkBytes ops = s.received ++ chunkBytes (opOf s l ++ ops) := by
  cases Step.of_step h with
  | mainChunk _ hkc => simp [opOf, hkc, decodeOps, chunkBytes]
  | timerScan => simp [opOf, decodeOps, chunkBytes]
  | callInit | callResume =>
    -- an engage empties the buffer, and counts as a discard unless it was empty already
    rw [(by simpa [engage] using hl : _ ∧ s.buf = []).2]
    exact ⟨rfl, rfl⟩
  | _ => exact ⟨rfl, rfl⟩

/-- **`run_decode`** (any parser).  Along every run in which nothing is discarded, the events decoded, the parser registers
and the buffered bytes are exactly `decodeOps` over the run's decode steps, and the bytes received are the bytes of its
chunk steps: `mainChunk` and `timerScan` are the only steps that decode, and this is all they do. -/
theorem run_decode (P : Parser Ev PSt) (c : PCfg) : ∀ (ls : List Label) (s0 s : State Ev PSt),
    run P c s0 ls = some s → s.lossy = false →
    (s.decoded, s.pst, s.buf) =
      (s0.decoded ++ (decodeOps P s0.pst s0.buf (opsOf P c s0 ls)).1, (decodeOps P s0.pst s0.buf (opsOf P c s0 ls)).2) ∧
    s.received = s0.received ++ chunkBytes (opsOf P c s0 ls) := by
  intro ls
  induction ls with
  | nil => intro s0 s hr _; cases hr; simp [opsOf, decodeOps, chunkBytes]
  | cons l ls ih =>
    intro s0 s hr hl
    obtain ⟨s1, h, hr⟩ := run_cons.mp hr
    obtain ⟨h1, h1r⟩ := step_decode P c s0 l s1 h (run_lossy_mono P c ls s1 s hr hl) (opsOf P c s1 ls)
    obtain ⟨h2, h2r⟩ := ih s1 s hr hl
    simp only [opsOf, h]
    exact ⟨h2.trans h1, h2r.trans h1r⟩

/-- the specification of the escape timer.  `acc` = the bytes received since the last expiry (or since the start).  A chunk
only accumulates; an expiry decodes everything accumulated in ONE read with the timeout flag and starts afresh (nothing is
left, `C02.expire_drains`); at the end the open stretch is decoded in ONE read without the flag. -/
def flushDecode (cfg : Model.Cfg) : PState → Bytes → List DecOp → List Event × PState × Bytes
  | st, acc, [] => ((collect cfg st acc false).evs, (collect cfg st acc false).st, (collect cfg st acc false).rest)
  | st, acc, .chunk ch :: ops => flushDecode cfg st (acc ++ ch) ops
  | st, acc, .expire :: ops =>
    let t := flushDecode cfg (collect cfg st acc true).st [] ops
    ((collect cfg st acc true).evs ++ t.1, t.2)

/-- **`decodeOps_eq_flush`** (real parser, `Stable`).  What mainLoop computes chunk by chunk equals the specification: however
the bytes between two expiries of the escape timer were split into reads, they are decoded as one read.  General form: start
from the result of having read `acc` from registers `st0`. -/
theorem decodeOps_eq_flush (cfg : Model.Cfg) (hs : Stable cfg) : ∀ (ops : List DecOp) (st0 : PState) (acc : Bytes),
    ((collect cfg st0 acc false).evs ++
        (decodeOps (realParser cfg) (collect cfg st0 acc false).st (collect cfg st0 acc false).rest ops).1,
      (decodeOps (realParser cfg) (collect cfg st0 acc false).st (collect cfg st0 acc false).rest ops).2)
    = flushDecode cfg st0 acc ops := by
  intro ops
  induction ops with
  | nil => intro st0 acc; simp [decodeOps, flushDecode]
  | cons o ops ih =>
    intro st0 acc
    cases o with
    | chunk ch =>
      simp only [decodeOps, flushDecode, realParser_collect, ← ih st0 (acc ++ ch), C02.collect_append cfg hs st0 acc ch false,
        List.append_assoc]
    | expire =>
      have ha := C02.collect_append cfg hs st0 acc [] true
      have := ih (collect cfg st0 acc true).st []
      simp only [List.append_nil, C02.collect_total, List.nil_append] at ha this
      simp only [decodeOps, flushDecode, realParser_collect, ← this]
      simp only [ha, C02.expire_drains' cfg hs, List.append_assoc]

theorem decodeOps_eq_flush0 (cfg : Model.Cfg) (hs : Stable cfg) (ops : List DecOp) (st0 : PState) :
    decodeOps (realParser cfg) st0 [] ops = flushDecode cfg st0 [] ops := by
  have := decodeOps_eq_flush cfg hs ops st0 []
  simpa [C02.collect_total] using this

/-- without an expiry the specification is ONE read of all the bytes -/
theorem flush_no_expire (cfg : Model.Cfg) : ∀ (ops : List DecOp) (st : PState) (acc : Bytes), hasExpire ops = false →
    flushDecode cfg st acc ops =
      ((collect cfg st (acc ++ chunkBytes ops) false).evs, (collect cfg st (acc ++ chunkBytes ops) false).st,
       (collect cfg st (acc ++ chunkBytes ops) false).rest) := by
  intro ops
  induction ops with
  | nil => intro st acc _; simp [flushDecode, chunkBytes]
  | cons o ops ih =>
    intro st acc h
    cases o with
    | chunk ch => simp only [hasExpire] at h; simp [flushDecode, chunkBytes, ih st (acc ++ ch) h, List.append_assoc]
    | expire => simp [hasExpire] at h

/-- the escape timer decodes only while bytes are buffered (`if buf.Len() > 0`, tscreen.go:1938): an `expire` step happens
only where the stretch received so far does not decode completely -/
theorem expire_needs_buffered (P : Parser Ev PSt) (c : PCfg) (s s' : State Ev PSt) (h : step P c s .timerScan = some s') :
    s.buf ≠ [] := by
  simp only [step, Model.Pipeline.guard_eq_some, Bool.and_eq_true] at h
  intro hb
  simp [hb] at h

/-- where the stretch does decode completely, an expiry changes nothing: one read with the timeout flag = one read without -/
theorem expire_harmless_when_drained (cfg : Model.Cfg) (hs : Stable cfg) (st : PState) (a : Bytes)
    (h : (collect cfg st a false).rest = []) :
    (collect cfg st a true).evs = (collect cfg st a false).evs ∧ (collect cfg st a true).st = (collect cfg st a false).st ∧
    (collect cfg st a true).rest = [] := by
  have ha := C02.collect_append cfg hs st a [] true
  simp only [List.append_nil, h] at ha
  rw [ha]
  simp [C02.collect_total]

/-- **`pipeline_exactly_once_expire`** — exactly-once, UNCONDITIONAL in the escape timer.  For EVERY label list (expiries
of the escape timer anywhere, any number of them): as long as nothing was discarded by a shutdown, the key events delivered
++ forwarded ++ queued ++ pending are exactly the events of `flushDecode` over the run's actual decode steps — every byte
received is decoded exactly once, in order, the stretches between expiries as one read each; and the bytes of the chunk
steps are the bytes received. -/
theorem pipeline_exactly_once_expire (cfg : Model.Cfg) (hs : Stable cfg) (c : PCfg) (pst0 : PState) (ls : List Label)
    (s : RState) (hcons : SingleConsumer ls) (hr : run (realParser cfg) c (init pst0) ls = some s) (hl : s.lossy = false) :
    keysOf (s.delivered ++ s.ch ++ cePend s ++ s.eventQ) ++ pending s
        = (flushDecode cfg pst0 [] (opsOf (realParser cfg) c (init pst0) ls)).1 ∧
    (s.pst, s.buf) = (flushDecode cfg pst0 [] (opsOf (realParser cfg) c (init pst0) ls)).2 ∧
    chunkBytes (opsOf (realParser cfg) c (init pst0) ls) = s.received ∧
    s.received ++ s.keychan.flatten ++ held s ++ s.unread.flatten = s.allInput := by
  obtain ⟨hk, hb⟩ := keys_conserved (realParser cfg) c pst0 ls s hcons hr hl
  obtain ⟨hd, hrc⟩ := run_decode (realParser cfg) c ls (init pst0) s hr hl
  rw [← decodeOps_eq_flush0 cfg hs]
  exact ⟨hk.trans (Prod.mk.inj hd).1, (Prod.mk.inj hd).2, hrc.symm, hb⟩

/-- **`db_pipeline_exactly_once_expire`.**  The unconditional statement for every built-in terminal description. -/
theorem db_pipeline_exactly_once_expire : ∀ p ∈ Gen.dbTables, ∀ (w h : Int) (x11 : Bool) (c : PCfg) (pst0 : PState)
    (ls : List Label) (s : RState), SingleConsumer ls →
    run (realParser (C02.dbCfgAt p w h x11)) c (init pst0) ls = some s → s.lossy = false →
    keysOf (s.delivered ++ s.ch ++ cePend s ++ s.eventQ) ++ pending s
        = (flushDecode (C02.dbCfgAt p w h x11) pst0 [] (opsOf (realParser (C02.dbCfgAt p w h x11)) c (init pst0) ls)).1 ∧
    chunkBytes (opsOf (realParser (C02.dbCfgAt p w h x11)) c (init pst0) ls) = s.received ∧
    s.received ++ s.keychan.flatten ++ held s ++ s.unread.flatten = s.allInput :=
  fun p hp w h x11 c pst0 ls s hcons hr hl =>
    have := pipeline_exactly_once_expire _ (C02.db_stable_at p hp w h x11) c pst0 ls s hcons hr hl
    ⟨this.1, this.2.2.1, this.2.2.2⟩

/-- the chunks injected into the tty by a label list, in order -/
def injected : List Label → List Bytes
  | [] => []
  | .inject ch :: ls => ch :: injected ls
  | _ :: ls => injected ls

theorem run_allInput (P : Parser Ev PSt) (c : PCfg) : ∀ (ls : List Label) (s0 s : State Ev PSt),
    run P c s0 ls = some s → s.allInput = s0.allInput ++ (injected ls).flatten := by
  intro ls
  induction ls with
  | nil => intro s0 s hr; cases hr; simp [injected]
  | cons l ls ih =>
    intro s0 s hr
    obtain ⟨s1, h1, h2⟩ := run_cons.mp hr
    rw [ih s1 s h2]
    cases Step.of_step h1 with
    | inject => simp [injected]
    | _ => rfl

/-- nothing is on its way any more: the tty is read empty, inputLoop holds no chunk, keychan and eventQ are empty, nothing
is pending in `scanInput`, nothing is in ChannelEvents' hands -/
def Drained (s : State Ev PSt) : Prop :=
  s.unread.flatten = [] ∧ held s = [] ∧ s.keychan.flatten = [] ∧ pending s = [] ∧ s.eventQ = [] ∧ s.ch = [] ∧ cePend s = []

/-- **`text_through_pipeline`** (any `Stable` configuration with a 7-bit-initial key table).  Let the terminal send any
sequence of characters, paste markers and focus reports (`C11.Item`, each admissible for the configuration), injected into the
tty in ARBITRARY chunks (`(injected ls).flatten` = the bytes of the items: splits inside multi-byte characters and inside
escape sequences included), under any schedule, capacities and polling pattern, with no escape timeout expiring in between
and no shutdown discard.  Once the pipeline is drained, the application has received exactly one event per item, in order
(and nothing else that is input), nothing is buffered, the parser registers are as at the start. -/
theorem text_through_pipeline (cfg : Model.Cfg) (hs : Stable cfg) (hk : keysAscii cfg.keys = true) (c : PCfg) (pst0 : PState)
    (hesc : pst0.escaped = false) (items : List C11.Item) (hok : ∀ i ∈ items, C11.ItemOk cfg i)
    (ls : List Label) (s : RState) (hcons : SingleConsumer ls) (hno : ∀ l ∈ ls, l ≠ .timerScan)
    (hinj : (injected ls).flatten = items.flatMap C11.Item.bytes)
    (hr : run (realParser cfg) c (init pst0) ls = some s) (hl : s.lossy = false) (hd : Drained s) :
    keysOf s.delivered = items.map C11.Item.event ∧ s.buf = [] ∧ s.pst = pst0 := by
  obtain ⟨he, hp, hb, hby⟩ := pipeline_exactly_once cfg hs c pst0 ls s hcons hno hr hl
  obtain ⟨d1, d2, d3, d4, d5, d6, d7⟩ := hd
  have hrecv : s.received = items.flatMap C11.Item.bytes := by
    simpa [d1, d2, d3, run_allInput (realParser cfg) c ls (init pst0) s hr, hinj, init] using hby
  have hsd := C11.stream_delivery cfg hk pst0 hesc items hok [s.received] (by simp [hrecv])
  simp only [feedAll, List.nil_append, List.append_nil, Collected.mk.injEq] at hsd
  obtain ⟨hevs, hst, hrest, _⟩ := hsd
  rw [d4, d5, d6, d7] at he
  refine ⟨?_, by rw [hb, hrest], by rw [hp, hst]⟩
  rw [← hevs, ← he]
  simp

/-- what a built-in terminal may send as text: UTF-8 encoded runes of the text domain (every scalar value except C0, DEL and
U+FFFD), paste markers where tcell enables bracketed paste, focus reports where it enables focus reporting -/
def DbItemOk (p : Terminfo × List Gen.KeyRow) : C11.Item → Prop
  | .char e => ∃ r : Int, Utf8TextRune r ∧ e = (Utf8.encode r, r)
  | .pasteStart => C11.pasteEnabled p.1 = true
  | .pasteEnd => C11.pasteEnabled p.1 = true
  | .focusIn => C11.focusEnabled p.1 = true
  | .focusOut => C11.focusEnabled p.1 = true

theorem dbItemOk (p : Terminfo × List Gen.KeyRow) (hp : p ∈ Gen.dbTables) (w h : Int) (x11 : Bool) (i : C11.Item)
    (hi : DbItemOk p i) : C11.ItemOk (C02.dbCfgAt p w h x11) i := by
  cases i with
  | char e =>
    obtain ⟨r, hr, rfl⟩ := hi
    show Tcell.Lemmas.Text.TextChar decUtf8 (Utf8.encode r, r)
    rcases C11.utf8_dom r hr with ha | ha
    · exact .inl ⟨r.toNat, by omega, by omega, by rw [C11.encChar_utf8 r ha, Int.toNat_of_nonneg (by omega)]⟩
    · exact .inr (C11.utf8_laws r ha)
  | pasteStart | pasteEnd => exact (C11.db_tables p hp).2.1 hi
  | focusIn | focusOut => exact (C11.db_tables p hp).2.2

/-- **`db_text_through_pipeline`.**  For the screen of EVERY built-in terminal description, any size, either X11 variant:
typed or pasted UTF-8 text (with the paste brackets and focus reports the terminal adds where tcell enabled them), injected
into the tty in arbitrary chunks, is delivered through inputLoop → keychan → mainLoop/scanInput → eventQ → PollEvent or
ChannelEvents rune for rune, in order, exactly once, when drained — under every schedule, all capacities, any polling
pattern, provided no escape timeout expires in between and no shutdown discards. -/
theorem db_text_through_pipeline : ∀ p ∈ Gen.dbTables, ∀ (w h : Int) (x11 : Bool) (c : PCfg) (pst0 : PState),
    pst0.escaped = false → ∀ (items : List C11.Item), (∀ i ∈ items, DbItemOk p i) →
    ∀ (ls : List Label) (s : RState), SingleConsumer ls → (∀ l ∈ ls, l ≠ .timerScan) →
    (injected ls).flatten = items.flatMap C11.Item.bytes →
    run (realParser (C02.dbCfgAt p w h x11)) c (init pst0) ls = some s → s.lossy = false → Drained s →
    keysOf s.delivered = items.map C11.Item.event ∧ s.buf = [] ∧ s.pst = pst0 :=
  fun p hp w h x11 c pst0 hesc items hok ls s hcons hno hinj hr hl hd =>
    text_through_pipeline _ (C02.db_stable_at p hp w h x11)
      (C11.db_tables p hp).1 c pst0 hesc items
      (fun i hi => dbItemOk p hp w h x11 i (hok i hi)) ls s hcons hno hinj hr hl hd

/-! ### the boundary situations the engine `pipe` drives the real screen into (kinds 5 and 6) -/

/-- **resize at an exactly full queue.**  `resize()` posts its EventResize without blocking (tscreen.go:1250): with the event
queue full the only enabled resize step is `resizeDrop`, and it leaves the WHOLE state unchanged — in particular every queued,
pending and delivered event (the resize event itself is what is dropped, never an input event); with room the only enabled
one is `resizeSent`, which appends exactly one `.resize` item and nothing else. -/
theorem resize_at_full_queue (P : Parser Ev PSt) (c : PCfg) (s : State Ev PSt) (hf : full c.eqCap s.eventQ = true) :
    step P c s .resizeDrop = some s ∧ step P c s .resizeSent = none := by
  simp [step, Model.Pipeline.guard, hf]

theorem resize_with_room (P : Parser Ev PSt) (c : PCfg) (s : State Ev PSt) (hf : full c.eqCap s.eventQ = false) :
    step P c s .resizeDrop = none ∧
    step P c s .resizeSent = some { s with eventQ := s.eventQ ++ [.resize], log := s.log ++ [.resize] } := by
  simp [step, Model.Pipeline.guard, hf, push]

/-- **PostEvent at capacity − 1, then at capacity** (two posts in a row, from whichever goroutines): the first returns nil and
its event is the last one the queue takes, the second returns ErrEventQFull and changes nothing but the caller's own
sequence counter — whatever else the state holds. -/
theorem post_at_boundary (P : Parser Ev PSt) (c : PCfg) (s : State Ev PSt) (h1 : s.eventQ.length + 1 = c.eqCap) :
    ∃ s1 s2, step P c s .post = some s1 ∧ step P c s1 .post = some s2 ∧
      postOk c s = true ∧ postOk c s1 = false ∧
      s1.eventQ = s.eventQ ++ [.posted s.nextSeq] ∧ s2.eventQ = s1.eventQ ∧ s2.log = s1.log ∧
      s1.log = s.log ++ [.posted s.nextSeq] ∧ full c.eqCap s2.eventQ = true := by
  have hnf : full c.eqCap s.eventQ = false := by simp [full]; omega
  have hf1 : full c.eqCap (s.eventQ ++ [Item.posted s.nextSeq]) = true := by simp [full]; omega
  exact ⟨_, _, (Step.post hnf).step_eq, (Step.postFull hf1).step_eq, by simp [postOk, hnf], by simp [postOk, hf1],
    rfl, rfl, rfl, rfl, hf1⟩

example : ∃ s : State Nat Unit, s.eventQ.length + 1 = (⟨3, 1, 1, false⟩ : PCfg).eqCap :=
  ⟨{ pst := (), eventQ := [.resize, .resize] }, rfl⟩

/-! ### the hypotheses are satisfiable; the timer condition cannot be dropped -/

/-- "é" + F-key-free text through a pipeline with queues of capacity 1: the two bytes of "é" arrive in two chunks, "a" and
the first byte of "€" in a third … ; the consumer polls only when forced to -/
def exRun : List Label :=
  [.callInit, .inject [0xC3], .inject [0xA9, 97],
   .inToRead, .inReadChunk, .inSent, .mainChunk, .chunkEnd,            -- C3 alone: nothing decoded, one byte buffered
   .inToRead, .inReadChunk, .inSent, .mainChunk, .scanSent,            -- A9 61: "é" and "a"; eventQ (cap 1) takes "é"
   .pollEv, .scanSent, .chunkEnd, .pollEv]

example : SingleConsumer exRun ∧ (∀ l ∈ exRun, l ≠ .timerScan) ∧ (∀ l ∈ exRun, Label.shutdown l = false) := by
  refine ⟨Or.inl ?_, ?_, ?_⟩ <;> decide

/-- the run exists, ends drained and not lossy, and delivers é, a: `text_through_pipeline` applies and is not vacuous -/
example :
    (run (realParser C02.exCfg) { eqCap := 1, kcCap := 1 } (init {}) exRun).map
      (fun s => (keysOf s.delivered, s.lossy,
        s.unread.isEmpty && s.keychan.isEmpty && s.eventQ.isEmpty && s.buf.isEmpty && (pending s).isEmpty)) =
    some ([runeEvent 0xE9, runeEvent 97], false, true) := by decide

example : (injected exRun).flatten = ([C11.Item.char ([0xC3, 0xA9], 0xE9), C11.Item.char ([97], 97)]).flatMap C11.Item.bytes := by
  decide

/-- the database is not empty and contains an entry on which paste and focus items are admissible -/
example : ∃ p ∈ Gen.dbTables, DbItemOk p .pasteStart ∧ DbItemOk p .focusIn ∧ DbItemOk p (.char (Utf8.encode 0x20AC, 0x20AC)) := by
  obtain ⟨p, hp, h1, h2⟩ : ∃ p ∈ Gen.dbTables, C11.pasteEnabled p.1 = true ∧ C11.focusEnabled p.1 = true := by
    decide +kernel
  exact ⟨p, hp, h1, h2, 0x20AC, by decide, rfl⟩

/-- ESC, then the timer expires, then `[A`: Esc, `[`, `A` … -/
def exExpire : List Label :=
  [.callInit, .inject [27], .inject [91, 65],
   .inToRead, .inReadChunk, .inSent, .mainChunk, .chunkEnd,
   .mainTimer, .timerScan, .scanSent, .timerEnd,
   .inToRead, .inReadChunk, .inSent, .mainChunk, .scanSent, .scanSent, .chunkEnd]
/-- … the same schedule without the expiry: the Up key -/
def exNoExpire : List Label :=
  [.callInit, .inject [27], .inject [91, 65],
   .inToRead, .inReadChunk, .inSent, .mainChunk, .chunkEnd,
   .inToRead, .inReadChunk, .inSent, .mainChunk, .scanSent, .chunkEnd]

/-- **`expire_changes_decoding`.**  The condition "no escape timeout expiring in between" of chunk independence cannot be
dropped: the same bytes in the same chunks decode differently when the timer fires between them.  (Exactly-once still
holds in both runs: `pipeline_exactly_once_expire`.) -/
theorem expire_changes_decoding :
    (run (realParser C02.exCfg) { eqCap := 4, kcCap := 1 } (init {}) exExpire).map (fun s => (keysOf s.eventQ, s.received)) =
      some ([.key 27 0 0, .key 256 91 0, .key 256 65 0], [27, 91, 65]) ∧
    (run (realParser C02.exCfg) { eqCap := 4, kcCap := 1 } (init {}) exNoExpire).map (fun s => (keysOf s.eventQ, s.received)) =
      some ([.key 257 0 0], [27, 91, 65]) ∧
    opsOf (realParser C02.exCfg) { eqCap := 4, kcCap := 1 } (init {}) exExpire = [.chunk [27], .expire, .chunk [91, 65]] := by
  decide

end Tcell.Props.C05Real
