import Tcell.Model.PipelineReal
import Tcell.Props.C06
import Tcell.Props.C02
/-
C06 for the REAL parser instance of the pipeline model (`Tcell.Model.Pipeline.realParser`, the instance engine `pipe` replays
the real screen against).

Every theorem of `Tcell.Props.C06` is generic in the parser record `P` and needs NO hypothesis about it: progress
(`no_stuck_after_shutdown`), the ranking function (`rank_decreases`, `bounded_termination`), inertness after Fini and the
restart after Resume only look at program counters, channel fill levels and flags; the parser enters through the *number*
of events a scan returns (a finite list, whatever it is).  The instantiations below are therefore immediate.

What the generic statements do hide is that `P.collect` is ONE atomic step of the model (`mainChunk`, `timerScan`), while
in the code it is the `for` loop of `collectEventsFromInput` (tscreen.go:1808-1850) running under the screen lock: if that
loop did not terminate, mainLoop would never reach its next select and Fini/Suspend would wait for ever in `wg.Wait()`
although the model says a step is enabled.  `real_scan_terminates` discharges this from C02 (`never_stalls`: every
productive iteration strictly shortens the buffer): the loop ends after at most `len(buf)` iterations — the fuel of the
model function `collect` is never what stops it, any larger fuel gives the same result; `db_scan_terminates` is the same
for every built-in terminal description.
-/
namespace Tcell.Props.C06Real
open Tcell Tcell.Model Tcell.Model.Pipeline Tcell.Lemmas.Chunk

abbrev PCfg := Tcell.Model.Pipeline.Cfg
abbrev RState := State Event PState

/-- **`real_scan_terminates`.**  For every `Stable` configuration: running the loop of `collectEventsFromInput` with ANY
iteration budget ≥ `len(buf)` gives exactly the result of the model function `collect` (whose budget is `len(buf)`): the
loop always ends by itself — on an empty buffer, a "wait for more input" or an order-dependent match — after at most
`len(buf)` productive iterations.  So the atomic model steps `mainChunk` / `timerScan` stand for a terminating piece of
code, and no hypothesis "collect terminates" is hidden in the C06 theorems. -/
theorem real_scan_terminates (cfg : Model.Cfg) (hs : Stable cfg) (e : Bool) (st : PState) (b : Bytes) (fuel : Nat)
    (h : b.length ≤ fuel) : collectAux cfg e fuel st b = collect cfg st b e :=
  collectAux_fuel cfg (progress_of_stable cfg hs) e fuel st b h

/-- … and every productive iteration consumes at least one byte (C02 `never_stalls`, restated for reference) -/
theorem real_scan_consumes (cfg : Model.Cfg) (hs : Stable cfg) (st : PState) (b : Bytes) (e : Bool) (evs : List Event)
    (st' : PState) (rest : Bytes) (hb : b ≠ []) (h : step1 cfg st b e = .emit evs st' rest) : rest.length < b.length :=
  C02.never_stalls cfg hs st b e evs st' rest hb h

theorem db_scan_terminates : ∀ p ∈ Gen.dbTables, ∀ (w h : Int) (x11 : Bool) (e : Bool) (st : PState) (b : Bytes) (fuel : Nat),
    b.length ≤ fuel → collectAux (C02.dbCfgAt p w h x11) e fuel st b = collect (C02.dbCfgAt p w h x11) st b e :=
  fun p hp w h x11 e st b fuel hf =>
    real_scan_terminates _ (C02.db_stable_at p hp w h x11) e st b fuel hf

/-- **`db_no_stuck_after_shutdown`.**  For the screen of EVERY built-in terminal description (real key table, real parser
model), any size, all queue capacities and fill levels, all injected chunks and read errors, every interleaving: on the
repaired tree (`fixed`, /repo 68fe3e1) a reachable state in which Fini or Suspend has been called and has not returned has
an enabled internal step.  (Immediate: `C06.no_stuck_after_shutdown` needs nothing from the parser.) -/
theorem db_no_stuck_after_shutdown : ∀ p ∈ Gen.dbTables, ∀ (w h : Int) (x11 : Bool) (c : PCfg) (pst0 : PState) (s : RState),
    c.fixed = true → Reachable (realParser (C02.dbCfgAt p w h x11)) c pst0 s → shutdownInProgress s = true →
    ∃ l, l.internal = true ∧ enabled (realParser (C02.dbCfgAt p w h x11)) c s l = true :=
  fun _ _ _ _ _ c pst0 s hfix hr hsd => C06.no_stuck_after_shutdown _ c pst0 s hfix hr hsd

/-- the same for any parser configuration at all (no `Stable` needed) -/
theorem real_no_stuck_after_shutdown (cfg : Model.Cfg) (c : PCfg) (pst0 : PState) (s : RState) (hfix : c.fixed = true)
    (hr : Reachable (realParser cfg) c pst0 s) (hsd : shutdownInProgress s = true) :
    ∃ l, l.internal = true ∧ enabled (realParser cfg) c s l = true :=
  C06.no_stuck_after_shutdown _ c pst0 s hfix hr hsd

/-- **`db_bounded_termination`.**  Once stopQ is closed, a run of internal select-fair steps of the real-parser pipeline has
at most `rank` steps; `rank` counts, for the main loop, the events the real parser returns for the buffered bytes. -/
theorem db_bounded_termination : ∀ p ∈ Gen.dbTables, ∀ (w h : Int) (x11 : Bool) (c : PCfg) (ls : List Label) (s s' : RState),
    s.stop = true → (∀ l ∈ ls, l.internal = true ∧ C06.selectFair l = true) →
    run (realParser (C02.dbCfgAt p w h x11)) c s ls = some s' →
    ls.length + C06.rank (realParser (C02.dbCfgAt p w h x11)) s' ≤ C06.rank (realParser (C02.dbCfgAt p w h x11)) s :=
  fun _ _ _ _ _ c ls s s' hstop hall hr => C06.bounded_termination _ c ls s s' hstop hall hr

/-- **`db_after_fini_inert`**, **`db_resume_restarts_loops`**: the remaining C06 statements for the real-parser instance -/
theorem db_after_fini_inert : ∀ p ∈ Gen.dbTables, ∀ (w h : Int) (x11 : Bool) (c : PCfg) (pst0 : PState) (s s' : RState),
    Reachable (realParser (C02.dbCfgAt p w h x11)) c pst0 s → s.callPc = .ret true →
    step (realParser (C02.dbCfgAt p w h x11)) c s .callRet = some s' →
    s'.quit = true ∧ enabled (realParser (C02.dbCfgAt p w h x11)) c s' .pollNil = true ∧ s'.inPc = .idle ∧
    s'.mainPc.isIdle = true ∧ s'.wg = 0 ∧ s'.closed = true ∧
    step (realParser (C02.dbCfgAt p w h x11)) c s' .callFini = some s' :=
  fun _ _ _ _ _ c pst0 s s' hr hc h =>
    have := C06.after_fini_inert _ c pst0 s s' hr hc h
    ⟨this.1, this.2.1, this.2.2.1, this.2.2.2.1, this.2.2.2.2.1, this.2.2.2.2.2.1, this.2.2.2.2.2.2.1⟩

theorem db_resume_restarts_loops : ∀ p ∈ Gen.dbTables, ∀ (w h : Int) (x11 : Bool) (c : PCfg) (pst0 : PState) (s : RState),
    Reachable (realParser (C02.dbCfgAt p w h x11)) c pst0 s → s.callPc = .idle → s.running = false →
    ∃ s', step (realParser (C02.dbCfgAt p w h x11)) c s .callResume = some s' ∧ s'.running = true ∧ s'.stop = false ∧
      s'.inPc = .top ∧ s'.mainPc.isSel = true ∧ s'.buf = [] ∧ s'.wg = 2 ∧ s'.keychan = s.keychan ∧ s'.eventQ = s.eventQ ∧
      s'.unread = s.unread ∧ enabled (realParser (C02.dbCfgAt p w h x11)) c s' .inToRead = true :=
  fun _ _ _ _ _ c pst0 s hr hc hrun => by
    obtain ⟨h, hwg⟩ := C06.resume_engages _ c pst0 s hr hc hrun
    exact ⟨engage s, h, by simp [engage, hwg, enabled, step, Model.Pipeline.guard]⟩

/-- the hypotheses are satisfiable on the real-parser instance: a Suspend with a full event queue and a consumer that does
not poll (the situation that hung before /repo 68fe3e1) runs to completion on the repaired variant; input that arrives while
the screen is suspended stays in the tty and is read after Resume -/
example :
    let c : PCfg := { eqCap := 1, kcCap := 1, fixed := true }
    (run (realParser C02.exCfg) c (init {})
      [.callInit, .inject [97], .inject [98], .inToRead, .inReadChunk, .inSent, .mainChunk, .scanSent, .chunkEnd,
       .inToRead, .inReadChunk, .inSent, .mainChunk,                       -- 'b' pending, eventQ = ['a'] full
       .callSuspend, .disStopped, .inStop, .inExit, .scanStop, .chunkEnd, .mainStop, .mainExit, .disJoined, .callRet,
       .inject [99],                                                          -- arrives while suspended
       .callResume, .pollEv, .inToRead, .inReadChunk, .inSent, .mainChunk, .scanSent, .chunkEnd, .pollEv]).map
      (fun s => (s.delivered, s.callPc, s.running, s.lossy)) =
    some ([Item.key (Event.key 256 97 0), Item.key (Event.key 256 99 0)], CallPc.idle, true, true) := by decide

end Tcell.Props.C06Real
