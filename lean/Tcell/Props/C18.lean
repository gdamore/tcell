/-
C18 — SimulationScreen is a faithful test double.

Theorems about the model `Tcell.Model.Sim` (simulation.go).  Generic in the encoder `enc`, the decoder `dec`, the rune
width function, all states (hence all draw histories that lead to them), sizes, coordinates, runes, styles.
Where the pinned tree violates the statement the model has a `pinned` and a `repaired` side (`SimVariant`): the
full-strength theorem is about `repaired`, the pinned behaviour gets a proved counterexample.
-/
import Tcell.Model.Sim
import Tcell.Lemmas.Sim
import Tcell.Props.C17
namespace Tcell.Props.C18
open Tcell

/-- what the property says a visible cell reports: runes = main :: combining as last set (`GetContent`), style = the style
set with StyleDefault resolved to the screen style, a wide rune in the last column blank, bytes by `simBytes`. -/
theorem render_spec (v : SimVariant) (enc : Encoder) (s : Sim) (x y : Int) :
    let g := s.back.getContent x y
    (x > s.physw - g.2.2.2 → s.render v enc x y = { bytes := [32], style := s.resolve g.2.2.1, runes := [32] }) ∧
    (¬ x > s.physw - g.2.2.2 → s.render v enc x y =
        { bytes := Sim.simBytes v enc s.fallback (g.1 :: g.2.1), style := s.resolve g.2.2.1, runes := g.1 :: g.2.1 }) := by
  unfold Sim.render
  constructor <;> intro h <;> simp [h]

theorem resolve_default (s : Sim) : s.resolve {} = s.style := by simp [Sim.resolve]
theorem resolve_other (s : Sim) (st : Style) (h : st ≠ {}) : s.resolve st = st := by simp [Sim.resolve, h]

/-- **sim_drawCell_effect** (per cell, every variant — the step behind `sim_show_faithful`): when `draw` reaches a cell
that is dirty and on the display, the reported cell becomes exactly `render` (runes, resolved style, blank in the last column, bytes), no other reported cell changes, and the width is
returned.  (Whether the cell is also marked clean is where the pinned tree differed: `last_column_stale`.) -/
theorem sim_drawCell_effect (v : SimVariant) (enc : Encoder) (s : Sim) (x y : Int)
    (hd : s.back.dirty x y = true) (hp : s.inPhys x y) :
    ((s.drawCell v enc x y).1.front x y = s.render v enc x y) ∧
    (∀ i j, ¬ (i = x ∧ j = y) → (s.drawCell v enc x y).1.front i j = s.front i j) ∧
    (s.drawCell v enc x y).2 = (s.back.getContent x y).2.2.2 := by
  refine ⟨?_, fun i j h => ?_, SimL.drawCell_snd v enc s x y⟩ <;>
    rw [SimL.drawCell_fst, if_pos ⟨hd, hp⟩] <;> split <;> simp [Sim.setFront, *]

theorem drawCell_clean (v : SimVariant) (enc : Encoder) (s : Sim) (x y : Int) (hd : s.back.dirty x y = false) :
    (s.drawCell v enc x y).1 = s := by
  rw [SimL.drawCell_fst, if_neg (by simp [hd])]

/-! ### after Show, every visible cell shows what was last set — over all draw histories -/

/-- **sim_show_faithful** (full strength; history induction reusing C08's specification ghost, as C19 `page_faithful`).
Start from a freshly initialised SimulationScreen (80×25, any fallback map `fb`, any screen style `scr`) and perform ANY
history of SetContent / Fill / LockRegion steps / Show / Sync / SetSize / ShowCursor / InjectKey / InjectMouse — any
length, coordinates, sizes, runes, combining lists, styles.  Then every in-range cell that is unlocked and that the
logical buffer reports clean shows, in the cells `GetContents` reports (`front`), EXACTLY `render` of its logical content:
by `render_spec` the runes as `GetContent` gives them, the style last set with StyleDefault resolved to the screen style,
the bytes by the simulator's encoding rules, and a blank for a wide rune in the last column.
Hypotheses: `RwOk rw` (go-runewidth gives 0 for NUL, 1 for a blank, widths in 0..2); the variant has the two fixes that the
statement needs — `lastColClean` (/repo 829ffac) and `setSizeEvent` (/repo 3535525) — which the current tree has (the `sim`
engine probes the five sites and runs the matching model variant; for the pinned variant the statement is false:
`last_column_stale`); Fill runes are one column wide (`SimOp.ok`, the API contract of `Fill`, cell.go:218).
Outside the statement, as in C19: `SetStyle` and `RegisterRuneFallback` after a cell was drawn are not retroactive (no
redraw happens), so the screen style and the fallback map are fixed along the history (`setStyle_not_retroactive`). -/
theorem sim_show_faithful (rw : Rune → Int) (hrw : RwOk rw) (v : SimVariant) (hv1 : v.lastColClean = true)
    (hv2 : v.setSizeEvent = true) (enc : Encoder) (fb : RuneMap) (scr : Style) (ops : List SimOp)
    (hok : ∀ op ∈ ops, op.ok rw) (x y : Int) :
    let s := ({ Sim.init fb with style := scr } : Sim).runS rw v enc ops
    s.back.inRange x y → (s.back.cells x y).lock = false → s.back.dirty x y = false →
    s.front x y = s.render v enc x y := by
  intro s hr hl hd
  exact SimL.faithful_of_inv hrw s (SimL.runS_inv hrw hv1 hv2 ops _ hok (SimL.init_inv hrw)) x y hr hl hd

/-- **sim_shown_cells_faithful**: after any such history followed by `Show`, every in-range unlocked position the draw
walk stopped at (column 0 of every row, then each position plus the reported width of its rune: every cell not hidden
behind a wide rune) shows `render` of its logical content — "after Show, every visible cell shows what was last set". -/
theorem sim_shown_cells_faithful (rw : Rune → Int) (hrw : RwOk rw) (v : SimVariant) (hv1 : v.lastColClean = true)
    (hv2 : v.setSizeEvent = true) (enc : Encoder) (fb : RuneMap) (scr : Style) (ops : List SimOp)
    (hok : ∀ op ∈ ops, op.ok rw) :
    let s0 := ({ Sim.init fb with style := scr } : Sim).runS rw v enc ops
    let s := s0.showScr v enc
    ∀ q ∈ SimL.showVisits v enc s0, s.back.inRange q.1 q.2 → (s.back.cells q.1 q.2).lock = false →
      s.front q.1 q.2 = s.render v enc q.1 q.2 := by
  intro s0 s q hq hr hl
  have h0 : SimL.SInv rw v enc fb scr s0 := SimL.runS_inv hrw hv1 hv2 ops _ hok (SimL.init_inv hrw)
  exact SimL.faithful_of_inv hrw s (SimL.stepS_inv hrw hv1 hv2 s0 .present trivial h0) q.1 q.2 hr hl
    (SimL.show_visits_clean hrw hv1 s0 h0 q hq)

/-- **sim_show_frame**: a `Show` (no size change pending, no `Sync`) dirties nothing: every cell dirty after it was dirty
before it — it only draws and marks clean. -/
theorem sim_show_frame (v : SimVariant) (enc : Encoder) (s : Sim) (hpw : s.physw = s.back.w) (hph : s.physh = s.back.h)
    (hc : s.clear = false) : ∀ i j, (s.showScr v enc).back.dirty i j = true → s.back.dirty i j = true :=
  SimL.show_dirtyLe v enc s hpw hph hc

/-- the walk starts every row at column 0 -/
example (v : SimVariant) (enc : Encoder) (y : Int) (s : Sim) (fuel : Nat) (hw : 0 < s.back.w) :
    0 ∈ SimL.rowVisits v enc y (fuel + 1) s 0 := by
  simp [SimL.rowVisits, hw]

/-- a width function satisfying `RwOk` (世 wide, NUL zero-width) -/
def exRw : Rune → Int := fun r => if r = 0 then 0 else if r = 19990 then 2 else 1

theorem exRw_ok : RwOk exRw := by
  refine ⟨by decide, by decide, ?_, ?_⟩ <;> intro r <;> unfold exRw <;> split <;> (try split) <;> omega

/-- the hypotheses of `sim_show_faithful` are satisfiable and the statement is not vacuous: on a 3×1 screen, after
`SetContent(0,0,'A',bold); SetContent(2,0,'世'); Show` the reported cell (0,0) is a bold `A`, the wide rune in the last
column is reported as a blank, both cells are clean, and a second history step (`Fill(' ')`; `Show`) replaces them -/
example :
    let ops := [SimOp.setSize 3 1, .setContent 0 0 65 [] { attrs := 1 }, .setContent 2 0 19990 [] {}, .present]
    let s := (Sim.init []).runS exRw .repaired C17.exEnc ops
    let s2 := s.runS exRw .repaired C17.exEnc [.fill 32 {}, .present]
    (∀ op ∈ ops ++ [.fill 32 {}, .present], op.ok exRw) ∧
    s.back.dirty 0 0 = false ∧ s.back.dirty 2 0 = false ∧
    s.front 0 0 = { bytes := [65], style := { attrs := 1 }, runes := [65] } ∧
    s.front 2 0 = { bytes := [32], style := {}, runes := [32] } ∧
    s2.front 0 0 = { bytes := [32], style := {}, runes := [32] } := by
  refine ⟨?_, by decide, by decide, by decide, by decide, by decide⟩
  intro op h
  simp at h
  rcases h with h | h | h | h | h | h <;> subst h <;> simp [SimOp.ok, exRw]

/-- `SetStyle` is not retroactive (why `sim_show_faithful` fixes the screen style): a default-style cell drawn under screen
style `{}` keeps reporting `{}` after the screen style becomes bold and `Show` runs again — no cell is dirty, nothing is
redrawn — while `render` under the new style would report bold. -/
theorem setStyle_not_retroactive :
    let s := (Sim.init []).runS exRw .repaired C17.exEnc [.setSize 2 1, .setContent 0 0 65 [] {}, .present]
    let s' := ({ s with style := { attrs := 1 } } : Sim).showScr .repaired C17.exEnc
    (s'.front 0 0).style = {} ∧ (s'.render .repaired C17.exEnc 0 0).style = { attrs := 1 } ∧ s'.back.dirty 0 0 = false := by
  decide

/-- the simulator's chain for the first rune of a cell: encoder output, else registered fallback, else the raw rune if it is
printable ASCII, else `?` (no ACS: the simulator has no terminal description) -/
theorem simBytes_first (v : SimVariant) (enc : Encoder) (fb : RuneMap) (r : Rune) :
    Sim.simBytes v enc fb [r] =
      if (enc r).out.isEmpty || (enc r).out.head? == some 0x1A then
        match fb.get? r with
        | some f => f
        | none => if 32 ≤ r ∧ r ≤ 126 then [r.toNat % 256] else [63]
      else (enc r).out := by
  simp only [Sim.simBytes, Sim.encStep, List.foldl_cons, List.foldl_nil, List.isEmpty_nil, Bool.not_true, Bool.and_false,
    Bool.false_eq_true, if_false, if_true, List.nil_append]
  split
  · cases fb.get? r <;> rfl
  · rfl

/-- one step of the repaired simulator loop is the real screen's `encodeRune` (without ACS map), provided the encoder reports
an error only together with an empty output (validated for every charset by the harness) and accepts printable ASCII -/
theorem encStep_eq_encodeRune (enc : Encoder) (fb : RuneMap) (bytes : Bytes) (r : Rune)
    (herr : (enc r).err = true → (enc r).out = [])
    (hascii : 32 ≤ r ∧ r ≤ 126 → (enc r).bad = false) :
    Sim.encStep .repaired enc fb bytes r = ({ enc := enc, acs := [], fallback := fb } : EncState).encodeRune r bytes := by
  -- an error comes with an empty output, so the real screen's test is the simulator's
  have hbad : (enc r).bad = ((enc r).out.isEmpty || (enc r).out.head? == some 0x1A) := by
    unfold EncResult.bad
    cases he : (enc r).err
    · simp
    · simp [herr he]
  unfold Sim.encStep EncState.encodeRune
  simp only [hbad]
  cases hb : ((enc r).out.isEmpty || (enc r).out.head? == some 0x1A)
  · simp
  · have ha : ¬ (32 ≤ r ∧ r ≤ 126) := fun ha => by have := hascii ha; rw [hbad, hb] at this; cases this
    cases hbe : bytes.isEmpty <;> cases hf : fb.get? r <;> simp [SimVariant.repaired, RuneMap.get?, ha]

/-- **sim_bytes_same_rules** (repaired): the Bytes of a cell are what the real screen's `encodeCell` writes for the same runes
with the same fallback map and no ACS map — "the same fallback rules as a real screen". -/
theorem sim_bytes_same_rules (enc : Encoder) (fb : RuneMap) (mainc : Rune) (comb : List Rune)
    (herr : ∀ r, (enc r).err = true → (enc r).out = [])
    (hascii : ∀ r, 32 ≤ r ∧ r ≤ 126 → (enc r).bad = false) :
    Sim.simBytes .repaired enc fb (mainc :: comb) = ({ enc := enc, acs := [], fallback := fb } : EncState).encodeCell mainc comb := by
  unfold Sim.simBytes EncState.encodeCell
  simp only [List.foldl_cons]
  rw [encStep_eq_encodeRune enc fb [] mainc (herr mainc) (hascii mainc)]
  generalize ({ enc := enc, acs := [], fallback := fb } : EncState).encodeRune mainc [] = b0
  induction comb generalizing b0 with
  | nil => rfl
  | cons c cs ih =>
    simp only [List.foldl_cons]
    rw [encStep_eq_encodeRune enc fb b0 c (herr c) (hascii c)]
    exact ih _

/-- On the pinned tree the rules differ: a combining rune that is not encodable but has a registered fallback is appended by
the simulator (`a` + U+2500 in a Latin-1-like charset reports `a-`) and elided by the real screen (`a`). -/
theorem sim_bytes_pinned_differs :
    Sim.simBytes .pinned C17.exEnc [(9472, [45])] [97, 9472] = [97, 45] ∧
    ({ enc := C17.exEnc, acs := [], fallback := [(9472, [45])] } : EncState).encodeCell 97 [9472] = [97] ∧
    Sim.simBytes .repaired C17.exEnc [(9472, [45])] [97, 9472] = [97] := by decide

/-- a 1×1 display whose only cell was drawn as a blank in style `{}`, then holds the wide rune 世 in bold -/
def exLastCol (rw : Rune → Int) : Sim :=
  let s0 : Sim := { physw := 1, physh := 1, back := ({} : Buf).resize 1 1 }
  let s1 := s0.showScr .pinned C17.exEnc
  { s1 with back := s1.back.setContent rw 0 0 19990 [] { attrs := 1 } }

/-- `Clear()` = `Fill(' ', StyleDefault)` (screen.go:393) -/
def clearScr (s : Sim) : Sim := { s with back := s.back.fill 32 {} }

/-- **last_column_stale** (pinned tree): the early return for a wide rune in the last column does not mark the cell clean, so the
buffer still believes the display shows the *previous* content; putting that previous content back with `Clear()` is then
"no change" and
the reported cell keeps the bold style of the blank that replaced the wide rune — the simulator reports a style the
application did not last set.  With the cell marked clean (repaired) the last Show redraws it. -/
theorem last_column_stale :
    let rw : Rune → Int := fun r => if r = 19990 then 2 else 1
    let s2 := (exLastCol rw).showScr .pinned C17.exEnc
    let s3 := clearScr s2
    ((s3.showScr .pinned C17.exEnc).front 0 0).style = { attrs := 1 } ∧
    (let r2 := (exLastCol rw).showScr { lastColClean := true } C17.exEnc
     let r3 := clearScr r2
     ((r3.showScr { lastColClean := true } C17.exEnc).front 0 0).style = {}) := by
  decide

/-- **setsize_overlap**: SetSize keeps every reported cell of the overlapping region, reports the new size, and resets the cursor. -/
theorem setsize_overlap (v : SimVariant) (s : Sim) (w h x y : Int)
    (hx : 0 ≤ x ∧ x < w ∧ x < s.physw) (hy : 0 ≤ y ∧ y < h ∧ y < s.physh) :
    (s.setSize v w h).front x y = s.front x y ∧ (s.setSize v w h).physw = w ∧ (s.setSize v w h).physh = h := by
  by_cases hv : v.setSizeEvent = true
  · by_cases hr : (w ≠ s.back.w ∨ h ≠ s.back.h) <;> simp [Sim.setSize, Sim.resize, Sim.post, hv, hr, hx, hy]
  · simp [Sim.setSize, hv, hx, hy]

/-- **setsize_posts_resize** (repaired): a SetSize that changes the size queues a resize event carrying the new size. -/
theorem setsize_posts_resize (s : Sim) (w h : Int) (hne : w ≠ s.back.w ∨ h ≠ s.back.h) :
    (s.setSize .repaired w h).evq = s.evq ++ [.resize w h] ∧ (s.setSize .repaired w h).back.w = w ∧ (s.setSize .repaired w h).back.h = h := by
  unfold Sim.setSize Sim.resize Sim.post
  simp only [SimVariant.repaired, if_true]
  rw [if_pos hne]
  exact ⟨rfl, Buf.resize_w .., Buf.resize_h ..⟩

/-- On the pinned tree SetSize queues nothing and leaves the logical buffer already at the new size, so the `resize()` of the
following Show/Sync sees no difference and posts nothing either: no resize event is ever produced. -/
theorem setsize_pinned_no_event (s : Sim) (w h : Int) :
    (s.setSize .pinned w h).evq = s.evq ∧ ((s.setSize .pinned w h).resize).evq = s.evq := by
  unfold Sim.setSize
  simp only [SimVariant.pinned]
  refine ⟨rfl, ?_⟩
  unfold Sim.resize
  simp [Buf.resize_w, Buf.resize_h]

/-- **cursor_query**: after ShowCursor(x, y) the query reports the position, visible exactly when it is on the display. -/
theorem cursor_query (s : Sim) (x y : Int) :
    (s.setCursor x y).getCursor = (x, y, decide (0 ≤ x ∧ 0 ≤ y ∧ x < s.physw ∧ y < s.physh)) := by
  unfold Sim.setCursor Sim.showCursor Sim.getCursor
  simp only [Prod.mk.injEq, true_and]
  rw [Bool.eq_iff_iff]
  simp
  omega

def postAll (s : Sim) (evs : List SimEv) : Sim := evs.foldl Sim.post s

theorem postAll_evq (s : Sim) (evs : List SimEv) : (postAll s evs).evq = s.evq ++ evs := by
  induction evs generalizing s with
  | nil => simp [postAll]
  | cons e es ih => simp only [postAll, List.foldl_cons] at *; rw [ih]; simp [Sim.post]

/-- drain by repeated PollEvent -/
def pollAll : Nat → Sim → List SimEv
  | 0, _ => []
  | n + 1, s => match s.poll with
    | (some e, s') => e :: pollAll n s'
    | (none, _) => []

theorem pollAll_evq (s : Sim) : pollAll s.evq.length s = s.evq := by
  generalize hq : s.evq = q
  induction q generalizing s with
  | nil => simp [pollAll]
  | cons e es ih =>
    simp only [List.length_cons, pollAll, Sim.poll, hq]
    congr 1
    exact ih { s with evq := es } rfl

/-- **inject_keys_fifo**: events injected with InjectKey / InjectMouse (any keys, runes, modifiers, positions, buttons, in any
interleaving) come out of PollEvent after the events already queued, in order, exactly as constructed by NewEventKey /
NewEventMouse (the queue has room: the model's precondition, the harness keeps a poller running). -/
theorem inject_keys_fifo (s : Sim) (evs : List SimEv) :
    pollAll (s.evq.length + evs.length) (postAll s evs) = s.evq ++ evs := by
  have h := pollAll_evq (postAll s evs)
  rw [postAll_evq] at h
  simpa using h

theorem injectKey_is_post (s : Sim) (k : Int) (r : Rune) (m : Int) : s.injectKey k r m = s.post (newEventKey k r m) := rfl
theorem injectMouse_is_post (s : Sim) (x y b m : Int) : s.injectMouse x y b m = s.post (.mouse x y b m) := rfl
theorem newEventKey_exact (k : Int) (r : Rune) (m : Int) (h : k ≠ 256 ∨ (32 ≤ r ∧ r ≠ 127)) : newEventKey k r m = .key k r m := by
  unfold newEventKey
  rcases h with h | h
  · simp [h]
  · simp [show ¬ (r < 32 ∨ r = 127) from fun h' => h'.elim (fun h' => absurd h.1 (Int.not_le.mpr h')) h.2]

/-- a UTF-8 decoder restricted to what the examples need: `a`, `€` = E2 82 AC and its proper prefixes (which a UTF-8 decoder
rejects with nout = 0, as the real one does) -/
def exDecUtf8 : Decoder := fun p =>
  if p = [0xE2, 0x82, 0xAC] then { nout := 3, nin := 3, r := 0x20AC } else {}

/-- a GBK-like decoder: `你` = C4 E3; the one-byte prefix decodes to U+FFFD with nout = 3, nin = 1 (what x/text reports at EOF) -/
def exDecGbk : Decoder := fun p =>
  if p = [0xC4, 0xE3] then { nout := 3, nin := 2, r := 0x4F60 }
  else if p = [0xC4] ∨ p = [0xE3] then { nout := 3, nin := 1, r := 0xFFFD } else {}

/-- **inject_last_multibyte** (pinned tree): `InjectKeyBytes("a€")` delivers only `a` and returns false — the inner loop
`for l := 1; l < len(b); l++` never tries the whole remaining buffer.  Repaired: both keys, true. -/
theorem inject_last_multibyte :
    Sim.injectLoop .pinned exDecUtf8 4 [97, 0xE2, 0x82, 0xAC] [] false = ([.key 256 97 0], true) ∧
    Sim.injectLoop .repaired exDecUtf8 4 [97, 0xE2, 0x82, 0xAC] [] false = ([.key 256 97 0, .key 256 0x20AC 0], false) := by
  decide

/-- **inject_multibyte_dropped** (pinned tree): in a legacy multi-byte charset the one-byte prefix of every two-byte character
decodes to U+FFFD with nout ≠ 0, so the character is consumed byte by byte without any event — `你a` delivers only `a`
and even returns true.  Repaired (U+FFFD prefixes skipped): both keys. -/
theorem inject_multibyte_dropped :
    Sim.injectLoop { injectLE := true } exDecGbk 4 [0xC4, 0xE3, 97] [] false = ([.key 256 97 0], false) ∧
    Sim.injectLoop .repaired exDecGbk 4 [0xC4, 0xE3, 97] [] false = ([.key 256 0x4F60 0, .key 256 97 0], false) := by
  decide

/-- Codec laws for a character `c` encoded as `e` (validated against the real decoders by the harness: UTF-8 and every
multi-byte charset, every BMP character in the thorough tier): -/
structure CharLaw (dec : Decoder) (c : Rune) (e : Bytes) : Prop where
  nonempty : e ≠ []
  /-- a character whose encoding starts below 0x80 is one printable ASCII byte equal to the rune -/
  ascii : ∀ b rest, e = b :: rest → b < 128 → rest = [] ∧ 32 ≤ b ∧ b ≤ 126 ∧ c = (b : Int)
  /-- no proper prefix decodes to a rune other than U+FFFD -/
  prefixes : ∀ l, 0 < l → l < e.length → (dec (e.take l)).nout = 0 ∨ (dec (e.take l)).r = 0xFFFD
  /-- the whole encoding decodes to the character and consumes exactly itself -/
  whole : e.head?.any (· ≥ 128) → (dec e).nout ≠ 0 ∧ (dec e).nin = e.length ∧ (dec e).r = c ∧ c ≠ 0xFFFD ∧ 32 ≤ c ∧ c ≠ 127

theorem injectTry_first (v : SimVariant) (hv : v.injectSkipErr = true) (dec : Decoder) (b : Bytes) (l0 : Nat)
    (hpre : ∀ l, 0 < l → l < l0 → (dec (b.take l)).nout = 0 ∨ (dec (b.take l)).r = 0xFFFD)
    (hhit : (dec (b.take l0)).nout ≠ 0 ∧ (dec (b.take l0)).r ≠ 0xFFFD) :
    ∀ (n s : Nat), 0 < s → s ≤ l0 → l0 < s + n → Sim.injectTry v dec b (List.range' s n) =
      some (some (newEventKey 256 (dec (b.take l0)).r 0), (dec (b.take l0)).nin)
  | 0, s, _, h1, h2 => by omega
  | n + 1, s, h0, h1, h2 => by
    rw [List.range'_succ, Sim.injectTry]
    by_cases hs : s = l0
    · subst hs; simp [hhit.1, hhit.2]
    · have ih := injectTry_first v hv dec b l0 hpre hhit n (s + 1) (by omega) (by omega) (by omega)
      rcases hpre s h0 (by omega) with hl | hl
      · simp [hl, ih]
      · by_cases hn : (dec (b.take s)).nout = 0 <;> simp [hn, hl, hv, ih]

theorem injectLens_repaired (b : Bytes) : Sim.injectLens .repaired b = List.range' 1 b.length := by
  show (List.range b.length).map (· + 1) = _
  rw [List.range'_eq_map_range]; apply List.map_congr_left; intro a _; omega

theorem injectLoop_char (dec : Decoder) (c : Rune) (e rest : Bytes) (law : CharLaw dec c e)
    (n : Nat) (evs : List SimEv) (failed : Bool) :
    Sim.injectLoop .repaired dec (n + 1) (e ++ rest) evs failed =
      Sim.injectLoop .repaired dec n rest (evs ++ [.key 256 c 0]) failed := by
  cases e with
  | nil => exact absurd rfl law.nonempty
  | cons b tl =>
    by_cases hb : b < 128
    · obtain ⟨rfl, h32, h126, hc⟩ := law.ascii b tl rfl hb
      have hb2 : (32 : Int) ≤ (b : Int) ∧ (b : Int) ≠ 127 := ⟨by omega, by omega⟩
      have hk : newEventKey 256 (b : Int) 0 = .key 256 (b : Int) 0 := newEventKey_exact _ _ _ (.inr hb2)
      have h1 : 32 ≤ b ∧ b ≤ 127 := by omega
      simp only [List.cons_append, List.nil_append, Sim.injectLoop, h1, and_self, if_true, hk, hc]
    · obtain ⟨hno, hni, hr, hfffd, h32, h127⟩ := law.whole (by simp; omega)
      have h1 : ¬ (32 ≤ b ∧ b ≤ 127) := by omega
      -- the candidates below the length of the character are its proper prefixes
      have htake : ∀ l, l ≤ (b :: tl).length → (b :: tl ++ rest).take l = (b :: tl).take l :=
        fun l hl => List.take_append_of_le_length hl
      have htry := injectTry_first .repaired rfl dec (b :: tl ++ rest) (b :: tl).length
        (fun l h0 hl => by rw [htake l (by omega)]; exact law.prefixes l h0 hl)
        (by rw [htake _ (Nat.le_refl _), List.take_length]; exact ⟨hno, hr ▸ hfffd⟩)
        (b :: tl ++ rest).length 1 (by omega) (by simp) (by simp; omega)
      rw [htake _ (Nat.le_refl _), List.take_length, hni, hr] at htry
      have hk : newEventKey 256 c 0 = .key 256 c 0 := newEventKey_exact _ _ _ (.inr ⟨h32, h127⟩)
      have hdrop : (b :: (tl ++ rest)).drop (b :: tl).length = rest := List.drop_left (l₁ := b :: tl)
      simp only [List.cons_append, Sim.injectLoop, h1, if_false, hb]
      rw [injectLens_repaired, ← List.cons_append, htry]
      simp only [hk, List.cons_append, hdrop]

/-- **inject_bytes_text** (repaired): any valid text in the charset — a list of characters with their encodings obeying the
codec laws, multi-byte characters included, also at the end — injected as the concatenation of the encodings comes out
as one KeyRune event per character, in order, and InjectKeyBytes returns true. -/
theorem inject_bytes_text (dec : Decoder) (text : List (Rune × Bytes)) (hlaw : ∀ ce ∈ text, CharLaw dec ce.1 ce.2)
    (s : Sim) :
    let b := (text.map (·.2)).flatten
    s.injectKeyBytes .repaired dec b = ({ s with evq := s.evq ++ text.map (fun ce => .key 256 ce.1 0) }, true) := by
  -- fuel: every character has at least one byte
  have key : ∀ (text : List (Rune × Bytes)), (∀ ce ∈ text, CharLaw dec ce.1 ce.2) → ∀ (n : Nat) (evs : List SimEv) (failed : Bool),
      ((text.map (·.2)).flatten).length ≤ n →
      Sim.injectLoop .repaired dec (n + 1) ((text.map (·.2)).flatten) evs failed = (evs ++ text.map (fun ce => SimEv.key 256 ce.1 0), failed) := by
    intro text
    induction text with
    | nil => intro _ n evs failed _; simp [Sim.injectLoop]
    | cons ce rest ih =>
      intro hl n evs failed hn
      have hpos := List.length_pos_iff.mpr (hl ce (List.mem_cons_self ..)).nonempty
      simp only [List.map_cons, List.flatten_cons, List.length_append] at hn ⊢
      obtain ⟨m, rfl⟩ : ∃ m, n = m + 1 := ⟨n - 1, by omega⟩
      rw [injectLoop_char dec ce.1 ce.2 _ (hl ce (List.mem_cons_self ..)),
        ih (fun x hx => hl x (List.mem_cons_of_mem _ hx)) m _ _ (by omega)]
      simp
  intro b
  unfold Sim.injectKeyBytes
  rw [key text hlaw b.length [] false (Nat.le_refl _)]
  simp

/-- the UTF-8 example decoder satisfies the codec law for `€` -/
example : CharLaw exDecUtf8 0x20AC [0xE2, 0x82, 0xAC] where
  nonempty := by decide
  ascii := by intro b rest h hb; simp at h; omega
  prefixes := by
    intro l h0 hl
    have : l = 1 ∨ l = 2 := by simp at hl; omega
    rcases this with rfl | rfl <;> decide
  whole := by intro _; decide
/-- and for `a` -/
example : CharLaw exDecUtf8 97 [97] where
  nonempty := by decide
  ascii := by intro b rest h hb; simp at h; obtain ⟨rfl, rfl⟩ := h; decide
  prefixes := by intro l h0 hl; simp at hl; omega
  whole := by intro h; simp at h
/-- the GBK-like decoder satisfies the law for `你` although its one-byte prefix decodes to U+FFFD -/
example : CharLaw exDecGbk 0x4F60 [0xC4, 0xE3] where
  nonempty := by decide
  ascii := by intro b rest h hb; simp at h; omega
  prefixes := by
    intro l h0 hl
    have : l = 1 := by simp at hl; omega
    subst this; decide
  whole := by intro _; decide

example : ((Sim.init []).setSize .repaired 3 2).evq = [.resize 3 2] := by decide
example : ((Sim.init []).setCursor 2 1).getCursor = (2, 1, true) := by decide
example : (((Sim.init []).setSize .pinned 3 2).setCursor 5 1).getCursor = (5, 1, false) := by decide

end Tcell.Props.C18
