import Tcell.Model.Lockset
import Tcell.Gen.LockFacts
/-
Property C10 — concurrent use of one Screen from several goroutines is free of data races, and each Show reaches
the terminal as one contiguous block.

PARTIAL by construction (DESIGN.md §5 C10): the theorems are about the *extracted* model.  `lockset_sound_multi`,
`clean_field_race_free` and `blocks_contiguous` are generic (all thread counts, all schedules, all programs, any
number of mutexes); `classify_tree` (`exempt_exact`, `guards_exact`), `flagged_exact` and `flagged_only_disengage` are
evaluated by the kernel on the facts the translator regenerates from tscreen.go / screen.go / simulation.go on every run,
and `discipline_partial` / `discipline_tree` follow from them.  Go's memory
model (go statement, channels, WaitGroup, Once) is axiomatised through the phase classification of the facts; the facts
are as good as the translator, which is validated in both directions by the race detector (lib/props/C10.py,
harness/race).

Two variants of the tree are covered by the same source (the kernel evaluates the regenerated facts):
* pinned /repo: the facts flag the tail of `disengage` (Fini, Suspend) — `discipline_except_disengage`, `_partial` forms;
* with fix C10-disengage-lifecycle (a second mutex `lifecycle` held for the whole of engage/disengage, the tail of
  disengage under the screen lock): nothing is flagged and `discipline_tree` / `fields_race_free_tree` give the full
  statements (every fact, every field that needs protection).
-/
namespace Tcell.Props.C10
open Tcell.Model.Lockset

/-! ## the lockset theorem (any number of mutexes) -/

def Excl (m : Nat) (c : Cfg) : Prop := ∀ i j, (c.th i).holds m = true → (c.th j).holds m = true → i = j

/-- the state of a thread that performs `a` and has `r` left to run -/
def TState.after (s : TState) (r : Thread) : Action → TState
  | .lock m => ⟨setHold s.holds m true, s.sec + (if m = 0 then 1 else 0), r⟩
  | .unlock m => ⟨setHold s.holds m false, s.sec, r⟩
  | _ => ⟨s.holds, s.sec, r⟩

/-- what thread `i`, in critical section `sec`, adds to the log by performing an action -/
def logged (i sec : Nat) : Action → List (Nat × Nat × Nat)
  | .emit b => [(i, sec, b)]
  | _ => []

theorem step_effect {c c' : Cfg} (hs : Step c c') : ∃ i a r, (c.th i).rest = a :: r ∧
    c'.th = upd c.th i (TState.after (c.th i) r a) ∧
    c'.log = logged i (c.th i).sec a ++ c.log ∧
    ∀ m, a = .lock m → ∀ j, (c.th j).holds m = false := by
  cases hs <;> refine ⟨_, _, _, ‹_›, rfl, rfl, fun m e => ?_⟩ <;> cases e <;> assumption

theorem holds_after {th th' : Nat → TState} {i : Nat} {a : Action} {r : Thread}
    (hth : th' = upd th i (TState.after (th i) r a)) {m x : Nat} (h : (th' x).holds m = true) :
    (th x).holds m = true ∨ (x = i ∧ a = .lock m) := by
  subst hth
  by_cases e : x = i
  · subst e
    rw [upd_same] at h
    cases a with
    | lock k => by_cases e : m = k <;> simp_all [TState.after, setHold]
    | unlock k => by_cases e : m = k <;> simp_all [TState.after, setHold]
    | _ => exact Or.inl h
  · rw [upd_other _ _ _ _ e] at h; exact Or.inl h

theorem excl_step (m : Nat) {c c' : Cfg} (hx : Excl m c) (hs : Step c c') : Excl m c' := by
  obtain ⟨i, a, r, -, hth, -, hfree⟩ := step_effect hs
  intro x y h1 h2
  rcases holds_after hth h1 with g1 | ⟨rfl, ha⟩ <;> rcases holds_after hth h2 with g2 | ⟨rfl, ha'⟩
  · exact hx x y g1 g2
  · simp [hfree m ha' x] at g1
  · simp [hfree m ha y] at g2
  · rfl

theorem local_step {P : TState → Prop} {c c' : Cfg} (hs : Step c c') (hP : ∀ i, P (c.th i))
    (hstep : ∀ s a r, s.rest = a :: r → P s → P (TState.after s r a)) : ∀ i, P (c'.th i) := by
  obtain ⟨i, a, r, hr, hth, -⟩ := step_effect hs
  intro j
  rw [hth]
  by_cases e : j = i
  · subst e; rw [upd_same]; exact hstep _ _ _ hr (hP _)
  · rw [upd_other _ _ _ _ e]; exact hP j

/-- invariant for one mutex `m` and one field `f`: at most one thread holds `m`, and what is left of every thread is
    still `GuardedBy m f` from the lock state the thread is really in -/
def Inv (m f : Nat) (c : Cfg) : Prop :=
  Excl m c ∧ ∀ i, GuardedBy m f ((c.th i).holds m) (c.th i).rest

theorem initCfg_rest {P : Thread → Prop} (ts : List Thread) (hnil : P []) (h : ∀ t ∈ ts, P t) (i : Nat) :
    P ((initCfg ts).th i).rest := by
  show P (ts.getD i [])
  rw [List.getD_eq_getElem?_getD]
  cases hi : ts[i]? with
  | none => exact hnil
  | some t => exact h t (List.mem_of_getElem? hi)

theorem inv_init (m f : Nat) (ts : List Thread) (h : ∀ t ∈ ts, GuardedBy m f false t) : Inv m f (initCfg ts) :=
  ⟨fun i j hi => by simp [initCfg] at hi, initCfg_rest ts True.intro h⟩

theorem inv_step (m f : Nat) {c c' : Cfg} (hi : Inv m f c) (hs : Step c c') : Inv m f c' :=
  ⟨excl_step m hi.1 hs, local_step (P := fun s => GuardedBy m f (s.holds m) s.rest) hs hi.2
    fun s a r hr (h : GuardedBy m f (s.holds m) s.rest) => by
      rw [hr] at h
      cases a <;> first | exact h | exact h.2⟩

theorem inv_reach (m f : Nat) {c0 c : Cfg} (h0 : Inv m f c0) (hr : Reach c0 c) : Inv m f c := by
  induction hr with
  | refl => exact h0
  | step _ hs ih => exact inv_step m f ih hs

theorem holds_of_nextAccess {m f : Nat} {s : TState} {w : Bool} (hg : GuardedBy m f (s.holds m) s.rest)
    (hn : nextAccess s f = some w) : s.holds m = true := by
  unfold nextAccess at hn
  split at hn
  · rename_i heq; rw [heq] at hg; exact hg.1 (Decidable.byContradiction fun e => by simp [e] at hn)
  · rename_i heq; rw [heq] at hg; exact hg.1 (Decidable.byContradiction fun e => by simp [e] at hn)
  · cases hn

/-- **lockset_sound_multi.**  Threads may take and release any number of exclusive mutexes, in any order, holding
    several at once.  If for field `f` there is ONE mutex `m` such that every access to `f` in every thread is made
    while that thread holds `m`, then no reachable configuration — for any number of threads, any programs, any
    schedule — has a data race on `f`. -/
theorem lockset_sound_multi (ts : List Thread) (f m : Nat) (h : ∀ t ∈ ts, GuardedBy m f false t) :
    ∀ c, Reach (initCfg ts) c → ¬ Race c f := by
  intro c hr ⟨i, j, wi, wj, hne, hi, hj, _⟩
  have inv := inv_reach m f (inv_init m f ts h) hr
  exact hne (inv.1 i j (holds_of_nextAccess (inv.2 i) hi) (holds_of_nextAccess (inv.2 j) hj))

/-- **lockset_sound** (the one-mutex instance the pinned tree needs): every access to `f` under the screen mutex ⇒
    no reachable race on `f`. -/
theorem lockset_sound (ts : List Thread) (f : Nat) (h : ∀ t ∈ ts, GuardedBy screenMutex f false t) :
    ∀ c, Reach (initCfg ts) c → ¬ Race c f := lockset_sound_multi ts f screenMutex h

/-- the hypothesis of `lockset_sound_multi` is satisfiable by a non-trivial program with two mutexes: field 3 is
    guarded by mutex 1 (engage-like thread: takes 1 then 0, writes 3 and 4; disengage-like thread: takes 1 and 0,
    releases 0, reads 3 holding 1 only, re-takes 0) while field 5 is touched without any lock -/
example : ∀ t ∈ [[Action.lock 1, .lock 0, .wr 3, .wr 4, .unlock 0, .unlock 1, .wr 5],
                 [Action.rd 5, .lock 1, .lock 0, .wr 4, .unlock 0, .rd 3, .lock 0, .wr 4, .unlock 0, .unlock 1]],
    GuardedBy 1 3 false t := by
  intro t ht
  simp at ht
  rcases ht with rfl | rfl <;> simp [GuardedBy]

/-- … and in the same two programs field 4 is guarded by mutex 0 -/
example : ∀ t ∈ [[Action.lock 1, .lock 0, .wr 3, .wr 4, .unlock 0, .unlock 1, .wr 5],
                 [Action.rd 5, .lock 1, .lock 0, .wr 4, .unlock 0, .rd 3, .lock 0, .wr 4, .unlock 0, .unlock 1]],
    GuardedBy 0 4 false t := by
  intro t ht
  simp at ht
  rcases ht with rfl | rfl <;> simp [GuardedBy]

/-- the model does exhibit races when the discipline is broken: an unlocked writer (Beep-like) against a locked
    writer (draw-like) on the same field races in a reachable configuration -/
theorem unguarded_races : ∃ c, Reach (initCfg [[Action.wr 7], [Action.lock 0, .wr 7, .unlock 0]]) c ∧ Race c 7 := by
  refine ⟨_, Reach.step Reach.refl (Step.lock (i := 1) (m := 0) (r := [.wr 7, .unlock 0]) rfl (by intro j; simp [initCfg])), ?_⟩
  refine ⟨0, 1, true, true, by decide, ?_, ?_, Or.inl rfl⟩
  · simp [upd, initCfg, nextAccess]
  · simp [upd, initCfg, nextAccess]

/-- holding DIFFERENT mutexes does not help (the mutant "engage does not take `lifecycle`": `wg.Add` under the screen
    mutex only against `wg.Wait` under the lifecycle mutex only): both threads get their lock and race -/
theorem disjoint_locks_race : ∃ c, Reach (initCfg [[Action.lock 0, .wr 7, .unlock 0], [Action.lock 1, .rd 7, .unlock 1]]) c ∧ Race c 7 := by
  let c0 := initCfg [[Action.lock 0, .wr 7, .unlock 0], [Action.lock 1, .rd 7, .unlock 1]]
  have s1 : Step c0 _ := Step.lock (i := 0) (m := 0) (r := [.wr 7, .unlock 0]) rfl (by intro j; simp [c0, initCfg])
  refine ⟨_, Reach.step (Reach.step Reach.refl s1) (Step.lock (i := 1) (m := 1) (r := [.rd 7, .unlock 1]) (by simp [upd, c0, initCfg]) ?_), ?_⟩
  · intro j
    by_cases ej : j = 0
    · subst ej; simp [upd, c0, initCfg, setHold]
    · simp [upd, ej, c0, initCfg]
  · refine ⟨0, 1, true, false, by decide, ?_, ?_, Or.inl rfl⟩
    · simp [upd, c0, initCfg, nextAccess]
    · simp [upd, nextAccess]

/-! ## from facts to threads -/

theorem guardedBy_of_accesses (m f : Nat) (t : Thread) : ∀ h : Nat → Bool,
    (∀ a ∈ accessesOf h t, a.1 = f → a.2.2 m = true) → GuardedBy m f (h m) t := by
  induction t with
  | nil => exact fun _ _ => True.intro
  | cons a r ih =>
    intro h hc
    cases a with
    | rd g | wr g => exact ⟨hc _ (List.mem_cons_self ..), ih h fun a ha => hc a (List.mem_cons_of_mem _ ha)⟩
    | _ => exact ih _ hc

/-- **clean_field_race_free.**  Take any finite set of goroutines, each running any execution path of any entry
    point (a thread whose accesses are among the concurrent-phase facts extracted for that entry point, holding at
    least the mutexes the fact records).  If there is one mutex `m` that all concurrent-phase facts on field `f`
    hold, no reachable configuration has a race on `f`. -/
theorem clean_field_race_free (facts : List Fact) (f m : Nat) (ts : List (Nat × Thread))
    (hc : ∀ p ∈ ts, Conforms facts p.1 p.2)
    (hf : ∀ x ∈ facts, x.conc = true → x.field = f → x.holds m = true) :
    ∀ c, Reach (initCfg (ts.map (·.2))) c → ¬ Race c f := by
  apply lockset_sound_multi (m := m)
  intro t ht
  obtain ⟨p, hp, rfl⟩ := List.mem_map.1 ht
  refine guardedBy_of_accesses m f p.2 (fun _ => false) fun a ha ea => ?_
  obtain ⟨x, hx, -, hfld, -, hcx, hl⟩ := hc p hp a ha
  exact hl m (List.contains_iff_mem.1 (hf x hx hcx (hfld.trans ea)))

/-! ## the discipline check is sound (any list of facts) -/

/-- **discipline_sound** (generic: ANY list of facts, any classification inputs, any number of mutexes).  If the
    decidable check flags nothing, then for every field that is not exempt no schedule of any set of goroutines
    running execution paths of the extracted entry points has a data race on it: the check found a mutex common to
    all concurrent-phase accesses of the field and `lockset_sound_multi` applies. -/
theorem discipline_sound (facts : List Fact) (kinds syncs : List Nat) (nFields nMutex : Nat)
    (h : flaggedOf facts kinds syncs nFields nMutex = [])
    (f : Nat) (hne : f ∉ exemptFields facts kinds syncs nFields)
    (ts : List (Nat × Thread)) (hc : ∀ p ∈ ts, Conforms facts p.1 p.2) :
    ∀ c, Reach (initCfg (ts.map (·.2))) c → ¬ Race c f := by
  apply clean_field_race_free facts f ((guardsOf facts nMutex nFields).getD f 0) ts hc
  intro x hx hcx hfx
  have hok := List.filter_eq_nil_iff.1 h x hx
  simp only [Bool.not_eq_true', Bool.not_eq_false, factOk, hcx, hfx, Bool.not_true, Bool.false_or, Bool.or_eq_true] at hok
  rcases hok with he | hh
  · exact absurd (List.contains_iff_mem.1 he) hne
  · exact hh

/-- a miniature of the lifecycle fix (mutex 0 = screen, 1 = lifecycle; fields 0 = cells, 1 = wg.state, 2 = a sync
    primitive; entries 0 = SetContent, 1 = Resume/engage, 2 = Suspend/disengage): wg.Add holds {0,1}, wg.Wait holds {1},
    the tail of disengage writes cells holding {0,1}, SetContent writes cells holding {0} … -/
def miniFixed : List Fact :=
  [⟨0, 0, true, [0], true, false⟩, ⟨1, 0, true, [0, 1], true, false⟩, ⟨1, 1, true, [0, 1], true, false⟩,
   ⟨2, 1, false, [1], true, true⟩, ⟨2, 0, true, [0, 1], true, true⟩]

/-- … nothing is flagged (the hypothesis of `discipline_sound` is satisfiable with two mutexes): cells is guarded by the
    screen mutex, wg.state by lifecycle -/
example : flaggedOf miniFixed [0, 0, 0] [2] 3 2 = [] ∧ guardsOf miniFixed 2 3 = [0, 1, 0] ∧
    0 ∉ exemptFields miniFixed [0, 0, 0] [2] 3 ∧ 1 ∉ exemptFields miniFixed [0, 0, 0] [2] 3 := by decide

/-- the pinned shape (wg.Wait and the tail hold nothing): exactly the two accesses of disengage are flagged -/
example : flaggedOf [⟨0, 0, true, [0], true, false⟩, ⟨1, 0, true, [0], true, false⟩, ⟨1, 1, true, [0], true, false⟩,
    ⟨2, 1, false, [], true, true⟩, ⟨2, 0, true, [], true, true⟩] [0, 0, 0] [2] 3 1
    = [⟨2, 1, false, [], true, true⟩, ⟨2, 0, true, [], true, true⟩] := by decide

/-- the mutant "engage does not take lifecycle" (wg.Add holds {0}, wg.Wait holds {1}): the lock sets of wg.state are
    disjoint, the access that does not hold the lowest-numbered candidate (the Wait) is flagged — cf. `disjoint_locks_race` -/
example : flaggedOf [⟨0, 0, true, [0], true, false⟩, ⟨1, 0, true, [0], true, false⟩, ⟨1, 1, true, [0], true, false⟩,
    ⟨2, 1, false, [1], true, true⟩, ⟨2, 0, true, [0, 1], true, true⟩] [0, 0, 0] [2] 3 2
    = [⟨2, 1, false, [1], true, true⟩] := by decide

/-! ## the discipline on the regenerated facts

`exemptField` and `blameGuard` judge a field by the facts on that field alone, so the kernel sorts the facts by field
once (`byField`) and evaluates each field on its own share. -/

/-- entry `f` of the list holds the facts on field `f`, in extraction order -/
def byField (n : Nat) (facts : List Fact) : List (List Fact) :=
  facts.foldr (fun x bs => bs.modify x.field (x :: ·)) (List.replicate n [])

theorem byField_getElem? (n : Nat) (facts : List Fact) (f : Nat) :
    (byField n facts)[f]? = if f < n then some (facts.filter (·.field == f)) else none := by
  induction facts with
  | nil => simp [byField, List.getElem?_replicate]
  | cons x xs ih =>
    show ((byField n xs).modify x.field (x :: ·))[f]? = _
    rw [List.getElem?_modify, ih, List.filter_cons]
    by_cases hf : f < n <;> by_cases hx : x.field = f <;> simp [hf, hx]

theorem concWritten_filter (facts : List Fact) (f : Nat) :
    concWritten (facts.filter (·.field == f)) f = concWritten facts f := by
  rw [Bool.eq_iff_iff]
  simp only [concWritten, concWrittenList, List.contains_iff_mem, List.mem_filterMap, List.mem_filter]
  constructor
  · rintro ⟨x, ⟨hx, _⟩, h⟩; exact ⟨x, hx, h⟩
  · rintro ⟨x, hx, h⟩
    refine ⟨x, ⟨hx, ?_⟩, h⟩
    split at h <;> simp_all

theorem confinedTo_filter (facts : List Fact) (kinds : List Nat) (f : Nat) :
    confinedTo (facts.filter (·.field == f)) kinds f = confinedTo facts kinds f := by
  have h1 (x : Fact) : decide ((x.field == f) = true ∧ (x.field == f && x.conc) = true) = (x.field == f && x.conc) := by
    cases x.field == f <;> cases x.conc <;> rfl
  have h2 (e : Nat) (x : Fact) :
      (!(x.field == f) || (!(x.field == f && x.conc) || x.entry == e)) = (!(x.field == f && x.conc) || x.entry == e) := by
    cases x.field == f <;> simp
  unfold confinedTo
  simp only [List.find?_filter, List.all_filter, h1, h2]

theorem blameGuard_filter (facts : List Fact) (nMutex f : Nat) :
    blameGuard (facts.filter (·.field == f)) nMutex f = blameGuard facts nMutex f := by
  have h1 : guardedBy (facts.filter (·.field == f)) f = guardedBy facts f := by
    funext m; unfold guardedBy; rw [List.all_filter]; congr; funext x; cases x.field == f <;> simp
  have h2 : heldBySome (facts.filter (·.field == f)) f = heldBySome facts f := by
    funext m; unfold heldBySome; rw [List.any_filter]; congr; funext x; cases x.field == f <;> simp
  unfold blameGuard commonGuard
  rw [h1, h2]

theorem exemptField_filter (facts : List Fact) (kinds syncs : List Nat) (f : Nat) :
    exemptField (facts.filter (·.field == f)) kinds syncs f = exemptField facts kinds syncs f := by
  unfold exemptField
  rw [concWritten_filter, confinedTo_filter]

/-- the exempt fields and the guard of every field, each field judged on its share of the facts -/
def classify (facts : List Fact) (kinds syncs : List Nat) (nFields nMutex : Nat) : List Nat × List Nat :=
  ((List.range nFields).filter fun f => exemptField ((byField nFields facts).getD f []) kinds syncs f,
   (List.range nFields).map fun f => blameGuard ((byField nFields facts).getD f []) nMutex f)

theorem classify_eq (facts : List Fact) (kinds syncs : List Nat) (nFields nMutex : Nat) :
    classify facts kinds syncs nFields nMutex = (exemptFields facts kinds syncs nFields, guardsOf facts nMutex nFields) := by
  have h : ∀ f ∈ List.range nFields, (byField nFields facts).getD f [] = facts.filter (·.field == f) := by
    intro f hf
    rw [List.getD_eq_getElem?_getD, byField_getElem?, if_pos (List.mem_range.1 hf)]; rfl
  unfold classify exemptFields guardsOf
  congr 1
  · exact List.filter_congr fun f hf => by rw [h f hf, exemptField_filter]
  · exact List.map_congr_left fun f hf => by rw [h f hf, blameGuard_filter]

open Tcell.Gen.LockFacts in
theorem classify_tree :
    (exemptFields facts entryKind syncFields nFields, guardsOf facts nMutexes nFields) = (exempt, guards) :=
  (classify_eq ..).symm.trans (by decide +kernel)

open Tcell.Gen.LockFacts in
/-- **exempt_exact.**  The kernel recomputes the classification of every struct field from the regenerated facts
    (synchronisation primitive by declared type / never written in the concurrent phase / confined to one internal
    goroutine) and finds the exempt list the translator reported. -/
theorem exempt_exact : exemptFields facts entryKind syncFields nFields = exempt := congrArg Prod.fst classify_tree

open Tcell.Gen.LockFacts in
/-- **guards_exact.**  The kernel recomputes for every field the mutex its accesses are judged against — a mutex in the
    intersection of the lock sets of all its concurrent-phase accesses when there is one — and finds the list the
    translator reported. -/
theorem guards_exact : guardsOf facts nMutexes nFields = guards := congrArg Prod.snd classify_tree

/-- `factOk` with membership in the exempt list looked up in a table for the fields below `n` (walking the list once per
fact is what makes the direct evaluation slow) -/
def factOkTab (n : Nat) (exempt guards : List Nat) (x : Fact) : Bool :=
  !x.conc || (if x.field < n then ((List.range n).map exempt.contains).getD x.field false else exempt.contains x.field) ||
    x.holds (guards.getD x.field 0)

theorem factOkTab_eq (n : Nat) (exempt guards : List Nat) : factOkTab n exempt guards = factOk exempt guards := by
  funext x
  unfold factOkTab factOk
  rw [List.getD_eq_getElem?_getD, List.getElem?_map]
  by_cases h : x.field < n <;> simp [h]

open Tcell.Gen.LockFacts in
/-- **flagged_exact.**  The kernel recomputes, with the Lean definition of the discipline, the list of violating
    facts from the regenerated `facts` and finds exactly the list the translator reported (`flagged`).  On the
    pinned tree the list is not empty: it consists of the accesses the tail of disengage makes without any mutex
    (entered from Suspend and Fini; `wg.Wait` included: `wg.Add` holds the screen mutex, `wg.Wait` nothing).  With fix
    C10-disengage-lifecycle it is empty.  The race harness must reproduce every flagged entry point. -/
theorem flagged_exact : flaggedOf facts entryKind syncFields nFields nMutexes = flagged := by
  unfold flaggedOf flaggedWith
  rw [exempt_exact, guards_exact, ← factOkTab_eq nFields]
  decide +kernel

open Tcell.Gen.LockFacts in
/-- the discipline on one fact of the tree under test: init-phase access, or exempt field (synchronisation primitive,
    never written in the concurrent phase, or confined to one internal goroutine), or the access holds the field's guard -/
abbrev FactOkTree (x : Fact) : Prop :=
  factOk (exemptFields facts entryKind syncFields nFields) (guardsOf facts nMutexes nFields) x = true

open Tcell.Gen.LockFacts in
/-- **discipline_partial.**  Every extracted fact outside the flagged list respects the lockset discipline.
    WHY PARTIAL on the pinned tree: the full `discipline` — `flagged = []` — is false there.  After /repo da67ed6
    (Beep, CanDisplay, SetSize) and 5249fc9 (simscreen methods) the regenerated `flagged` list consists exactly of the
    accesses made by the tail of `disengage` when entered from `tscreen/Fini` and `tscreen/Suspend` (`flagged_only_disengage`:
    `wg.state`, `cells`, `buffering`, `buf`, `tty.out`, `cursorShaped`, `cursorTinted` after the lock was released for
    `wg.Wait`): the findings `C10-disengage-tail` / `C10-loops-overlap`, reproduced by engine `race` under the race
    detector on every run.  On a tree with fix C10-disengage-lifecycle `flagged = []` and `discipline_tree` is the
    full statement. -/
theorem discipline_partial : ∀ x ∈ facts, x ∈ flagged ∨ FactOkTree x := by
  intro x hx
  rw [← flagged_exact]
  cases hok : factOk (exemptFields facts entryKind syncFields nFields) (guardsOf facts nMutexes nFields) x
  · exact .inl (List.mem_filter.2 ⟨hx, by rw [hok]; rfl⟩)
  · exact .inr hok

open Tcell.Gen.LockFacts in
/-- the two entry points whose `disengage` tail is the finding on the pinned tree -/
def disengageEntries : List Nat := [entryNames.idxOf "tscreen/Fini", entryNames.idxOf "tscreen/Suspend"]

open Tcell.Gen.LockFacts in
/-- on the tree under test every flagged fact belongs to `tscreen/Fini` or `tscreen/Suspend`, is a concurrent-phase access
    that does not hold the screen mutex, and both names are real entry points (kernel evaluation over the regenerated
    facts); mutex 0 is the embedded mutex of tScreen -/
theorem flagged_only_disengage :
    flagged.all (fun x => disengageEntries.contains x.entry && x.conc && !x.holds screenMutex) = true ∧
    disengageEntries.all (fun e => decide (e < entryNames.length)) = true ∧
    mutexNames.head? = some "tscreen/Mutex" := by decide +kernel

open Tcell.Gen.LockFacts in
/-- **discipline_except_disengage** (full strength for every other entry point, either variant of the tree): every extracted
    fact of EVERY entry point of tScreen and simscreen other than `tscreen/Fini` and `tscreen/Suspend` — Beep, SetSize,
    CanDisplay and the simscreen methods that were flagged before da67ed6 / 5249fc9 included — respects the lockset discipline. -/
theorem discipline_except_disengage : ∀ x ∈ facts, x.entry ∉ disengageEntries → FactOkTree x := by
  intro x hx hne
  rcases discipline_partial x hx with hf | hok
  · exfalso
    have := List.all_eq_true.1 flagged_only_disengage.1 x hf
    simp only [Bool.and_eq_true, List.contains_iff_mem] at this
    exact hne (by simpa using this.1.1)
  · exact hok

open Tcell.Gen.LockFacts in
/-- non-vacuity: facts of the formerly flagged entry points exist and are covered (Beep writes `buf` holding the screen mutex) -/
example : ∃ x ∈ facts, x.entry = entryNames.idxOf "tscreen/Beep" ∧ x.entry ∉ disengageEntries ∧ x.wr = true ∧ x.holds screenMutex = true := by
  decide +kernel

open Tcell.Gen.LockFacts in
/-- **discipline** (full strength, no exception): when the regenerated flagged list is empty EVERY extracted fact of EVERY
    entry point — Fini and Suspend included — respects the discipline. -/
theorem discipline (h : flagged = []) : ∀ x ∈ facts, FactOkTree x := by
  intro x hx
  rcases discipline_partial x hx with hf | hok
  · rw [h] at hf; cases hf
  · exact hok

open Tcell.Gen.LockFacts in
/-- **discipline_tree** (headline; the kernel decides which variant the tree under test is): on a tree whose regenerated
    flagged list is empty (fix C10-disengage-lifecycle: the `lifecycle` mutex serialises engage/disengage — `wg.Add`
    holds {lifecycle, screen}, `wg.Wait` holds {lifecycle}, the tail of disengage holds both) every fact respects the
    discipline, unconditionally; on the pinned tree every fact of every entry point but Fini/Suspend does. -/
theorem discipline_tree :
    if flagged.isEmpty then ∀ x ∈ facts, FactOkTree x
    else ∀ x ∈ facts, x.entry ∉ disengageEntries → FactOkTree x := by
  split
  · rename_i h
    exact discipline (List.isEmpty_iff.1 h)
  · exact discipline_except_disengage

open Tcell.Gen.LockFacts in
/-- fields of class "must be guarded" that no flagged fact mentions: on these `clean_field_race_free` applies -/
def cleanFields : List Nat :=
  (List.range nFields).filter fun f => !exempt.contains f && !flagged.any (·.field == f)

open Tcell.Gen.LockFacts in
/-- **clean_fields_held.**  For every clean field all concurrent-phase facts hold the field's guard mutex … -/
theorem clean_fields_held : ∀ f ∈ cleanFields, ∀ x ∈ facts, x.conc = true → x.field = f → x.holds (guards.getD f 0) = true := by
  intro f hf x hx hc he
  have hclean : f ∉ exempt ∧ ∀ y ∈ flagged, ¬ y.field = f := by simpa [cleanFields] using (List.mem_filter.1 hf).2
  rcases discipline_partial x hx with hfl | hok
  · exact absurd he (hclean.2 x hfl)
  · unfold FactOkTree at hok
    rw [exempt_exact, guards_exact] at hok
    simpa [factOk, hc, he, hclean.1] using hok

open Tcell.Gen.LockFacts in
/-- … hence **no schedule of any set of goroutines running extracted entry points races on a clean field**
    (on the pinned tree exactly the guarded-class fields that the tail of disengage does not touch; with fix
    C10-disengage-lifecycle every guarded-class field, see `fields_race_free_tree`). -/
theorem clean_fields_race_free (f : Nat) (hf : f ∈ cleanFields) (ts : List (Nat × Thread))
    (hc : ∀ p ∈ ts, Conforms facts p.1 p.2) : ∀ c, Reach (initCfg (ts.map (·.2))) c → ¬ Race c f :=
  clean_field_race_free facts f (guards.getD f 0) ts hc (clean_fields_held f hf)

open Tcell.Gen.LockFacts in
/-- the clean list is not vacuous on the current tree -/
example : cleanFields ≠ [] := by decide +kernel

open Tcell.Gen.LockFacts in
/-- when nothing is flagged every field that needs protection is clean -/
theorem clean_fields_all (h : flagged = []) (f : Nat) (hlt : f < nFields) (hne : f ∉ exempt) : f ∈ cleanFields := by
  unfold cleanFields
  rw [List.mem_filter]
  refine ⟨List.mem_range.2 hlt, ?_⟩
  rw [h]
  simp [hne]

open Tcell.Gen.LockFacts in
/-- **fields_race_free_tree** (headline; the kernel decides which variant the tree under test is): on a tree whose
    regenerated flagged list is empty, for EVERY struct field of tScreen and simscreen that is not exempt (synchronisation
    primitive / init-only / confined to one internal goroutine) no schedule of any set of goroutines running extracted
    entry points has a data race — `cells`, `buf`, `tty.out`, `running`, `wg.state`, the cursor state … included; on the
    pinned tree the statement is the `cleanFields` one. -/
theorem fields_race_free_tree (f : Nat) (ts : List (Nat × Thread)) (hc : ∀ p ∈ ts, Conforms facts p.1 p.2) :
    if flagged.isEmpty then (f < nFields → f ∉ exempt → ∀ c, Reach (initCfg (ts.map (·.2))) c → ¬ Race c f)
    else (f ∈ cleanFields → ∀ c, Reach (initCfg (ts.map (·.2))) c → ¬ Race c f) := by
  split
  · rename_i h
    intro hlt hne
    exact clean_fields_race_free f (clean_fields_all (List.isEmpty_iff.1 h) f hlt hne) ts hc
  · intro hf
    exact clean_fields_race_free f hf ts hc

open Tcell.Gen.LockFacts in
/-- `wg.state` (the pseudo-field standing for the WaitGroup counter: `Add` a write, `Wait` a read, `Done` pure
    synchronisation) is a field that needs protection on either variant — so `fields_race_free_tree` is about it — and
    `running`, `cells`, `buf`, `tty.out` are too -/
example : ["tscreen/wg.state", "tscreen/running", "tscreen/cells", "tscreen/buf", "tscreen/tty.out"].all
    (fun n => decide (fieldNames.idxOf n < nFields) && !exempt.contains (fieldNames.idxOf n)) = true := by decide +kernel

open Tcell.Gen.LockFacts in
/-- `Conforms` is satisfiable on the regenerated facts: the path `Lock; t.style = …; Unlock` of SetStyle (tscreen.go:687) -/
example : Conforms facts (entryNames.idxOf "tscreen/SetStyle")
    [.lock 0, .wr (fieldNames.idxOf "tscreen/style"), .unlock 0] := by
  intro a ha
  simp only [accessesOf, List.mem_singleton] at ha
  subst ha
  refine ⟨⟨entryNames.idxOf "tscreen/SetStyle", fieldNames.idxOf "tscreen/style", true, [0], true, false⟩, by decide +kernel, rfl, rfl, rfl, rfl, ?_⟩
  intro k hk
  simp at hk
  subst hk
  rfl

/-! ## Show reaches the tty as one contiguous block -/

/-- invariant about the screen mutex (mutex 0) and the output log; the other mutexes play no role -/
def BInv (c : Cfg) : Prop :=
  Excl 0 c ∧
  (∀ i, EmitGuarded ((c.th i).holds 0) (c.th i).rest) ∧
  Chunked (tags c) ∧
  (∀ i k, (i, k) ∈ tags c → k ≤ (c.th i).sec) ∧
  (∀ i, (c.th i).holds 0 = true → (i, (c.th i).sec) ∈ tags c → (tags c).head? = some (i, (c.th i).sec))

theorem binv_init (ts : List Thread) (h : ∀ t ∈ ts, EmitGuarded false t) : BInv (initCfg ts) :=
  ⟨fun i j hi => by simp [initCfg] at hi, initCfg_rest ts True.intro h, by simp [tags, initCfg, Chunked],
    fun i k hk => by simp [tags, initCfg] at hk, fun i hi => by simp [initCfg] at hi⟩

theorem binv_step {c c' : Cfg} (hi : BInv c) (hs : Step c c') : BInv c' := by
  obtain ⟨hmx, hg, hch, hbd, hhd⟩ := hi
  refine ⟨excl_step 0 hmx hs, local_step (P := fun s => EmitGuarded (s.holds 0) s.rest) hs hg ?_, ?_⟩
  · intro s a r hr h
    rw [hr] at h
    cases a <;> simp only [EmitGuarded, TState.after, setHold, @eq_comm _ 0] at h ⊢ <;> first | exact h | exact h.2
  obtain ⟨i, a, r, hr, hth, hlog, hfree⟩ := step_effect hs
  have hgi := hg i
  rw [hr] at hgi
  have hsec (x : Nat) : (c'.th x).sec = (c.th x).sec + (if x = i ∧ a = .lock 0 then 1 else 0) := by
    rw [hth]
    by_cases e : x = i
    · subst e; rw [upd_same]; cases a <;> simp [TState.after]
    · simp [upd_other _ _ _ _ e, e]
  have htag : tags c' = (logged i (c.th i).sec a).map (fun e => (e.1, e.2.1)) ++ tags c := by
    rw [tags, hlog, List.map_append]; rfl
  by_cases ha : a = .lock 0
  · -- the thread enters a new critical section: nothing of it is in the log yet
    subst ha
    rw [htag]
    refine ⟨hch, fun x k hk => ?_, fun x hx hin => ?_⟩
    · rw [hsec]; exact Nat.le_add_right_of_le (hbd x k hk)
    · rcases holds_after hth hx with h | ⟨rfl, -⟩
      · simp [hfree 0 rfl x] at h
      · rw [hsec] at hin
        exact absurd (hbd _ _ hin) (by simp)
  · have hsec' (x : Nat) : (c'.th x).sec = (c.th x).sec := by rw [hsec]; simp [ha]
    have hold (x : Nat) (hx : (c'.th x).holds 0 = true) : (c.th x).holds 0 = true :=
      (holds_after hth hx).resolve_right fun h => ha h.2
    cases a with
    | emit b =>
      have hih : (c.th i).holds 0 = true := hgi.1
      rw [htag]
      refine ⟨⟨hch, hhd i hih⟩, fun x k hk => ?_, fun x hx _ => ?_⟩
      · rw [hsec']
        rcases List.mem_cons.1 hk with e | hk
        · cases e; exact Nat.le_refl _
        · exact hbd x k hk
      · cases hmx x i (hold x hx) hih
        rw [hsec']; rfl
    | _ =>
      rw [htag]
      exact ⟨hch, fun x k hk => by rw [hsec']; exact hbd x k hk,
        fun x hx hin => by rw [hsec'] at hin ⊢; exact hhd x (hold x hx) hin⟩

theorem binv_reach {c0 c : Cfg} (h0 : BInv c0) (hr : Reach c0 c) : BInv c := by
  induction hr with
  | refl => exact h0
  | step _ hs ih => exact binv_step ih hs

/-- **show_block_contiguous** (model level).  If every emission to the tty, in every thread, is made while
    holding the screen mutex (mutex 0; whatever other mutexes the threads take, `lifecycle` of the fix included),
    then in every reachable configuration — any number of threads, any schedule — the
    output stream is a sequence of runs, one per (thread, critical section): what one critical section (one
    Show: draw buffers and issues its single Write under the lock) emitted is never split by foreign bytes. -/
theorem blocks_contiguous (ts : List Thread) (h : ∀ t ∈ ts, EmitGuarded false t) :
    ∀ c, Reach (initCfg ts) c → Chunked (tags c) :=
  fun _ hr => (binv_reach (binv_init ts h) hr).2.2.1

theorem chunked_tail {α : Type} {a : α} {l : List α} (h : Chunked (a :: l)) : Chunked l := h.1

theorem chunked_drop {α : Type} (l1 l : List α) (h : Chunked (l1 ++ l)) : Chunked l := by
  induction l1 with
  | nil => exact h
  | cons a l1 ih => exact ih (chunked_tail h)

/-- what `Chunked` means: between two occurrences of the same tag there are only occurrences of that tag -/
theorem chunked_no_split {α : Type} (a : α) (l2 : List α) : ∀ (l1 l3 : List α),
    Chunked (l1 ++ a :: (l2 ++ a :: l3)) → ∀ b ∈ l2, b = a := by
  induction l2 with
  | nil => intro _ _ _ b hb; cases hb
  | cons x l2 ih =>
    intro l1 l3 h b hb
    have h1 : Chunked (a :: (x :: l2 ++ a :: l3)) := chunked_drop l1 _ h
    have hx : x = a := by
      have := h1.2 (by simp)
      simp at this
      exact this
    rcases List.mem_cons.1 hb with rfl | hb'
    · exact hx
    · subst hx
      exact ih [x] l3 (by simpa using h1) b hb'

/-- hypotheses of `blocks_contiguous` are satisfiable: two Show-like threads and a Beep-like thread that takes the lock -/
example : ∀ t ∈ [[Action.lock 0, .emit 27, .emit 91, .unlock 0, .lock 0, .emit 27, .unlock 0], [Action.lock 0, .emit 7, .unlock 0],
                 [Action.lock 1, .lock 0, .emit 27, .unlock 0, .wr 2, .lock 0, .emit 99, .unlock 0, .unlock 1]],
    EmitGuarded false t := by
  intro t ht
  simp at ht
  rcases ht with rfl | rfl | rfl <;> simp [EmitGuarded]

/-- and an unlocked emitter (Beep as it is, tscreen.go:2100) does split a block in the model:
    thread 0 = Show emitting bytes 1,2 under the lock, thread 1 = Beep emitting 7 without it -/
theorem unguarded_emit_splits : ∃ c, Reach (initCfg [[Action.lock 0, .emit 1, .emit 2, .unlock 0], [Action.emit 7]]) c ∧
    ¬ Chunked (tags c) := by
  let c0 := initCfg [[Action.lock 0, .emit 1, .emit 2, .unlock 0], [Action.emit 7]]
  have s1 : Step c0 _ := Step.lock (i := 0) (m := 0) (r := [.emit 1, .emit 2, .unlock 0]) rfl (by intro j; simp [c0, initCfg])
  have s2 := Step.emit (c := ⟨upd c0.th 0 ⟨setHold (c0.th 0).holds 0 true, (c0.th 0).sec + (if (0:Nat) = 0 then 1 else 0), [.emit 1, .emit 2, .unlock 0]⟩, c0.log⟩) (i := 0) (b := 1) (r := [.emit 2, .unlock 0]) (by simp [upd])
  have s3 := Step.emit (c := _) (i := 1) (b := 7) (r := []) (by simp [upd, c0, initCfg]) |> Reach.step (Reach.step (Reach.step Reach.refl s1) s2)
  refine ⟨_, Reach.step s3 (Step.emit (i := 0) (b := 2) (r := [.unlock 0]) (by simp [upd])), ?_⟩
  simp [tags, Chunked, upd, c0, initCfg]

open Tcell.Gen.LockFacts in
/-- **show_block_shape** (facts level; kernel-evaluated on the regenerated facts).  (1) draw sets `buffering` before
    its first emission, resets it in a deferred function and hands `buf` to the tty exactly once, as its last
    statement; the only other functions that hand `t.tty` to a writer are writeString and TPuts and both choose
    `&t.buf` when `buffering`.  (2) Every fact of `Show`, `Sync` and `mainLoop` on `buf`, `buffering` and `tty.out` holds
    the screen mutex.  Together with `blocks_contiguous`: a Show's bytes form one block; the block can only be split or
    polluted by an entry point that is *flagged* on `buf`/`buffering`/`tty.out`. -/
theorem show_block_shape :
    (drawSetsBuffering && drawResetsBufferingDeferred && drawSingleFinalWrite && writersBranchOnBuffering) = true ∧
    (facts.all fun x =>
      !(x.conc && (entryNames.getD x.entry "" == "tscreen/Show" || entryNames.getD x.entry "" == "tscreen/Sync" ||
                   entryNames.getD x.entry "" == "tscreen/mainLoop") &&
        (fieldNames.getD x.field "" == "tscreen/buf" || fieldNames.getD x.field "" == "tscreen/buffering" ||
         fieldNames.getD x.field "" == "tscreen/tty.out")) || x.holds screenMutex) = true := by
  constructor <;> decide +kernel

end Tcell.Props.C10
