import Tcell.Model.Cell
import Tcell.Model.Color
import Tcell.Spec.Color
import Tcell.Gen.Consts
import Tcell.Lemmas.Color
import Tcell.Lemmas.FindColor
/-
C16 — "Colour table, names and conversions are exact; FindColor is optimal".

Table theorems rest on kernel evaluations that walk the regenerated `Gen.colorValues` / `Gen.colorNames` once, in step
with the reference table (so they are re-proved against whatever color.go says today); conversion laws are proved for all inputs (no `bv_decide`: bit facts via
`Nat.testBit`, arithmetic via `omega`); the FindColor theorems hold for every metric, palette and colour.
-/
namespace Tcell.Props.C16
open Tcell Tcell.Color Tcell.Spec.Color

/-! ## constants and table sanity -/

/-- the model's flag constants are the ones of color.go (regenerated `Gen.Consts`) -/
theorem consts_match :
    fValid = Gen.colorValid ∧ fIsRGB = Gen.colorIsRGB ∧ fSpecial = Gen.colorSpecial ∧ cDefault = Gen.colorDefault ∧
    Tcell.colorReset = Gen.colorReset ∧ Tcell.colorNone = Gen.colorNone := by decide

/-- strictly increasing = sorted without duplicates -/
def increasing : List Nat → Bool
  | a :: b :: t => decide (a < b) && increasing (b :: t)
  | _ => true

/-- the regenerated ColorValues has no duplicate key (list lookup = Go map lookup) -/
theorem colorValues_keys_increasing : increasing (Gen.colorValues.map (·.1)) = true := by decide +kernel

theorem increasing_eq : ∀ l : List Nat, increasing l = chainB (fun a b => decide (a < b)) l
  | [] | [_] => rfl
  | a :: b :: t => by rw [increasing, chainB, increasing_eq (b :: t)]

theorem colorValues_nodup : Gen.colorValues.Pairwise (fun p q => p.1 ≠ q.1) :=
  List.pairwise_map.mp <| pairwise_ne_of_sorted Nat.lt_trans Nat.lt_irrefl id
    ((increasing_eq _).symm.trans colorValues_keys_increasing)

/-- an RGB-flagged key of ColorValues (the named colours ≥ 256) maps to its own low 24 bits, so `Hex()` does not depend on
which branch answers -/
theorem colorValues_rgb_consistent :
    ∀ p ∈ Gen.colorValues, p.1.testBit 33 = true → p.2 = ((p.1 % 2^24 : Nat) : Int) := by decide +kernel

/-! ## palette = xterm -/

/-- the table starts with the 256 palette colours in order, each with its xterm RGB value -/
theorem colorValues_palette :
    Gen.colorValues.take 256 = (List.range 256).map fun (i : Nat) => (paletteColor i, (xtermRGB i : Int)) := by
  decide +kernel

/-- ColorValues holds, for each of the 256 palette colours, exactly the xterm RGB value -/
theorem palette_xterm : ∀ i : Nat, i < 256 → lookupValue (paletteColor i) = some (xtermRGB i : Int) :=
  fun i hi => lookup_of_mem colorValues_nodup <| List.mem_of_mem_take <| by
    rw [colorValues_palette]; exact List.mem_map.mpr ⟨i, List.mem_range.mpr hi, rfl⟩

theorem palette_flags : ∀ i : Nat, i < 256 → valid (paletteColor i) = true ∧ isRGB (paletteColor i) = false := by
  decide +kernel

theorem palette_not_rgbBit (i : Nat) (hi : i < 256) : (paletteColor i).testBit 33 = false := by
  have f := palette_flags i hi
  rw [isRGB_eq, ← valid_eq, f.1] at f
  exact f.2

/-- … and so do `Hex()` and `RGB()` of `PaletteColor(i)`; the palette colours are valid and not RGB-flagged -/
theorem palette_hex : ∀ i : Nat, i < 256 → hex (paletteColor i) = (xtermRGB i : Int) := fun i hi => by
  rw [hex_of_palette _ (palette_flags i hi).1 (palette_not_rgbBit i hi), palette_xterm i hi]; rfl

theorem xtermRGB_channels : ∀ i : Nat, i < 256 →
    (xtermRGB i / 65536 % 256, xtermRGB i / 256 % 256, xtermRGB i % 256) = xtermChannels i := by decide +kernel

theorem palette_rgb : ∀ i : Nat, i < 256 →
    rgb (paletteColor i) = (((xtermChannels i).1 : Int), ((xtermChannels i).2.1 : Int), ((xtermChannels i).2.2 : Int)) := by
  intro i hi
  rw [rgb_of_hex_nonneg _ (by rw [palette_hex i hi]; omega), palette_hex i hi, ← xtermRGB_channels i hi]
  refine Prod.ext ?_ (Prod.ext ?_ ?_) <;> simp only [] <;> omega

/-- `TrueColor()` of a palette colour is the RGB-flagged colour of its xterm value -/
theorem palette_trueColor : ∀ i : Nat, i < 256 → trueColor (paletteColor i) = newHexColor (xtermRGB i) := by
  intro i hi
  rw [trueColor_of_palette _ (palette_flags i hi).1 (palette_not_rgbBit i hi), palette_hex i hi]

/-- the xterm reference really is 16 basic colours + cube + grey ramp (spot values from the xterm chart) -/
example : xtermRGB 1 = 0x800000 ∧ xtermRGB 15 = 0xffffff ∧ xtermRGB 16 = 0 ∧ xtermRGB 21 = 0x0000ff ∧ xtermRGB 67 = 0x5f87af ∧
    xtermRGB 196 = 0xff0000 ∧ xtermRGB 231 = 0xffffff ∧ xtermRGB 232 = 0x080808 ∧ xtermRGB 255 = 0xeeeeee := by decide

/-! ## names = CSS -/

/-- `GetColor(name)` has the CSS value: the name is known and its colour's `Hex()` is the CSS one -/
def NameOk (p : String × Nat) : Prop := ∃ c, lookupName p.1 = some c ∧ valid c = true ∧ hex c = (p.2 : Int)

instance (p : String × Nat) : Decidable (NameOk p) :=
  match h : lookupName p.1 with
  | some c => if h2 : valid c = true ∧ hex c = (p.2 : Int) then isTrue ⟨c, h, h2.1, h2.2⟩
              else isFalse (fun ⟨c', h1, hv, hh⟩ => by rw [h] at h1; cases h1; exact h2 ⟨hv, hh⟩)
  | none => isFalse (fun ⟨_, h1, _⟩ => by rw [h] at h1; cases h1)

/-- a name as a byte string: these are cheap for the kernel to compare, names are not -/
def nameKey (s : String) : List Nat := s.toByteArray.data.toList.map UInt8.toNat

theorem cssNames_sorted : chainB (fun p q : String × Nat => decide (nameKey p.1 < nameKey q.1)) cssNames = true := by
  decide +kernel

theorem cssNames_nodup : cssNames.Pairwise (fun p q => p.1 ≠ q.1) :=
  (pairwise_ne_of_sorted List.lt_trans List.lt_irrefl (fun p : String × Nat => nameKey p.1) cssNames_sorted).imp
    fun h e => h (congrArg nameKey e)

/-- the regenerated ColorNames and the CSS table list the same names in the same order, each tcell colour valid and
with the CSS value as its `Hex()`: one walk along both tables, from which the theorems below follow by membership -/
theorem names_table :
    Gen.colorNames.map (fun p => (p.1, valid p.2, hex p.2)) = cssNames.map (fun p => (p.1, true, (p.2 : Int))) := by
  decide +kernel

theorem colorNames_nodup : Gen.colorNames.Pairwise (fun p q => p.1 ≠ q.1) := by
  have keys := congrArg (List.map Prod.fst) names_table
  rw [List.map_map, List.map_map] at keys
  have h : (cssNames.map (·.1)).Pairwise (· ≠ ·) := List.pairwise_map.mpr cssNames_nodup
  rw [← show Gen.colorNames.map (·.1) = cssNames.map (·.1) from keys] at h
  exact List.pairwise_map.mp h

/-- **names_css** (full strength, current tree): EVERY one of the 148 W3C/CSS colour names is known to `GetColor` and has
exactly its CSS value.  By `names_table`, a kernel evaluation over the regenerated `Gen.colorNames`; holds since /repo 4dcedc1 added `cyan` and
`magenta` (before that commit only the statement with those two names excepted held — finding `C16-css-names-missing`; on such
a tree this declaration fails to check and the oracle of engine `color` reports the missing names on the real code). -/
theorem names_css : ∀ p ∈ cssNames, NameOk p := by
  intro p hp
  obtain ⟨q, hq, e⟩ := List.mem_map.mp (names_table ▸ List.mem_map_of_mem hp)
  simp only [Prod.mk.injEq] at e
  exact ⟨q.2, lookup_of_mem colorNames_nodup (by rw [← e.1]; exact hq), e.2.1, e.2.2⟩

/-- every W3C/CSS colour name that tcell knows has exactly its CSS value (no wrong entry) -/
theorem names_css_values : ∀ p ∈ cssNames, ∀ c, lookupName p.1 = some c → valid c = true ∧ hex c = (p.2 : Int) := by
  intro p hp c hc
  obtain ⟨c', h, hv⟩ := names_css p hp
  cases hc.symm.trans h
  exact hv

/-- the two names the pinned tree lacked are among the names the theorem covers, with the CSS values of their synonyms
aqua / fuchsia -/
example : ("cyan", 0x00ffff) ∈ cssNames ∧ ("magenta", 0xff00ff) ∈ cssNames ∧ NameOk ("cyan", 0x00ffff) ∧ NameOk ("magenta", 0xff00ff) := by
  decide +kernel

/-- tree-independent form (also true on a tree without the two names, where the premise is false): presence of the two names
is the only thing `names_css` needs beyond `names_css_values`. -/
theorem names_css_of_cyan_magenta :
    (lookupName "cyan").isSome = true → (lookupName "magenta").isSome = true → ∀ p ∈ cssNames, NameOk p :=
  fun _ _ => names_css

/-- conversely, every name tcell lists is a CSS name and carries the CSS value (no non-standard extras, no wrong value) -/
theorem names_subset_css : ∀ p ∈ Gen.colorNames, valid p.2 = true ∧ (cssValue p.1).map (fun v => (v : Int)) = some (hex p.2) := by
  intro p hp
  obtain ⟨q, hq, e⟩ := List.mem_map.mp (names_table ▸ List.mem_map_of_mem hp)
  simp only [Prod.mk.injEq] at e
  refine ⟨e.2.1.symm, ?_⟩
  rw [cssValue, lookup_of_mem cssNames_nodup (by rw [← e.1]; exact hq), ← e.2.2]; rfl

/-- `GetColor` returns the table entry for a known name -/
theorem getColor_name (n : String) (c : Nat) (h : lookupName n = some c) : getColor n = c := by
  unfold getColor; rw [h]

/-- non-vacuity: the CSS table is the 148-name table and e.g. rebeccapurple is checked -/
example : cssNames.length = 148 ∧ NameOk ("rebeccapurple", 0x663399) ∧ NameOk ("darkslategrey", 0x2f4f4f) := by decide +kernel

/-! ## conversions, for all colours -/

/-- NewRGBColor then RGB is the identity on byte triples -/
theorem rgb_newRGBColor (r g b : Int) (hr : 0 ≤ r ∧ r < 256) (hg : 0 ≤ g ∧ g < 256) (hb : 0 ≤ b ∧ b < 256) :
    rgb (newRGBColor r g b) = (r, g, b) := by
  rw [rgb_newRGBColor_general]
  refine Prod.ext ?_ (Prod.ext ?_ ?_) <;> simp only [] <;> omega

/-- for arbitrary int32 arguments the `& 0xff` masks apply (observation outside the statement) -/
theorem rgb_newRGBColor_any (r g b : Int) : rgb (newRGBColor r g b) = (r % 256, g % 256, b % 256) :=
  rgb_newRGBColor_general r g b

theorem hex_newRGBColor (r g b : Int) (hr : 0 ≤ r ∧ r < 256) (hg : 0 ≤ g ∧ g < 256) (hb : 0 ≤ b ∧ b < 256) :
    hex (newRGBColor r g b) = r * 65536 + g * 256 + b := by
  rw [Color.hex_newRGBColor]; omega

/-- Hex ∘ NewHexColor = id on 0 … 2^24-1 -/
theorem hex_newHexColor (v : Int) (h0 : 0 ≤ v) (h1 : v < 2^24) : hex (newHexColor v) = v := by
  rw [hex_newHexColor_general]; omega

/-- for any int32 (negative included) the result is valid, RGB-flagged, and `Hex()` is the low 24 bits of the
two's-complement value (observation outside the statement: `NewHexColor(-1)` is the all-ones colour) -/
theorem newHexColor_any (v : Int) :
    valid (newHexColor v) = true ∧ isRGB (newHexColor v) = true ∧ hex (newHexColor v) = v % 2^24 :=
  ⟨valid_newHexColor v, isRGB_newHexColor v, hex_newHexColor_general v⟩

/-- the value NewHexColor builds for a 24-bit argument is exactly `ColorIsRGB + ColorValid + v` -/
theorem newHexColor_value (v : Int) (h0 : 0 ≤ v) (h1 : v < 2^24) : newHexColor v = fIsRGB + fValid + v.toNat :=
  newHexColor_of_range v h0 h1

/-- NewHexColor ∘ Hex = id on the colours NewHexColor/NewRGBColor produce -/
theorem newHexColor_hex (v : Int) (h0 : 0 ≤ v) (h1 : v < 2^24) : newHexColor (hex (newHexColor v)) = newHexColor v := by
  rw [hex_newHexColor v h0 h1]

/-- TrueColor is idempotent, for every colour value -/
theorem trueColor_idem (c : Nat) : trueColor (trueColor c) = trueColor c := by
  by_cases hv : valid c = true
  · by_cases hr : c.testBit 33 = true
    · rw [trueColor_of_rgbBit c hv hr, trueColor_of_rgbBit c hv hr]
    · have hr' : c.testBit 33 = false := by simpa using hr
      rw [trueColor_of_palette c hv hr']
      exact trueColor_of_rgbBit _ (valid_newHexColor _) (by rw [newHexColor_testBit]; simp)
  · have hv' : valid c = false := by simpa using hv
    rw [trueColor_of_invalid c hv']
    decide

/-- TrueColor of a palette/named (not RGB-flagged) colour is the RGB-flagged colour of its ColorValues entry -/
theorem trueColor_palette (c : Nat) (v : Int) (hv : valid c = true) (hr : c &&& fIsRGB = 0) (hl : lookupValue c = some v) :
    trueColor c = newHexColor v ∧ hex (trueColor c) = v := by
  have hr' : c.testBit 33 = false := by
    have := rgbBit_eq c; rw [hr] at this; simpa using this.symm
  have hh : hex c = v := by rw [hex_of_palette c hv hr', hl]; rfl
  have hrange := colorValues_range (c, v) (lookup_mem (by unfold lookupValue at hl; exact hl))
  constructor
  · rw [trueColor_of_palette c hv hr', hh]
  · rw [trueColor_of_palette c hv hr', hh, hex_newHexColor_general]
    simp only [] at hrange; omega

/-- TrueColor keeps the RGB value (valid colours with a known value), and yields a valid RGB-flagged colour -/
theorem hex_trueColor (c : Nat) (hv : valid c = true) (h0 : 0 ≤ hex c) :
    hex (trueColor c) = hex c ∧ valid (trueColor c) = true ∧ isRGB (trueColor c) = true := by
  have h1 : hex c < 2^24 := by rcases hex_range c with h | h <;> omega
  by_cases hr : c.testBit 33 = true
  · rw [trueColor_of_rgbBit c hv hr]
    refine ⟨rfl, hv, ?_⟩
    rw [isRGB_eq, ← valid_eq, hv, hr]; rfl
  · have hr' : c.testBit 33 = false := by simpa using hr
    rw [trueColor_of_palette c hv hr']
    refine ⟨?_, valid_newHexColor _, isRGB_newHexColor _⟩
    rw [hex_newHexColor_general]; omega

/-- RGB() is the byte split of Hex() -/
theorem rgb_hex (c : Nat) (h0 : 0 ≤ hex c) : rgb c = (hex c / 65536 % 256, hex c / 256 % 256, hex c % 256) :=
  rgb_of_hex_nonneg c h0

/-- canonical RGB colour: exactly the two flags and a 24-bit value (what every constructor returns on in-range arguments) -/
def Canonical (c : Nat) : Prop := c.testBit 33 = true → c = fIsRGB + fValid + c % 2^24

instance (c : Nat) : Decidable (Canonical c) := by unfold Canonical; infer_instance

/-- CSS/GetColor round trip: `GetColor(c.CSS()) = c.TrueColor()` for every valid colour with a known RGB value.
(For an RGB-flagged value carrying extra bits — only obtainable from `NewHexColor` with an argument outside 0…0xffffff —
TrueColor keeps the extra bits and the law fails; that is the `Canonical` hypothesis.) -/
theorem css_roundtrip (c : Nat) (hv : valid c = true) (h0 : 0 ≤ hex c) (hc : Canonical c) :
    getColor (css c) = trueColor c := by
  rw [getColor_css_of_hex_nonneg c hv h0]
  by_cases hr : c.testBit 33 = true
  · rw [trueColor_of_rgbBit c hv hr, hex_of_rgbBit c (by rw [← valid_eq]; exact hv) hr]
    have := hc hr
    rw [newHexColor_of_range _ (by omega) (by omega)]
    unfold fIsRGB fValid at this
    omega
  · have hr' : c.testBit 33 = false := by simpa using hr
    rw [trueColor_of_palette c hv hr']

/-- the round trip also holds for invalid colours (`""` ↦ ColorDefault) and for valid colours without a known value
(`"#-00001"` ↦ the all-ones colour, which is also what TrueColor returns: observation outside the statement) -/
theorem css_roundtrip_other (c : Nat) (h : valid c = false ∨ (c.testBit 33 = false ∧ hex c = -1)) :
    getColor (css c) = trueColor c := by
  by_cases hv : valid c = true
  · rcases h with h | ⟨hr, hm⟩
    · rw [hv] at h; cases h
    · rw [trueColor_of_palette c hv hr, hm]
      unfold css
      rw [hv, hm]
      exact getColor_minus_one
  · have hv' : valid c = false := by simpa using hv
    rw [css_of_invalid c hv', trueColor_of_invalid c hv']
    exact getColor_empty

/-- the text CSS() produces: "#" and six upper-case hex digits of Hex() -/
theorem css_text (c : Nat) (hv : valid c = true) (h0 : 0 ≤ hex c) :
    css c = String.ofList ('#' :: sixDigits (hex c).toNat) := css_of_hex_nonneg c hv h0

/-- GetColor("#RRGGBB") = NewHexColor(0xRRGGBB) -/
theorem getColor_hex (n : Nat) (h : n < 2^24) : getColor (String.ofList ('#' :: sixDigits n)) = newHexColor n :=
  getColor_hash_six n h

/-- FromImageColor takes the high byte of each 16-bit channel: for a colour built from 8-bit channels R,G,B (whose RGBA()
is R·0x101, …) the result has RGB() = (R,G,B) and is NewRGBColor(R,G,B) -/
theorem fromImageColor_rgb (R G B : Nat) (hR : R < 256) (hG : G < 256) (hB : B < 256) :
    rgb (fromImageColor (R * 257) (G * 257) (B * 257)) = ((R : Int), (G : Int), (B : Int)) ∧
    fromImageColor (R * 257) (G * 257) (B * 257) = newRGBColor R G B := by
  unfold fromImageColor
  rw [Nat.shiftRight_eq_div_pow, Nat.shiftRight_eq_div_pow, Nat.shiftRight_eq_div_pow]
  have e : ∀ x : Nat, x < 256 → x * 257 / 256 = x := by intro x hx; omega
  simp only [Nat.reducePow]
  rw [e R hR, e G hG, e B hB]
  exact ⟨rgb_newRGBColor _ _ _ (by omega) (by omega) (by omega), rfl⟩

/-- … and for arbitrary 16-bit channels RGB() is the triple of high bytes -/
theorem fromImageColor_any (r g b : Nat) (hr : r < 2^16) (hg : g < 2^16) (hb : b < 2^16) :
    rgb (fromImageColor r g b) = (((r / 256 : Nat) : Int), ((g / 256 : Nat) : Int), ((b / 256 : Nat) : Int)) := by
  unfold fromImageColor
  rw [Nat.shiftRight_eq_div_pow, Nat.shiftRight_eq_div_pow, Nat.shiftRight_eq_div_pow]
  rw [rgb_newRGBColor _ _ _ (by omega) (by omega) (by omega)]

/-! ## default, invalid and special colours -/

/-- a colour without the valid flag reports Hex() = -1, RGB() = (-1,-1,-1), TrueColor() = ColorDefault, CSS() = "" -/
theorem invalid_reports (c : Nat) (h : valid c = false) :
    hex c = -1 ∧ rgb c = (-1, -1, -1) ∧ trueColor c = cDefault ∧ css c = "" ∧ isRGB c = false := by
  have hh := hex_of_invalid c h
  refine ⟨hh, rgb_of_hex_neg c (by omega), trueColor_of_invalid c h, css_of_invalid c h, ?_⟩
  rw [isRGB_eq, ← valid_eq, h]; rfl

/-- ColorDefault, ColorReset, ColorNone (and every other ColorSpecial|k, k < 2^32) are not valid -/
theorem default_special_invalid :
    valid cDefault = false ∧ valid Tcell.colorReset = false ∧ valid Tcell.colorNone = false := by decide

theorem special_invalid (k : Nat) (hk : k < 2^32) : valid (fSpecial ||| k) = false := by
  rw [valid_eq, Nat.testBit_or]
  have : fSpecial.testBit 32 = false := by decide
  rw [this, Nat.testBit_lt_two_pow hk]; rfl

/-- PaletteColor always sets the valid flag; for 0 ≤ i < 2^32 it is `ColorValid + i` and not RGB-flagged -/
theorem paletteColor_valid (i : Int) : valid (paletteColor i) = true := by
  unfold paletteColor
  rw [valid_eq, Nat.testBit_or]
  have : fValid.testBit 32 = true := by decide
  rw [this]; simp

/-- all constructors stay inside uint64 -/
theorem results_lt (v : Int) (i : Int) (c : Nat) (hc : c < 2^64) :
    newHexColor v < 2^64 ∧ paletteColor i < 2^64 ∧ trueColor c < 2^64 := by
  have hs : ∀ x : Int, ofSigned x < 2^64 := ofSigned_lt
  have f1 : fIsRGB < 2^64 := by decide
  have f2 : fValid < 2^64 := by decide
  refine ⟨?_, ?_, ?_⟩
  · unfold newHexColor
    exact Nat.or_lt_two_pow (Nat.or_lt_two_pow f1 (hs v)) f2
  · unfold paletteColor
    exact Nat.or_lt_two_pow (hs i) f2
  · unfold trueColor
    split
    · decide
    · split
      · exact Nat.or_lt_two_pow hc f2
      · exact Nat.or_lt_two_pow (Nat.or_lt_two_pow (hs _) f1) f2
/-! ## FindColor, for every metric, colour and palette -/

section FindColor
variable {α : Type} (m : Metric α)

/-- FindColor returns a member of a non-empty palette — whatever the metric does (no order hypothesis) -/
theorem findColor_mem (c : Nat) (pal : List Nat) (hne : pal ≠ []) : findColor m c pal ∈ pal :=
  findColor_mem' m c pal hne

/-- … and ColorDefault for the empty palette -/
theorem findColor_nil (c : Nat) : findColor m c [] = cDefault := rfl

/-- the default colour is returned only for the empty palette (given that ColorDefault is not itself listed) -/
theorem findColor_default_iff (c : Nat) (pal : List Nat) (hd : cDefault ∉ pal) :
    findColor m c pal = cDefault ↔ pal = [] := by
  constructor
  · intro h
    cases hp : pal with
    | nil => rfl
    | cons q t =>
      exfalso; apply hd
      have := findColor_mem m c pal (by rw [hp]; simp)
      rw [h] at this; exact this
  · intro h; rw [h]; rfl

/-- **argmin**: no member of the palette is strictly closer to `c` than the result, in the NaN-normalised distance the code
compares (`nd`).  Hypotheses: float `<` on non-NaN values is a strict weak order (`Metric.Ordered`), and ColorDefault (the
scan's "no match yet" sentinel) is not a palette member. -/
theorem findColor_argmin (ho : m.Ordered) (c : Nat) (pal : List Nat) (hd : cDefault ∉ pal) :
    ∀ q ∈ pal, m.lt (m.nd c q) (m.nd c (findColor m c pal)) = false := by
  cases hp : pal with
  | nil => intro q hq; cases hq
  | cons a t =>
    rw [← hp]
    exact (findColor_isFirstMin m ho c pal (by rw [hp]; simp) hd).argmin m ho

/-- **tie-breaking**: the result is the *first* minimum: every earlier member is strictly farther, no later one is closer -/
theorem findColor_first_min (ho : m.Ordered) (c : Nat) (pal : List Nat) (hne : pal ≠ []) (hd : cDefault ∉ pal) :
    ∃ pre suf, pal = pre ++ findColor m c pal :: suf ∧
      (∀ q ∈ pre, m.lt (m.nd c (findColor m c pal)) (m.nd c q) = true) ∧
      (∀ q ∈ suf, m.lt (m.nd c q) (m.nd c (findColor m c pal)) = false) :=
  findColor_isFirstMin m ho c pal hne hd

/-- the initial `dist := 0` is never used -/
theorem findColor_zero_irrelevant (c : Nat) (pal : List Nat) (z : α) :
    findColor { m with zero := z } c pal = findColor m c pal := by
  unfold findColor
  exact fcScan_default_irrel _ c _ _ pal

/-- what the scan guarantees when ColorDefault *is* listed: whenever the running match is ColorDefault the scan restarts,
so the result is FindColor of the remaining suffix -/
theorem findColor_restart (c : Nat) (pre suf : List Nat) (h : findColor m c pre = cDefault) :
    findColor m c (pre ++ suf) = findColor m c suf := by
  unfold findColor at *
  rw [fcScan_append]
  have : fcScan m c (cDefault, m.zero) pre = (cDefault, (fcScan m c (cDefault, m.zero) pre).2) := Prod.ext h rfl
  rw [this]
  exact fcScan_default_irrel m c _ _ suf

end FindColor

/-! ### non-vacuity: concrete ordered metrics, and the ColorDefault-member quirk -/

/-- |q - c| on naturals, no NaNs -/
def absMetric : Metric Nat :=
  { dist := fun c q => if c ≤ q then q - c else c - q, isNaN := fun _ => false, inf := 0, lt := fun a b => decide (a < b), zero := 0 }

theorem absMetric_ordered : absMetric.Ordered := by
  refine ⟨rfl, ?_, ?_, ?_⟩
  · intro a _; simp [absMetric]
  · intro a b c _ _ _ h1 h2; simp [absMetric] at *; omega
  · intro a b c _ _ _ h1; simp [absMetric] at *; omega

/-- the hypotheses of `findColor_argmin` / `findColor_first_min` are satisfiable and the result is the first of two
equidistant members (8 and 12 around 10) -/
example : absMetric.Ordered ∧ cDefault ∉ [20, 8, 12, 3] ∧ findColor absMetric 10 [20, 8, 12, 3] = 8 :=
  ⟨absMetric_ordered, by decide, by decide⟩

/-- the quirk: with ColorDefault (0) listed, the member after it is taken unconditionally; here 100 is returned although
9 is strictly closer to 10 — `cDefault ∉ pal` in `findColor_argmin` cannot be dropped -/
theorem findColor_default_member_quirk :
    findColor absMetric 10 [9, 0, 100] = 9 ∧ findColor absMetric 1 [9, 0, 100] = 100 ∧
    absMetric.lt (absMetric.nd 1 9) (absMetric.nd 1 100) = true := by decide

/-- IEEE-754 `<` on binary64 bit patterns (the metric the driver runs the scan with) satisfies the order hypotheses, for
every distance table -/
theorem bitsMetric_ordered (table : List (Nat × Nat)) : (bitsMetric table).Ordered := by
  refine ⟨by show f64IsNaN f64Inf = false; decide, ?_, ?_, ?_⟩
  · intro a ha
    simp only [bitsMetric, f64Lt] at *
    simp
  · intro a b c ha hb hc h1 h2
    simp only [bitsMetric, f64Lt] at *
    simp only [ha, hb, hc, Bool.not_false, Bool.true_and, decide_eq_true_eq] at *
    omega
  · intro a b c ha hb hc h1
    simp only [bitsMetric, f64Lt] at *
    simp only [ha, hb, hc, Bool.not_false, Bool.true_and, decide_eq_true_eq] at *
    omega

/-- NaN handling: a NaN distance is treated as +Inf, so a member with a real distance beats it and the first member still
sticks when everything is NaN -/
example : findColor (bitsMetric [(5, f64NaN), (6, 0x3FF0000000000000)]) 1 [5, 6] = 6 ∧
    findColor (bitsMetric [(5, f64NaN), (6, f64NaN)]) 1 [5, 6] = 5 := by decide

/-- concrete conversions (hypotheses of the laws above are satisfiable) -/
example : rgb (newRGBColor 18 52 86) = (18, 52, 86) ∧ hex (newHexColor 0x123456) = 0x123456 ∧
    css (newHexColor 0x00ff7f) = "#00FF7F" ∧ getColor "#00ff7f" = newHexColor 0x00ff7f ∧
    getColor "red" = paletteColor 9 ∧ trueColor (paletteColor 9) = newHexColor 0xff0000 ∧
    Canonical (newHexColor 0x123456) ∧ valid (paletteColor 300) = true ∧ hex (paletteColor 300) = -1 := by decide +kernel

end Tcell.Props.C16
