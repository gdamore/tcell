/-
C17, head of the statement: "When the locale selects a non-UTF-8 character set …" — WHICH character set the locale
variables select (charset_unix.go getCharset, model `Tcell.Locale`).  For every environment:

* `unset_is_empty_*`   a variable set to the empty string is the same input as an unset one (POSIX XBD 8.2);
* `lcall_wins` / `lcctype_second` / `lang_last`   LC_ALL, then LC_CTYPE, then LANG: the first non-empty one decides, alone;
* `c_posix`            the C / POSIX locale selects US-ASCII;
* `codeset`            `language[_territory].codeset[@modifier]` selects exactly `codeset` (no '.' / '@' in the language part,
                       no '@' in the codeset), whatever the modifier;
* `no_codeset`         a locale without a codeset (no '.' before the first '@') that is not C / POSIX selects UTF-8 (tcell's
                       documented default);
* `modifier_ignored`   text after the first '@' never matters.
Engine `locale` compares the model with what a real terminfo screen reports (Screen.CharacterSet() after Init / ErrNoCharset)
for every combination of unset / empty / pool values of the three variables.
-/
import Tcell.Model.Locale
namespace Tcell.Props.C17Locale
open Tcell.Locale

theorem getenv_none : getenv none = [] := rfl
theorem getenv_empty : getenv (some "") = [] := rfl

/-- set-but-empty = unset, for each of the three variables -/
theorem unset_is_empty_lcall (b c : Option String) : getCharset ⟨some "", b, c⟩ = getCharset ⟨none, b, c⟩ := rfl
theorem unset_is_empty_lcctype (a c : Option String) : getCharset ⟨a, some "", c⟩ = getCharset ⟨a, none, c⟩ := rfl
theorem unset_is_empty_lang (a b : Option String) : getCharset ⟨a, b, some ""⟩ = getCharset ⟨a, b, none⟩ := rfl

/-- LC_ALL, when not empty, decides alone -/
theorem lcall_wins (s : String) (b c : Option String) (h : s.toList ≠ []) :
    getCharset ⟨some s, b, c⟩ = getCharset ⟨some s, none, none⟩ := by
  simp [getCharset, localeOf, getenv, h]

/-- with LC_ALL empty or unset, a non-empty LC_CTYPE decides alone -/
theorem lcctype_second (a : Option String) (s : String) (c : Option String) (ha : getenv a = []) (h : s.toList ≠ []) :
    getCharset ⟨a, some s, c⟩ = getCharset ⟨none, some s, none⟩ := by
  simp only [getCharset, localeOf, ha]; simp [getenv, h]

/-- with both empty or unset, LANG decides -/
theorem lang_last (a b c : Option String) (ha : getenv a = []) (hb : getenv b = []) :
    getCharset ⟨a, b, c⟩ = getCharset ⟨none, none, c⟩ := by
  simp only [getCharset, localeOf, ha, hb]; simp [getenv]

/-- nothing set at all: UTF-8 -/
theorem nothing_set : getCharset {} = "UTF-8" := by decide

theorem c_posix : getCharset ⟨some "C", none, none⟩ = "US-ASCII" ∧ getCharset ⟨some "POSIX", none, none⟩ = "US-ASCII" ∧
    getCharset ⟨none, none, some "C"⟩ = "US-ASCII" := by decide +kernel

/-! ### the codeset of `language.codeset@modifier` -/

theorem before_append (c : Char) (l r : List Char) (h : c ∉ l) : before c (l ++ r) = l ++ before c r := by
  induction l with
  | nil => rfl
  | cons x xs ih =>
    have hx : x ≠ c := fun e => h (by simp [e])
    simp [before, hx, ih fun m => h (List.mem_cons_of_mem _ m)]

theorem afterFirst_append (c : Char) (l r : List Char) (h : c ∉ l) : afterFirst c (l ++ r) = afterFirst c r := by
  induction l with
  | nil => rfl
  | cons x xs ih =>
    have hx : x ≠ c := fun e => h (by simp [e])
    simp [afterFirst, hx, ih fun m => h (List.mem_cons_of_mem _ m)]

theorem before_append_sep (c : Char) (l r : List Char) (h : c ∉ l) : before c (l ++ c :: r) = l := by
  simp [before_append c l _ h, before]

theorem before_absent (c : Char) (l : List Char) (h : c ∉ l) : before c l = l := by
  simpa [before] using before_append c l [] h

theorem afterFirst_append_sep (c : Char) (l r : List Char) (h : c ∉ l) : afterFirst c (l ++ c :: r) = some r := by
  simp [afterFirst_append c l _ h, afterFirst]

theorem afterFirst_absent (c : Char) (l : List Char) (h : c ∉ l) : afterFirst c l = none := by
  simpa [afterFirst] using afterFirst_append c l [] h

theorem dotted_not_c (l r : List Char) : ¬ (l ++ '.' :: r = "POSIX".toList ∨ l ++ '.' :: r = "C".toList) := by
  intro h
  have hm : '.' ∈ l ++ '.' :: r := by simp
  rcases h with h | h <;> (rw [h] at hm; revert hm; decide)

theorem at_not_mem {lang cs : List Char} (h2 : '@' ∉ lang) (h3 : '@' ∉ cs) : '@' ∉ lang ++ '.' :: cs := by
  simp [h2, h3]

/-- **`language.codeset` selects `codeset`** (no modifier) -/
theorem codeset_plain (lang cs : List Char) (h1 : '.' ∉ lang) (h2 : '@' ∉ lang) (h3 : '@' ∉ cs) :
    charsetOf (lang ++ '.' :: cs) = cs := by
  unfold charsetOf
  rw [if_neg (dotted_not_c lang cs), before_absent _ _ (at_not_mem h2 h3), afterFirst_append_sep '.' lang cs h1]

/-- **`language.codeset@modifier` selects `codeset`**, whatever the modifier -/
theorem codeset (lang cs md : List Char) (h1 : '.' ∉ lang) (h2 : '@' ∉ lang) (h3 : '@' ∉ cs) :
    charsetOf (lang ++ '.' :: (cs ++ '@' :: md)) = cs := by
  have hb : before '@' (lang ++ '.' :: (cs ++ '@' :: md)) = lang ++ '.' :: cs := by
    rw [← List.cons_append, ← List.append_assoc]
    exact before_append_sep _ _ _ (at_not_mem h2 h3)
  unfold charsetOf
  rw [if_neg (dotted_not_c lang _), hb, afterFirst_append_sep '.' lang cs h1]

/-- **no codeset: UTF-8** — a locale that is not C / POSIX and has no '.' before its first '@' -/
theorem no_codeset (lang md : List Char) (h1 : '.' ∉ lang) (h2 : '@' ∉ lang)
    (hc : ¬ (lang ++ '@' :: md = "POSIX".toList ∨ lang ++ '@' :: md = "C".toList)) :
    charsetOf (lang ++ '@' :: md) = "UTF-8".toList := by
  unfold charsetOf
  rw [if_neg hc, before_append_sep '@' lang md h2, afterFirst_absent '.' lang h1]

theorem no_codeset_plain (lang : List Char) (h1 : '.' ∉ lang) (h2 : '@' ∉ lang)
    (hc : ¬ (lang = "POSIX".toList ∨ lang = "C".toList)) : charsetOf lang = "UTF-8".toList := by
  unfold charsetOf
  rw [if_neg hc, before_absent '@' lang h2, afterFirst_absent '.' lang h1]

/-- **the modifier never matters** for a locale with a codeset or a language part other than C / POSIX -/
theorem modifier_ignored (lang cs md md' : List Char) (h1 : '.' ∉ lang) (h2 : '@' ∉ lang) (h3 : '@' ∉ cs) :
    charsetOf (lang ++ '.' :: (cs ++ '@' :: md)) = charsetOf (lang ++ '.' :: (cs ++ '@' :: md')) := by
  rw [codeset lang cs md h1 h2 h3, codeset lang cs md' h1 h2 h3]

/-! ### the statement on environments, and non-vacuity -/

/-- whatever LC_CTYPE and LANG say, LC_ALL=`lang.cs@md` selects `cs` -/
theorem env_codeset (lang cs md : List Char) (b c : Option String) (h1 : '.' ∉ lang) (h2 : '@' ∉ lang) (h3 : '@' ∉ cs) :
    getCharset ⟨some (String.ofList (lang ++ '.' :: (cs ++ '@' :: md))), b, c⟩ = String.ofList cs := by
  have hne : (String.ofList (lang ++ '.' :: (cs ++ '@' :: md))).toList ≠ [] := by simp
  rw [lcall_wins _ b c hne]
  simp [getCharset, localeOf, getenv, codeset lang cs md h1 h2 h3]

example : getCharset ⟨some "de_DE.ISO8859-15@euro", some "C", some "ja_JP.EUC-JP"⟩ = "ISO8859-15" := by decide +kernel
example : getCharset ⟨some "", some "ru_RU.KOI8-R", some "C"⟩ = "KOI8-R" := by decide +kernel
example : getCharset ⟨none, some "", some "zh_CN.GBK"⟩ = "GBK" := by decide +kernel
example : getCharset ⟨some "C.UTF-8", none, none⟩ = "UTF-8" := by decide +kernel   -- only the bare C / POSIX names mean US-ASCII
example : getCharset ⟨none, none, some "POSIX.ISO8859-1"⟩ = "ISO8859-1" := by decide +kernel
example : getCharset ⟨some "en_US", none, none⟩ = "UTF-8" := by decide +kernel
example : getCharset ⟨some "x@y.z", none, none⟩ = "UTF-8" := by decide +kernel     -- the '.' behind the '@' is part of the modifier
example : getCharset ⟨some "a.b.c", none, none⟩ = "b.c" := by decide +kernel       -- the FIRST '.' separates the codeset

end Tcell.Props.C17Locale
