import Tcell.Lemmas.KeyPrefixFree
import Tcell.Gen.Keys
import Tcell.Gen.TerminfoKeys
/-
C03 — "Every key sequence of every terminal decodes to its key and modifiers".

Generic layer (any key table `T = cfg.keys`): `key_decodes`, `unique_match`, `ctrl_bytes`,
`lone_esc`, `del_is_backspace2`, `alt_prefix`.
Database layer (kernel evaluation over the regenerated `Gen.dbTables` = the key table the real constructor builds for
every entry, dumped by the translator from `tcell.VerifKeyTable`, and `Gen.db` = the entries' fields):
`db_prefix_free`, `db_keys_decode` (+ `specCaps_complete`, `ignored_caps_counterexample`), `db_xterm_mods`, `db_ctrl_bytes`,
`db_mouse_clear`.  The tie `buildKeys e = Gen table of e` (model of prepareKeys ↔ real table) is the exhaustive
`keytable` correspondence engine.
-/
namespace Tcell.Props.C03
open Tcell Tcell.Model
open Tcell.Lemmas.Collect Tcell.Lemmas.PrefixFree Tcell.Lemmas.MouseSeq

/-! ### constants hard-coded by the model = constants of the current source -/
example : keyRune = Gen.kRune ∧ keyUp = Gen.kUp ∧ keyDown = Gen.kDown ∧ keyRight = Gen.kRight ∧ keyLeft = Gen.kLeft := by decide
example : keyPgUp = Gen.kPgUp ∧ keyPgDn = Gen.kPgDn ∧ keyHome = Gen.kHome ∧ keyEnd = Gen.kEnd ∧ keyInsert = Gen.kInsert
    ∧ keyDelete = Gen.kDelete ∧ keyHelp = Gen.kHelp ∧ keyExit = Gen.kExit ∧ keyClear = Gen.kClear ∧ keyCancel = Gen.kCancel
    ∧ keyPrint = Gen.kPrint ∧ keyPause = Gen.kPause ∧ keyBacktab = Gen.kBacktab := by decide
example : keyF 1 = Gen.kF1 ∧ keyF 12 = Gen.kF12 ∧ keyF 13 = Gen.kF13 ∧ keyF 64 = Gen.kF64 := by decide
example : keyBackspace = Gen.kBackspace ∧ keyTab = Gen.kTab ∧ keyEnter = Gen.kEnter ∧ keyEsc = Gen.kEsc
    ∧ keyBackspace2 = Gen.kBackspace2 ∧ Gen.kCtrlA = 1 ∧ Gen.kCtrlUnderscore = 31 := by decide
example : modShift = Gen.mShift ∧ modCtrl = Gen.mCtrl ∧ modAlt = Gen.mAlt ∧ modMeta = Gen.mMeta := by decide
example : keyPasteStart = Gen.kPasteStart ∧ keyPasteEnd = Gen.kPasteEnd ∧ modifiersXTerm = (Gen.modifiersXTerm : Int) := by decide

/-- the event `parseFunctionKey` builds for table entry `e` matched at the front of `b` -/
def keyEv (st : PState) (e : KeyEntry) : Event :=
  let r : Int := if e.seq.length = 1 then (e.seq.headD 0 : Nat) else 0
  let mod := if st.escaped then e.mod ||| modAlt else e.mod
  if e.key = keyPasteStart then .paste true else if e.key = keyPasteEnd then .paste false else newEventKey e.key r mod

theorem keyEvent_eq (st : PState) (e : KeyEntry) (rest : Bytes) (hne : e.seq ≠ []) :
    keyEvent st (e.seq ++ rest) e = .complete e.seq.length [keyEv st e] { st with escaped := false } := by
  cases hs : e.seq with
  | nil => exact absurd hs hne
  | cons c t => simp [keyEvent, keyEv, hs]

/-- **Order independence** (`unique_match`): in a prefix-free table the function-key parser has exactly one candidate
on any buffer that starts with a defined sequence, so the Go map iteration order cannot matter. -/
theorem unique_match (T : KeyTable) (hT : PrefixFree T) (e : KeyEntry) (he : e ∈ T) (hne : bytesEq e.seq [27] = false)
    (hnil : e.seq ≠ []) (st : PState) (rest : Bytes) :
    parseFunctionKey T st (e.seq ++ rest) = .complete e.seq.length [keyEv st e] { st with escaped := false } := by
  unfold parseFunctionKey
  rw [keyMatches_unique T hT e he hne rest]
  exact keyEvent_eq st e rest hnil

/-- one iteration on a buffer starting with a defined sequence whose first byte is a control byte (< 0x20: ESC-introduced
sequences and single control bytes; bytes 0x20..0x7F and ≥ 0x80 go to `parseRune` first, see `del_is_backspace2`) -/
theorem step1_key (cfg : Cfg) (hT : PrefixFree cfg.keys) (e : KeyEntry) (he : e ∈ cfg.keys) (c : Nat) (t : Bytes)
    (hs : e.seq = c :: t) (hc : c < 32) (hne : bytesEq e.seq [27] = false) (st : PState) (rest : Bytes) (expire : Bool) :
    step1 cfg st (e.seq ++ rest) expire = .emit [keyEv st e] { st with escaped := false } rest := by
  have hkey := unique_match cfg.keys hT e he hne (by rw [hs]; simp) st rest
  have hrune : Silent (parseRune cfg.dec st (e.seq ++ rest)) := by
    right; rw [hs]; exact parseRune_ctrl _ _ _ _ hc
  unfold step1 parsers
  simp only [List.cons_append, List.nil_append]
  refine (tryParsers_silent_hit st _ expire _ _ _ _ _ hkey [parseRune cfg.dec]
    (fun q hq => List.mem_singleton.mp hq ▸ hrune) 0).trans ?_
  simp

/-- **key_decodes.**  For any prefix-free key table, every defined sequence that starts with a control byte, fed alone,
decodes to exactly one event — the key and modifiers of its table entry (plus Alt if an ESC was pending; the paste
markers give paste events) — with nothing left buffered, whether or not the escape timer has expired. -/
theorem key_decodes (cfg : Cfg) (hT : PrefixFree cfg.keys) (e : KeyEntry) (he : e ∈ cfg.keys) (c : Nat) (t : Bytes)
    (hs : e.seq = c :: t) (hc : c < 32) (hne : bytesEq e.seq [27] = false) (st : PState) (expire : Bool) :
    collect cfg st e.seq expire = ⟨[keyEv st e], { st with escaped := false }, [], false⟩ := by
  have h := step1_key cfg hT e he c t hs hc hne st [] expire
  rw [List.append_nil] at h
  exact collect_last cfg st _ e.seq expire (by rw [hs]; simp) _ h

/-- **concat_decodes**: two defined sequences back to back decode to the two events in order (and so on by induction:
`step1_key` holds with any `rest`). -/
theorem concat_decodes (cfg : Cfg) (hT : PrefixFree cfg.keys) (e1 e2 : KeyEntry) (h1 : e1 ∈ cfg.keys) (h2 : e2 ∈ cfg.keys)
    (c1 c2 : Nat) (t1 t2 : Bytes) (hs1 : e1.seq = c1 :: t1) (hs2 : e2.seq = c2 :: t2) (hc1 : c1 < 32) (hc2 : c2 < 32)
    (hn1 : bytesEq e1.seq [27] = false) (hn2 : bytesEq e2.seq [27] = false) (st : PState) (expire : Bool) :
    collect cfg st (e1.seq ++ e2.seq) expire
      = ⟨[keyEv st e1, keyEv { st with escaped := false } e2], { st with escaped := false }, [], false⟩ := by
  have ha := step1_key cfg hT e1 h1 c1 t1 hs1 hc1 hn1 st e2.seq expire
  have hb := step1_key cfg hT e2 h2 c2 t2 hs2 hc2 hn2 { st with escaped := false } [] expire
  rw [List.append_nil] at hb
  unfold collect
  have hl : (e1.seq ++ e2.seq).length = (t1.length + e2.seq.length) + 1 := by rw [hs1]; simp <;> omega
  rw [hl, collectAux_emit cfg expire _ st _ _ _ (by rw [hs1]; simp) _ ha]
  have hl2 : t1.length + e2.seq.length = (t1.length + t2.length) + 1 := by rw [hs2]; simp <;> omega
  rw [hl2, collectAux_last cfg expire _ _ _ _ (by rw [hs2]; simp) _ hb]
  simp

/-- **ctrl_bytes**: a single control byte that is in the table as itself (the final loop of prepareKeys) decodes to the
key with that code, rune = the byte, Ctrl — except Backspace, Tab, Enter, Esc which carry no modifier. -/
theorem ctrl_bytes (cfg : Cfg) (hT : PrefixFree cfg.keys) (c : Nat) (hc : c < 32) (hc27 : c ≠ 27)
    (he : (⟨[c], c, ctrlByteMod c⟩ : KeyEntry) ∈ cfg.keys) (expire : Bool) :
    collect cfg {} [c] expire = ⟨[.key c c (ctrlByteMod c)], {}, [], false⟩ := by
  have hne : bytesEq [c] [27] = false := by
    simp [bytesEq, Tcell.Lemmas.PrefixFree.beq_false hc27]
  have h := key_decodes cfg hT _ he c [] rfl hc hne {} expire
  simp only [] at h
  rw [h]
  have : keyEv {} (⟨[c], c, ctrlByteMod c⟩ : KeyEntry) = .key c c (ctrlByteMod c) := by
    have h1 : c ≠ keyPasteStart := by unfold keyPasteStart; omega
    have h2 : c ≠ keyPasteEnd := by unfold keyPasteEnd; omega
    have h3 : c ≠ keyRune := by unfold keyRune; omega
    simp [keyEv, h1, h2, newEventKey, h3]
  rw [this]

example : ctrlByteMod 1 = modCtrl ∧ ctrlByteMod 8 = modNone ∧ ctrlByteMod 9 = modNone ∧ ctrlByteMod 13 = modNone := by decide

/-- **del_is_backspace2**: a single DEL byte is Backspace2 (key 0x7F, no modifier), whatever the table says about 0x7F -/
theorem del_is_backspace2 (cfg : Cfg) (expire : Bool) :
    collect cfg {} [127] expire = ⟨[.key keyBackspace2 127 modNone], {}, [], false⟩ := by
  have h : step1 cfg {} [127] expire = .emit [.key keyBackspace2 127 modNone] {} [] := by
    unfold step1 parsers
    simp only [List.cons_append]
    rw [tryParsers_hit {} [127] expire _ _ 1 [.key keyBackspace2 127 modNone] {} (by simp [parseRune, newEventKey, altOf, keyRune, keyBackspace2, modNone]) 0]
    rfl
  exact collect_last cfg _ _ _ expire (by simp) _ h

def AllSilent (cfg : Cfg) (st : PState) (b : Bytes) : Prop := ∀ p ∈ parsers cfg, Silent (p st b)

theorem step1_expired (cfg : Cfg) (st : PState) (b : Bytes) (h : AllSilent cfg st b) :
    step1 cfg st b true = fallThrough st b := by
  simp [step1, tryParsers_eq, firstHit_eq_none.mpr h]

theorem parsers_silent_esc (cfg : Cfg) (st : PState) (hk : keyMatches cfg.keys [27] = []) : AllSilent cfg st [27] := by
  intro p hp
  unfold parsers at hp
  simp only [List.mem_append, List.mem_cons, List.mem_ite_nil_right, List.not_mem_nil, or_false] at hp
  rcases hp with ((rfl | rfl | rfl) | ⟨_, (rfl | rfl)⟩) | ⟨_, rfl⟩
  · right; exact parseRune_esc _ _ _
  · exact parseFunctionKey_silent _ _ _ hk
  · left; rfl
  · left; rfl
  · left; simp [parseSgrMouse, sgrRun, sgrStepV, sgrKnown, sgrStep]
  · left; unfold parseClipboardV; cases cfg.clipFixed <;> rfl

/-- **lone_esc**: a lone ESC yields the Esc key once the timeout has passed (table without empty sequences) -/
theorem lone_esc (cfg : Cfg) (st : PState) (hk : keyMatches cfg.keys [27] = []) :
    collect cfg st [27] true = ⟨[.key keyEsc 0 modNone], { st with escaped := false }, [], false⟩ := by
  have h := step1_expired cfg st [27] (parsers_silent_esc cfg st hk)
  have h' : step1 cfg st [27] true = .emit [.key keyEsc 0 modNone] { st with escaped := false } [] := by
    rw [h]; simp [fallThrough, newEventKey, keyEsc, keyRune]
  exact collect_last cfg _ _ _ true (by simp) _ h'

/-- **alt_prefix**: ESC immediately followed by a defined sequence yields that key with Alt — provided nothing recognises
the ESC-prefixed buffer itself (`AllSilent`; e.g. ESC ESC O P on any entry: no key, focus, mouse or — for buffers of at
most 7 bytes — clipboard parser accepts a second ESC) and the timer has expired or will. -/
theorem alt_prefix (cfg : Cfg) (hT : PrefixFree cfg.keys) (e : KeyEntry) (he : e ∈ cfg.keys) (c : Nat) (t : Bytes)
    (hs : e.seq = c :: t) (hc : c < 32) (hne : bytesEq e.seq [27] = false) (st : PState)
    (hsil : AllSilent cfg st (27 :: e.seq)) :
    collect cfg st (27 :: e.seq) true = ⟨[keyEv { st with escaped := true } e], { st with escaped := false }, [], false⟩ := by
  have h1 : step1 cfg st (27 :: e.seq) true = .emit [] { st with escaped := true } e.seq := by
    rw [step1_expired cfg st _ hsil, hs]; rfl
  have h2 := step1_key cfg hT e he c t hs hc hne { st with escaped := true } [] true
  rw [List.append_nil] at h2
  unfold collect
  rw [show (27 :: e.seq).length = e.seq.length + 1 from rfl, collectAux_emit cfg true _ st _ _ _ (by simp) _ h1]
  rw [hs] at h2 ⊢
  rw [show (c :: t).length = t.length + 1 from rfl, collectAux_last cfg true _ _ _ _ (by simp) _ h2]
  simp

/-- hypotheses of the generic layer are satisfiable: a small xterm-like table -/
def exT : KeyTable := [⟨[13], 13, 0⟩, ⟨[27, 79, 80], 279, 0⟩, ⟨[27, 91, 49, 59, 53, 80], 279, 2⟩, ⟨[27, 91, 65], 257, 0⟩]
def exCfg : Cfg := { keys := exT, mouse := true, clipboard := true, dec := decUtf8, w := 80, h := 24 }
theorem exT_pf : PrefixFree exT := prefixFree_of_chain exT (by decide)
example : collect exCfg {} [27, 79, 80] false = ⟨[.key 279 0 0], {}, [], false⟩ :=
  key_decodes exCfg exT_pf ⟨[27, 79, 80], 279, 0⟩ (by decide) 27 [79, 80] rfl (by decide) (by decide) {} false
example : collect exCfg {} [27, 27, 79, 80] true = ⟨[.key 279 0 4], {}, [], false⟩ := by decide
example : collect exCfg {} [27] true = ⟨[.key 27 0 0], {}, [], false⟩ := lone_esc exCfg {} (by decide)

def toTable (rows : List Gen.KeyRow) : KeyTable := rows.map (fun r => ⟨r.2.1, r.2.2.1, r.2.2.2⟩)

/-- base-257 numeral of a byte string (digits byte+1), the lookup key of the generated rows -/
def encode257 (s : Bytes) : Nat := s.foldl (fun a b => a * 257 + (b + 1)) 0

/-- (key, modifiers) the built table of the entry has for sequence `s` (numeral lookup, then the bytes are compared) -/
def lookupRow (rows : List Gen.KeyRow) (s : Bytes) : Option (Nat × Nat) :=
  match rows.find? (fun r => Nat.beq r.1 (encode257 s)) with
  | some r => if bytesEq r.2.1 s then some (r.2.2.1, r.2.2.2) else none
  | none => none

def bucket (m j : Nat) (rows : List Gen.KeyRow) : List Gen.KeyRow := rows.filter fun r => Nat.beq (r.1 % m) j

/-- `lookupRow` in the table split into `m` buckets by numeral.  In a kernel sweep with many lookups per table each
bucket is computed once (the kernel keeps what it has reduced) and every lookup then scans one bucket only. -/
def lookupBucket (m : Nat) (rows : List Gen.KeyRow) (s : Bytes) : Option (Nat × Nat) :=
  lookupRow (((List.range m).map fun j => bucket m j rows).getD (encode257 s % m) []) s

theorem lookupRow_eq_bucket (m : Nat) (hm : 0 < m) (rows : List Gen.KeyRow) (s : Bytes) :
    lookupRow rows s = lookupBucket m rows s := by
  have hj : encode257 s % m < m := Nat.mod_lt _ hm
  have : ((List.range m).map fun j => bucket m j rows).getD (encode257 s % m) [] = bucket m (encode257 s % m) rows := by
    simp [List.getD_eq_getElem?_getD, hj]
  unfold lookupBucket lookupRow
  rw [this, bucket, List.find?_filter]
  congr 2
  funext r
  cases h : Nat.beq r.1 (encode257 s)
  · simp
  · simp [Nat.eq_of_beq_eq_true h, Nat.beq_refl]

/-- every key capability field of `terminfo.Terminfo` with the (key, modifiers) its NAME stands for
(KeyF<n> = F<n>; Key<Mods><Base> = Base with Shf/Ctrl/Meta/Alt modifiers) — from the fields alone, not from prepareKeys -/
def specCaps (k : TermKeys) : List (Nat × Nat × Bytes) :=
  [(keyBackspace, modNone, k.keyBackspace), (keyF 1, modNone, k.keyF1), (keyF 2, modNone, k.keyF2), (keyF 3, modNone, k.keyF3),
   (keyF 4, modNone, k.keyF4), (keyF 5, modNone, k.keyF5), (keyF 6, modNone, k.keyF6), (keyF 7, modNone, k.keyF7),
   (keyF 8, modNone, k.keyF8), (keyF 9, modNone, k.keyF9), (keyF 10, modNone, k.keyF10), (keyF 11, modNone, k.keyF11),
   (keyF 12, modNone, k.keyF12), (keyF 13, modNone, k.keyF13), (keyF 14, modNone, k.keyF14), (keyF 15, modNone, k.keyF15),
   (keyF 16, modNone, k.keyF16), (keyF 17, modNone, k.keyF17), (keyF 18, modNone, k.keyF18), (keyF 19, modNone, k.keyF19),
   (keyF 20, modNone, k.keyF20), (keyF 21, modNone, k.keyF21), (keyF 22, modNone, k.keyF22), (keyF 23, modNone, k.keyF23),
   (keyF 24, modNone, k.keyF24), (keyF 25, modNone, k.keyF25), (keyF 26, modNone, k.keyF26), (keyF 27, modNone, k.keyF27),
   (keyF 28, modNone, k.keyF28), (keyF 29, modNone, k.keyF29), (keyF 30, modNone, k.keyF30), (keyF 31, modNone, k.keyF31),
   (keyF 32, modNone, k.keyF32), (keyF 33, modNone, k.keyF33), (keyF 34, modNone, k.keyF34), (keyF 35, modNone, k.keyF35),
   (keyF 36, modNone, k.keyF36), (keyF 37, modNone, k.keyF37), (keyF 38, modNone, k.keyF38), (keyF 39, modNone, k.keyF39),
   (keyF 40, modNone, k.keyF40), (keyF 41, modNone, k.keyF41), (keyF 42, modNone, k.keyF42), (keyF 43, modNone, k.keyF43),
   (keyF 44, modNone, k.keyF44), (keyF 45, modNone, k.keyF45), (keyF 46, modNone, k.keyF46), (keyF 47, modNone, k.keyF47),
   (keyF 48, modNone, k.keyF48), (keyF 49, modNone, k.keyF49), (keyF 50, modNone, k.keyF50), (keyF 51, modNone, k.keyF51),
   (keyF 52, modNone, k.keyF52), (keyF 53, modNone, k.keyF53), (keyF 54, modNone, k.keyF54), (keyF 55, modNone, k.keyF55),
   (keyF 56, modNone, k.keyF56), (keyF 57, modNone, k.keyF57), (keyF 58, modNone, k.keyF58), (keyF 59, modNone, k.keyF59),
   (keyF 60, modNone, k.keyF60), (keyF 61, modNone, k.keyF61), (keyF 62, modNone, k.keyF62), (keyF 63, modNone, k.keyF63),
   (keyF 64, modNone, k.keyF64), (keyInsert, modNone, k.keyInsert), (keyDelete, modNone, k.keyDelete), (keyHome, modNone, k.keyHome),
   (keyEnd, modNone, k.keyEnd), (keyHelp, modNone, k.keyHelp), (keyPgUp, modNone, k.keyPgUp), (keyPgDn, modNone, k.keyPgDn),
   (keyUp, modNone, k.keyUp), (keyDown, modNone, k.keyDown), (keyLeft, modNone, k.keyLeft), (keyRight, modNone, k.keyRight),
   (keyBacktab, modNone, k.keyBacktab), (keyExit, modNone, k.keyExit), (keyClear, modNone, k.keyClear), (keyPrint, modNone, k.keyPrint),
   (keyCancel, modNone, k.keyCancel), (keyRight, modShift, k.keyShfRight), (keyLeft, modShift, k.keyShfLeft), (keyHome, modShift, k.keyShfHome),
   (keyEnd, modShift, k.keyShfEnd), (keyInsert, modShift, k.keyShfInsert), (keyDelete, modShift, k.keyShfDelete), (keyUp, modShift, k.keyShfUp),
   (keyDown, modShift, k.keyShfDown), (keyPgUp, modShift, k.keyShfPgUp), (keyPgDn, modShift, k.keyShfPgDn), (keyUp, modCtrl, k.keyCtrlUp),
   (keyDown, modCtrl, k.keyCtrlDown), (keyRight, modCtrl, k.keyCtrlRight), (keyLeft, modCtrl, k.keyCtrlLeft), (keyUp, modMeta, k.keyMetaUp),
   (keyDown, modMeta, k.keyMetaDown), (keyRight, modMeta, k.keyMetaRight), (keyLeft, modMeta, k.keyMetaLeft), (keyUp, modAlt, k.keyAltUp),
   (keyDown, modAlt, k.keyAltDown), (keyRight, modAlt, k.keyAltRight), (keyLeft, modAlt, k.keyAltLeft), (keyHome, modCtrl, k.keyCtrlHome),
   (keyEnd, modCtrl, k.keyCtrlEnd), (keyHome, modMeta, k.keyMetaHome), (keyEnd, modMeta, k.keyMetaEnd), (keyHome, modAlt, k.keyAltHome),
   (keyEnd, modAlt, k.keyAltEnd), (keyUp, modAlt + modShift, k.keyAltShfUp), (keyDown, modAlt + modShift, k.keyAltShfDown), (keyLeft, modAlt + modShift, k.keyAltShfLeft),
   (keyRight, modAlt + modShift, k.keyAltShfRight), (keyUp, modMeta + modShift, k.keyMetaShfUp), (keyDown, modMeta + modShift, k.keyMetaShfDown), (keyLeft, modMeta + modShift, k.keyMetaShfLeft),
   (keyRight, modMeta + modShift, k.keyMetaShfRight), (keyUp, modCtrl + modShift, k.keyCtrlShfUp), (keyDown, modCtrl + modShift, k.keyCtrlShfDown), (keyLeft, modCtrl + modShift, k.keyCtrlShfLeft),
   (keyRight, modCtrl + modShift, k.keyCtrlShfRight), (keyHome, modCtrl + modShift, k.keyCtrlShfHome), (keyEnd, modCtrl + modShift, k.keyCtrlShfEnd), (keyHome, modAlt + modShift, k.keyAltShfHome),
   (keyEnd, modAlt + modShift, k.keyAltShfEnd), (keyHome, modMeta + modShift, k.keyMetaShfHome), (keyEnd, modMeta + modShift, k.keyMetaShfEnd)]

/-- terminfo convention for function keys beyond F12 (xterm kf13…kf63): F13-24 = Shift, F25-36 = Ctrl,
F37-48 = Ctrl+Shift, F49-60 = Alt, F61-63 = Alt+Shift of F1… -/
def fAlias (key : Nat) : Option (Nat × Nat) :=
  if keyF 13 ≤ key ∧ key ≤ keyF 64 then
    let n := key - keyF 1
    let m := match n / 12 with | 1 => modShift | 2 => modCtrl | 3 => modCtrl + modShift | 4 => modAlt | _ => modAlt + modShift
    some (keyF 1 + n % 12, m)
  else none

/-- ctlseqs "PC-Style Function Keys": modifier parameter n encodes n−1 = Shift(1) + Alt(2) + Ctrl(4) + Meta(8) -/
def xtermMods (n : Nat) : Nat :=
  (if (n - 1) % 2 = 1 then modShift else 0) + (if (n - 1) / 2 % 2 = 1 then modAlt else 0)
  + (if (n - 1) / 4 % 2 = 1 then modCtrl else 0) + (if (n - 1) / 8 % 2 = 1 then modMeta else 0)

/-- the sequence xterm sends for the key whose unmodified sequence is `s`, with modifier parameter `n`:
`CSI k ~` ↦ `CSI k ; n ~`;  `SS3 x` and `CSI x` (x a capital letter) ↦ `CSI 1 ; n x` -/
def modSeq (s : Bytes) (n : Nat) : Option Bytes :=
  match s with
  | [27, a, x] => if (a = 79 ∨ a = 91) ∧ 65 ≤ x ∧ x ≤ 90 then some ([27, 91, 49, 59] ++ dec2 n ++ [x]) else none
  | 27 :: 91 :: rest =>
    if rest.length ≥ 2 ∧ rest.getLast? = some 126 then some ([27, 91] ++ rest.dropLast ++ [59] ++ dec2 n ++ [126]) else none
  | _ => none

def params : List Nat := [2, 3, 4, 5, 6, 7, 8, 9, 10, 11, 12, 13, 14, 15, 16]

/-- on an xterm-style entry `s` is the modified form of one of the 22 keys and `(k, m)` its reading -/
def xtermReading (e : Terminfo) (s : Bytes) (km : Nat × Nat) : Bool :=
  decide (e.modifiers = modifiersXTerm) &&
  (xtermModKeys e.keys).any fun p => params.any fun n =>
    (match modSeq p.2 n with | some ms => bytesEq ms s | none => false) && Nat.beq km.1 p.1 && Nat.beq km.2 (xtermMods n)

/-- `(k, m)` is a key the description assigns to `s`: some capability field with string `s` stands for it, directly or
as the shifted/control alias of a function key, or (xterm-style entries) as a modified cursor/editing/function key -/
def assignedOK (e : Terminfo) (s : Bytes) (km : Nat × Nat) : Bool :=
  (specCaps e.keys).any (fun c => bytesEq c.2.2 s &&
    ((Nat.beq c.1 km.1 && Nat.beq c.2.1 km.2) ||
     (Nat.beq c.2.1 0 && match fAlias c.1 with | some a => Nat.beq a.1 km.1 && Nat.beq a.2 km.2 | none => false)))
  || xtermReading e s km

/-- check of one capability list against the built table: every defined string (other than the single DEL byte, which
`parseRune` turns into Backspace2 before any table lookup) is in the table with an assigned key -/
def capsDecode (e : Terminfo) (rows : List Gen.KeyRow) (caps : List (Nat × Nat × Bytes)) (mayBeAbsent : Bool) : Bool :=
  caps.all fun c =>
    match c.2.2 with
    | [] => true
    | [127] => true
    | s => match lookupRow rows s with
      | some km => assignedOK e s km
      | none => mayBeAbsent

/-- `capsDecode` with the test of a found row left open -/
def capsDecodeBy (A : Nat × Nat × Bytes → Nat × Nat → Bool) (rows : List Gen.KeyRow) (caps : List (Nat × Nat × Bytes))
    (mayBeAbsent : Bool) : Bool :=
  caps.all fun c =>
    match c.2.2 with
    | [] => true
    | [127] => true
    | s => match lookupRow rows s with
      | some km => A c km
      | none => mayBeAbsent

theorem capsDecode_eq (e : Terminfo) (rows : List Gen.KeyRow) (caps : List (Nat × Nat × Bytes)) (b : Bool) :
    capsDecode e rows caps b = capsDecodeBy (fun c km => assignedOK e c.2.2 km) rows caps b := by
  unfold capsDecode capsDecodeBy
  congr 1; funext c
  split <;> simp_all <;> rfl

theorem capsDecodeBy_mono {A A' : Nat × Nat × Bytes → Nat × Nat → Bool} {rows : List Gen.KeyRow}
    {caps : List (Nat × Nat × Bytes)} {b b' : Bool} (hA : ∀ c ∈ caps, ∀ km, A c km = true → A' c km = true)
    (hb : b = true → b' = true) (h : capsDecodeBy A rows caps b = true) : capsDecodeBy A' rows caps b' = true := by
  unfold capsDecodeBy at h ⊢
  rw [List.all_eq_true] at h ⊢
  intro c hc
  have := h c hc
  split at this <;> simp_all
  split <;> simp_all

theorem bytesEq_refl : ∀ s : Bytes, bytesEq s s = true
  | [] => rfl
  | a :: s => by simp [bytesEq, Nat.beq_refl, bytesEq_refl s]

theorem assignedOK_self (e : Terminfo) (c : Nat × Nat × Bytes) (hc : c ∈ specCaps e.keys) (km : Nat × Nat)
    (h : (Nat.beq c.1 km.1 && Nat.beq c.2.1 km.2) = true) : assignedOK e c.2.2 km = true := by
  unfold assignedOK
  rw [Bool.or_eq_true]; left
  exact List.any_eq_true.mpr ⟨c, hc, by rw [bytesEq_refl, h]; rfl⟩

/-- `specCaps` is complete: it lists exactly the `Key*` capability fields of `terminfo.Terminfo`, in declaration order, as
regenerated by reflection (`Gen.TerminfoKeys`: `TermKeys.all`) — a field added to the struct makes this fail -/
theorem specCaps_complete (k : TermKeys) : (specCaps k).map (·.2.2) = k.all := by
  simp only [specCaps, TermKeys.all, List.map_cons, List.map_nil]

/-- every `Key*` capability field of the description -/
def dbKeysOK (p : Terminfo × List Gen.KeyRow) : Bool := capsDecode p.1 p.2 (specCaps p.1.keys) false

/-- **DB: every key capability decodes to an assigned key** (full strength, current tree): for EVERY entry of the regenerated
database and EVERY `Key*` capability field it defines (all 160 fields of `terminfo.Terminfo`, `specCaps_complete`; other
than the single DEL byte, which `parseRune` turns into Backspace2 before any table lookup), the string is in the key
table the real constructor builds, with a key and modifiers the description assigns to that string.  Together with
`key_decodes` (table entry ⇒ event) and `db_prefix_free` this is the statement for each capability string.
Holds since /repo bca46fc registered `KeyClear`, `KeyShfInsert`, `KeyShfDelete` (before it: only for the capabilities
`baseKeyCaps` lists — aixterm/hpterm `KeyClear` and the rxvt family's `KeyShfInsert`/`KeyShfDelete` were absent from the
table, finding `key-capability-ignored`).  The Meta/Alt/…Shf cursor-key fields, which `prepareKeys` still does not
read, are defined by no built-in entry (`db_unread_caps_undefined`), so no exception is needed for the database; a
user-supplied or dynamic description that sets them on a non-xterm-modifier entry is outside this theorem. -/
theorem db_keys_decode : Gen.dbTables.all dbKeysOK = true := by
  -- evaluated with the capability's own key tried first: the search through all capabilities with the same string
  -- (`assignedOK`, quadratic in their number) is run only where the table has another key
  have h : Gen.dbTables.all (fun p => capsDecodeBy
      (fun c km => (Nat.beq c.1 km.1 && Nat.beq c.2.1 km.2) || assignedOK p.1 c.2.2 km) p.2 (specCaps p.1.keys) false) = true := by
    unfold capsDecodeBy
    simp only [lookupRow_eq_bucket 4 (by decide)]
    decide +kernel
  refine List.all_eq_true.mpr fun p hp => ?_
  rw [dbKeysOK, capsDecode_eq]
  exact capsDecodeBy_mono (fun c hc km h => (Bool.or_eq_true _ _ ▸ h).elim (assignedOK_self p.1 c hc km) id) id
    (List.all_eq_true.mp h p hp)

/-- ∀-form of `db_keys_decode` -/
theorem db_keys_decode_each (p : Terminfo × List Gen.KeyRow) (hp : p ∈ Gen.dbTables) (c : Nat × Nat × Bytes)
    (hc : c ∈ specCaps p.1.keys) (hne : c.2.2 ≠ []) (hdel : c.2.2 ≠ [127]) :
    ∃ km, lookupRow p.2 c.2.2 = some km ∧ assignedOK p.1 c.2.2 km = true := by
  have h : capsDecode p.1 p.2 (specCaps p.1.keys) false = true := List.all_eq_true.mp db_keys_decode p hp
  have h := List.all_eq_true.mp h c hc
  split at h
  · exact absurd ‹_› hne
  · exact absurd ‹_› hdel
  · split at h
    · exact ⟨_, ‹_›, h⟩
    · cases h

/-- the capability fields `prepareKeys` does not read at all (it derives the xterm-style ones from the modifier
scheme instead): Meta/Alt/Alt-Shift/Meta-Shift/Ctrl-Shift cursor and Home/End keys -/
def unreadCaps (k : TermKeys) : List Bytes :=
  [k.keyMetaUp, k.keyMetaDown, k.keyMetaRight, k.keyMetaLeft, k.keyAltUp, k.keyAltDown, k.keyAltRight, k.keyAltLeft,
   k.keyMetaHome, k.keyMetaEnd, k.keyAltHome, k.keyAltEnd, k.keyAltShfUp, k.keyAltShfDown, k.keyAltShfLeft, k.keyAltShfRight,
   k.keyMetaShfUp, k.keyMetaShfDown, k.keyMetaShfLeft, k.keyMetaShfRight, k.keyCtrlShfUp, k.keyCtrlShfDown, k.keyCtrlShfLeft,
   k.keyCtrlShfRight, k.keyCtrlShfHome, k.keyCtrlShfEnd, k.keyAltShfHome, k.keyAltShfEnd, k.keyMetaShfHome, k.keyMetaShfEnd]

/-- no built-in entry defines any of them (so `db_keys_decode` does not rest on strings that happen to coincide) -/
theorem db_unread_caps_undefined : Gen.dbTables.all (fun p => (unreadCaps p.1.keys).all (·.isEmpty)) = true := by decide +kernel

/-- non-vacuity: the three capabilities the pinned tree ignored are defined by database entries and now decode to their
keys — `KeyClear` of aixterm, `KeyShfInsert` / `KeyShfDelete` of rxvt -/
example :
    (∃ p ∈ Gen.dbTables, p.1.name = "aixterm" ∧ p.1.keys.keyClear ≠ [] ∧ lookupRow p.2 p.1.keys.keyClear = some (keyClear, modNone)) ∧
    (∃ p ∈ Gen.dbTables, p.1.name = "rxvt" ∧ p.1.keys.keyShfInsert ≠ [] ∧ p.1.keys.keyShfDelete ≠ [] ∧
      lookupRow p.2 p.1.keys.keyShfInsert = some (keyInsert, modShift) ∧
      lookupRow p.2 p.1.keys.keyShfDelete = some (keyDelete, modShift)) := by decide +kernel

/-- tree-independent form (true on the pinned tree too): wherever the built table has a capability string at all, the key is
an assigned one -/
theorem db_all_caps_consistent :
    Gen.dbTables.all (fun p => capsDecode p.1 p.2 (specCaps p.1.keys) true) = true :=
  List.all_eq_true.mpr fun p hp => by
    have h := List.all_eq_true.mp db_keys_decode p hp
    rw [dbKeysOK, capsDecode_eq] at h
    rw [capsDecode_eq]
    exact capsDecodeBy_mono (fun _ _ _ => id) (fun _ => rfl) h

/-- witness of the finding `key-capability-ignored` on the model: an aixterm-like entry defining `KeyClear` -/
def exAix : Terminfo := { name := "aixterm", keys := { keyClear := [27, 91, 49, 52, 52, 113], keyUp := [27, 91, 65] } }
theorem ignored_caps_counterexample :
    lookup (buildKeys false exAix) [27, 91, 49, 52, 52, 113] = none
    ∧ (lookup (buildKeys true exAix) [27, 91, 49, 52, 52, 113]).map (fun e => (e.key, e.mod)) = some (keyClear, modNone) := by
  decide +kernel

/-- **DB: prefix-freeness** — the built table of every entry passes the sorted-adjacent certificate … -/
theorem db_chain : Gen.dbTables.all (fun p => chainOK (toTable p.2)) = true := by decide +kernel

/-- … hence no defined sequence of any entry is a prefix of another: decoding never depends on map iteration order -/
theorem db_prefix_free : ∀ p ∈ Gen.dbTables, PrefixFree (toTable p.2) :=
  fun p hp => prefixFree_of_chain _ (List.all_eq_true.mp db_chain p hp)

/-- **DB: xterm modifiers** — on every entry with `Modifiers = XTerm`, for each of the 22 cursor/editing/function keys
and every parameter n = 2..16, the modified sequence is in the table as (that key, exactly the Shift/Alt/Ctrl/Meta set
xterm encodes in n) -/
theorem db_xterm_mods : Gen.dbTables.all (fun p =>
    !decide (p.1.modifiers = modifiersXTerm) ||
    (xtermModKeys p.1.keys).all fun kc => params.all fun n =>
      match modSeq kc.2 n with
      | some ms => (match lookupRow p.2 ms with | some km => Nat.beq km.1 kc.1 && Nat.beq km.2 (xtermMods n) | none => false)
      | none => kc.2.isEmpty) = true := by
  simp only [lookupRow_eq_bucket 16 (by decide)]
  decide +kernel

/-- **DB: control bytes** — for every entry and every byte c < 32: if `[c]` is in the built table it is the Ctrl-letter key
(BS, TAB, CR, ESC unmodified) or a key the description assigns to that byte; if it is not, some defined sequence starts
with c (so the byte is delivered by the timeout path, `NewEventKey` giving the same Ctrl-letter key) -/
theorem db_ctrl_bytes : Gen.dbTables.all (fun p => (List.range 32).all fun c =>
    match lookupRow p.2 [c] with
    | some km => (Nat.beq km.1 c && Nat.beq km.2 (ctrlByteMod c)) || assignedOK p.1 [c] km
    | none => p.2.any fun r => match r.2.1 with | x :: _ => Nat.beq x c | [] => false) = true := by
  simp only [lookupRow_eq_bucket 4 (by decide)]
  decide +kernel

/-- **DB: mouse reports are not shadowed** — on every entry with mouse support no key sequence is comparable with the start
of an SGR or X11 report (hypothesis `mouseClear` of the C12 theorems) -/
theorem db_mouse_clear : Gen.dbTables.all (fun p => !mouseActive p.1 || mouseClear (toTable p.2)) = true := by decide +kernel

/-- the generated numerals are the numerals of the generated sequences (so `lookupRow` misses nothing) and no table has
an empty sequence -/
theorem db_rows_wellformed : Gen.dbTables.all (fun p => p.2.all fun r => Nat.beq r.1 (encode257 r.2.1) && !r.2.1.isEmpty) = true := by
  decide +kernel

end Tcell.Props.C03
