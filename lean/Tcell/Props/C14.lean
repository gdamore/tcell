import Tcell.Model.Lookup
import Tcell.Lemmas.Lookup
import Tcell.Spec.TermSyntax
import Tcell.Gen.TerminfoDB
import Tcell.Gen.TerminfoKeys
import Tcell.Gen.LookupMode
import Tcell.Lemmas.PrefixFree
/-!
# C14 — the built-in terminal database is complete and well-formed, lookups are stable

Two layers.

**Database layer** (`db_*`): statements about `Tcell.Gen.db` / `Tcell.Gen.names`, which `harness/cmd/extract` regenerates from
the entries the tree under test really registers; they are decided by kernel evaluation (`decide +kernel`, no
`native_decide`), each in time linear in the database.

**Lookup layer**: `Tcell.Lookup.lookup` mirrors `terminfo.LookupTerminfo` (terminfo.go:693-781) including the in-place
edits of the entry it found.  The property clause "what a lookup returns does not depend on which other names were looked
up earlier" is **false** for the pinned code (`lookup_order_independent_false`, witnesses on the regenerated database);
it is proved in full for the repaired variant `lookupRepaired` (copy before amending, `fixes/C14-lookup-copy.patch`) and,
for the pinned code, on the class of first lookups that do not amend (`pinned_lookup_result_independent`).

`db_param_strings_wellformed` is syntactic (`TermSyntax.wellFormed`, through `wf`); what the colour strings do when they
are run for every index below the colour count is `Props/C14Colors`.
-/
namespace Tcell.Props.C14
open Tcell Tcell.Lookup

abbrev wf : Nat → Bytes → Bool := TermSyntax.wellFormed

/-- the registry after the `init` functions of terminfo/base and terminfo/extended ran: every regenerated entry
    registered through the model of `AddTerminfo` -/
def R₀ : Registry := Registry.ofList Gen.db

abbrev nm (s : String) : Name := s.toList

/-! ## Database layer -/

/-- `db_names_resolve` together with the fact that no listed name is empty (so that `lookup_registered` applies to each);
    both directions come out of one evaluation, which spells out the registered names only once -/
theorem names_registered :
    (∀ p ∈ Gen.names, nm p.1 ≠ [] ∧
      ∃ id, R₀.find (nm p.1) = some id ∧ (R₀.deref id).name = p.2 ∧ ∃ e ∈ Gen.db, e.name = p.2) ∧
    (∀ q ∈ R₀.names, ∃ p ∈ Gen.names, nm p.1 = q.1) := by
  have h : ((Gen.names.all fun p => !(nm p.1).isEmpty && match R₀.find (nm p.1) with
      | some id => (R₀.deref id).name == p.2 && Gen.db.any (fun e => e.name == p.2)
      | none => false) && R₀.names.all fun q => Gen.names.any fun p => nm p.1 == q.1) = true := by decide +kernel
  rw [Bool.and_eq_true] at h
  constructor
  · intro p hp
    have := List.all_eq_true.mp h.1 p hp
    split at this
    · rename_i id hid
      simp only [Bool.and_eq_true, beq_iff_eq, List.any_eq_true, Bool.not_eq_true', List.isEmpty_eq_false_iff] at this
      exact ⟨this.1, id, hid, this.2.1, this.2.2⟩
    · simp at this
  · intro q hq
    have := List.all_eq_true.mp h.2 q hq
    simp only [List.any_eq_true, beq_iff_eq] at this
    exact this

/-- Every registered name/alias (as listed by the `VerifEntries` hook) resolves in the model registry built with the
    model of `AddTerminfo` to an entry of the database carrying the expected `Name`; conversely the model registers
    nothing else.  (Ties `Registry.add` to the real registrations.) -/
theorem db_names_resolve :
    (∀ p ∈ Gen.names, ∃ id, R₀.find (nm p.1) = some id ∧ (R₀.deref id).name = p.2 ∧ ∃ e ∈ Gen.db, e.name = p.2) ∧
    (∀ q ∈ R₀.names, ∃ p ∈ Gen.names, nm p.1 = q.1) :=
  ⟨fun p hp => (names_registered.1 p hp).2, names_registered.2⟩

/-- a name that is not listed is not registered: a sweep over the listed strings, which the kernel compares without decoding
    them, instead of a failing search of `R₀` -/
theorem not_registered {n : Name} (h : ∀ p ∈ Gen.names, p.1 ≠ String.ofList n) : R₀.find n = none := by
  cases hf : R₀.find n with
  | none => rfl
  | some id =>
    obtain ⟨p, hp, rfl⟩ := names_registered.2 _ (find_mem hf)
    exact absurd String.ofList_toList.symm (h p hp)

/-- Every entry has cursor addressing. -/
theorem db_cursor_addressing : ∀ e ∈ Gen.db, e.setCursor ≠ [] := by decide +kernel

/-- Every parameterised capability string of every entry is a well-formed terminfo program that only uses
    parameters the library supplies for that capability (`TermSyntax.paramStrings` lists them with their arities). -/
theorem db_param_strings_wellformed :
    ∀ e ∈ Gen.db, ∀ p ∈ TermSyntax.paramStrings e, wf p.1 p.2 = true := by decide +kernel

/-- the strings `LookupTerminfo` itself writes are well-formed as well -/
theorem synthesized_strings_wellformed :
    wf 3 stdSetFgRGB = true ∧ wf 3 stdSetBgRGB = true ∧ wf 6 stdSetFgBgRGB = true ∧
    wf 1 stdSetFg256 = true ∧ wf 1 stdSetBg256 = true ∧ wf 2 stdSetFgBg256 = true ∧ wf 0 stdResetFgBg = true := by
  decide +kernel

/-- "colour count consistent with colour strings": the count is not negative; a terminal with colours has both
    `SetFg` and `SetBg`; a terminal without colours has no colour string, no RGB string and no `TrueColor` flag;
    the combined `SetFgBg` only comes with the single ones. -/
def colorsConsistent (t : Terminfo) : Bool :=
  decide (0 ≤ t.colors) &&
  (if t.colors > 0 then !t.setFg.isEmpty && !t.setBg.isEmpty
   else t.setFg.isEmpty && t.setBg.isEmpty && t.setFgBg.isEmpty && rgbAllEmpty t && !t.trueColor) &&
  (t.setFgBg.isEmpty || (!t.setFg.isEmpty && !t.setBg.isEmpty))

theorem db_colors_consistent : ∀ e ∈ Gen.db, colorsConsistent e = true := by decide +kernel

example : colorsConsistent { colors := 8, setFg := [1], setBg := [2] } = true := by decide
example : colorsConsistent { colors := 8, setFg := [1] } = false := by decide

/-- the non-empty `Key*` capability strings of an entry -/
def keyStrings (t : Terminfo) : List Bytes := t.keys.all.filter (fun s => !s.isEmpty)

/-- Among the key sequences of an entry none is a proper prefix of another (two capabilities may carry the same
    string).  Stated over the raw `Key*` capability strings; the table `prepareKeys` builds from them (with the
    synthesized modifier variants) is C03's.  Decided with the sorted-adjacent certificate of `Lemmas/PrefixFree`
    (`check_sound` lifts it to all pairs), linear in the number of keys. -/
theorem db_keys_prefix_free :
    ∀ e ∈ Gen.db, ∀ a ∈ keyStrings e, ∀ b ∈ keyStrings e, a ≠ b → ¬ a <+: b := by
  have h : ∀ e ∈ Gen.db, PrefixFree.check (keyStrings e) = true := by decide +kernel
  exact fun e he => PrefixFree.check_sound _ (h e he)

example : keyStrings { keys := { keyUp := [27, 79, 65], keyF1 := [27, 79, 80] } } = [[27, 79, 80], [27, 79, 65]] := by decide

/-! ## Lookup layer: not found -/

/-- `LookupTerminfo("")` fails (terminfo.go:694-698) and leaves the registry alone. -/
theorem empty_not_found (copy : Bool) (env : Env) (R : Registry) : lookupG copy env R [] = (none, R) := by
  simp [lookupG, lookupF, lookupBody]

/-- A name that is not registered and is not a `-truecolor` / `-256color` variant fails with `ErrTermNotFound`,
    whatever the environment, and the registry is untouched. -/
theorem unknown_not_found (copy : Bool) (env : Env) (R : Registry) (name : Name)
    (h1 : R.find name = none) (h2 : sfxTruecolor.isSuffixOf name = false) (h3 : sfx256color.isSuffixOf name = false) :
    lookupG copy env R name = (none, R) := by
  rw [lookupG_eq]
  simp [lookupBody, searchTC, search256, h1, stripSuffix, h2, h3]

example : R₀.find (nm "nosuchterm") = none ∧ sfxTruecolor.isSuffixOf (nm "nosuchterm") = false ∧
    sfx256color.isSuffixOf (nm "nosuchterm") = false := ⟨not_registered (by decide +kernel), by decide +kernel⟩

/-- an unregistered `-256color` name: the first resolving sibling, made a 256-colour entry (terminfo.go:732-744, 774-778) -/
theorem lookup_256color (copy : Bool) (env : Env) (R : Registry) (base : Name) (h0 : R.find (base ++ sfx256color) = none) :
    lookupG copy env R (base ++ sfx256color) =
      finishFound copy env (firstFound (lookupG copy env) base suf256 R) env.colortermOn true := by
  rw [lookupG_cases _ _ _ _ (by simp [sfx256color]), h0]
  simp only [stripSuffix_truecolor_256, stripSuffix_append]

/-- an unregistered `-truecolor` name: the first resolving sibling, with direct colour requested (terminfo.go:712-729) -/
theorem lookup_truecolor (copy : Bool) (env : Env) (R : Registry) (base : Name) (h0 : R.find (base ++ sfxTruecolor) = none) :
    lookupG copy env R (base ++ sfxTruecolor) = finishFound copy env (firstFound (lookupG copy env) base sufTrue R) true false := by
  rw [lookupG_cases _ _ _ _ (by simp [sfxTruecolor]), h0]
  simp only [stripSuffix_append]

/-- A failing lookup never edits the registry (pinned and repaired code alike). -/
theorem not_found_pure (copy : Bool) (env : Env) (R : Registry) (name : Name)
    (h : (lookupG copy env R name).1 = none) : (lookupG copy env R name).2 = R :=
  lookupF_none_reg copy env _ R name h

/-- A `-256color` name none of whose `-88color`/`-color` siblings resolves, and a `-truecolor` name none of whose
    `-256color`/`-88color`/`-color`/bare siblings resolves, fail as well. -/
theorem unknown_variant_not_found (copy : Bool) (env : Env) (R : Registry) (base : Name) :
    (R.find (base ++ sfx256color) = none → (∀ s ∈ suf256, (lookupG copy env R (base ++ s)).1 = none) →
      lookupG copy env R (base ++ sfx256color) = (none, R)) ∧
    (R.find (base ++ sfxTruecolor) = none → (∀ s ∈ sufTrue, (lookupG copy env R (base ++ s)).1 = none) →
      lookupG copy env R (base ++ sfxTruecolor) = (none, R)) := by
  have hnone := fun ss => firstFound_none (not_found_pure copy env) base ss R
  exact ⟨fun h0 hs => by rw [lookup_256color copy env R base h0, hnone suf256 hs]; rfl,
    fun h0 hs => by rw [lookup_truecolor copy env R base h0, hnone sufTrue hs]; rfl⟩

example : (∀ s ∈ suf256, (lookupG false {} R₀ (nm "nosuch" ++ s)).1 = none) ∧ R₀.find (nm "nosuch" ++ sfx256color) = none := by
  decide +kernel

/-! ## Lookup layer: what a successful lookup returns -/

/-- A registered name: the entry found, amended with the ISO 8613-6 RGB strings exactly when 24-bit colour is
    requested (COLORTERM or the entry's `TrueColor` flag, overridden by TCELL_TRUECOLOR) and it has none. -/
theorem lookup_registered (copy : Bool) (env : Env) (R : Registry) (name : Name) (id : EntryId)
    (hne : name ≠ []) (h : R.find name = some id) :
    lookupG copy env R name =
      (some (finish copy env R (.ptr id) (env.colortermOn || (R.deref id).trueColor) false).1,
       (finish copy env R (.ptr id) (env.colortermOn || (R.deref id).trueColor) false).2) := by
  rw [lookupG_cases _ _ _ _ hne, h]; rfl

theorem lookup_registered_value (copy : Bool) (env : Env) (R : Registry) (name : Name) (id : EntryId)
    (hne : name ≠ []) (h : R.find name = some id) :
    resultOf (lookupG copy env R name) =
      some (finishVal env (R.deref id) (env.colortermOn || (R.deref id).trueColor) false) := by
  rw [lookupG_cases _ _ _ _ hne, h]; exact resultOf_finishFound ..

/-- Every registered name/alias, looked up with `LookupTerminfo` in the neutral environment from the pristine
    registry, is found and yields the entry carrying the expected `Name`. -/
theorem db_lookup_resolves :
    ∀ p ∈ Gen.names, (resultOf (lookup {} R₀ (nm p.1))).map (·.name) = some p.2 := by
  intro p hp
  obtain ⟨hne, id, hf, hn, -⟩ := names_registered.1 p hp
  rw [show lookup {} R₀ (nm p.1) = lookupG false {} R₀ (nm p.1) from rfl,
    lookup_registered_value false {} R₀ _ id hne hf, Option.map_some, finishVal_name, hn]

/-- Which names resolve, stated independently of the lookup algorithm: a non-empty registered name; an unregistered
    `B-truecolor` one of whose siblings `B-256color`, `B-88color`, `B-color`, `B` resolves; an unregistered `B-256color`
    one of whose siblings `B-88color`, `B-color` resolves.  Nothing else. -/
inductive Resolvable (R : Registry) : Name → Prop
  | registered {n : Name} : n ≠ [] → (R.find n).isSome = true → Resolvable R n
  | truecolor {base s : Name} : R.find (base ++ sfxTruecolor) = none → s ∈ sufTrue → Resolvable R (base ++ s) →
      Resolvable R (base ++ sfxTruecolor)
  | c256 {base s : Name} : R.find (base ++ sfx256color) = none → s ∈ suf256 → Resolvable R (base ++ s) →
      Resolvable R (base ++ sfx256color)

theorem resolvable_of_found (copy : Bool) (env : Env) :
    ∀ (f : Nat) (R : Registry) (n : Name), (lookupF copy env f R n).1.isSome = true → Resolvable R n
  | 0, _, _, h => by simp [lookupF] at h
  | f + 1, R, n, h => by
    by_cases hn : n = []
    · simp [lookupF, lookupBody, hn] at h
    rw [lookupF, lookupBody_eq _ _ _ _ _ hn] at h
    -- a resolving sibling is resolvable by induction
    have sib : ∀ base ss, (firstFound (lookupF copy env f) base ss R).1.isSome = true →
        ∃ s ∈ ss, Resolvable R (base ++ s) := fun base ss hs =>
      let ⟨s, hs', hl⟩ := (firstFound_isSome_iff (lookupF_none_reg copy env f) base ss R).mp hs
      ⟨s, hs', resolvable_of_found copy env f R _ hl⟩
    cases hf : R.find n with
    | some id => exact .registered hn (by simp [hf])
    | none =>
      rw [hf] at h
      cases hs : stripSuffix sfxTruecolor n with
      | some base =>
        rw [hs, finishFound_isSome] at h
        obtain ⟨s, hs', hr⟩ := sib base _ h
        rw [stripSuffix_some hs] at hf ⊢
        exact .truecolor hf hs' hr
      | none =>
        rw [hs] at h
        cases hs2 : stripSuffix sfx256color n with
        | some base =>
          rw [hs2, finishFound_isSome] at h
          obtain ⟨s, hs', hr⟩ := sib base _ h
          rw [stripSuffix_some hs2] at hf ⊢
          exact .c256 hf hs' hr
        | none => rw [hs2] at h; cases h

theorem found_of_resolvable (copy : Bool) (env : Env) (R : Registry) (n : Name) (h : Resolvable R n) :
    (lookupG copy env R n).1.isSome = true := by
  induction h with
  | @registered n hn hf =>
    cases hid : R.find n with
    | none => simp [hid] at hf
    | some id => rw [lookup_registered copy env R n id hn hid]; rfl
  | @truecolor base s h0 hs _ ih =>
    rw [lookup_truecolor copy env R base h0, finishFound_isSome]
    exact (firstFound_isSome_iff (not_found_pure copy env) base sufTrue R).mpr ⟨s, hs, ih⟩
  | @c256 base s h0 hs _ ih =>
    rw [lookup_256color copy env R base h0, finishFound_isSome]
    exact (firstFound_isSome_iff (not_found_pure copy env) base suf256 R).mpr ⟨s, hs, ih⟩

/-- **unknown_not_found, full strength**: in every registry and environment, for the pinned and the repaired code, a
    lookup succeeds exactly for the resolvable names; every other name (in particular `""`) yields `ErrTermNotFound`. -/
theorem found_iff_resolvable (copy : Bool) (env : Env) (R : Registry) (n : Name) :
    (lookupG copy env R n).1.isSome = true ↔ Resolvable R n :=
  ⟨resolvable_of_found copy env _ R n, found_of_resolvable copy env R n⟩

/-- of the `eterm` family only `eterm-color` is registered -/
theorem eterm_siblings : R₀.find (nm "eterm" ++ sfx256color) = none ∧ R₀.find (nm "eterm" ++ sfx88color) = none ∧
    (R₀.find (nm "eterm" ++ sfxColor)).isSome = true :=
  have ⟨_, _, h, _⟩ := names_registered.1 ("eterm-color", "eterm-color") (by decide +kernel)
  ⟨not_registered (by decide +kernel), not_registered (by decide +kernel),
    show (R₀.find (nm "eterm-color")).isSome = true from h ▸ rfl⟩

example : Resolvable R₀ (nm "eterm-256color") :=
  .c256 (base := nm "eterm") (s := sfxColor) eterm_siblings.1 (by decide) (.registered (by decide) eterm_siblings.2.2)

/-! ### the COLORTERM / TCELL_TRUECOLOR table -/

theorem colortermOn_iff (env : Env) :
    env.colortermOn = true ↔ env.colorterm = "truecolor" ∨ env.colorterm = "24bit" ∨ env.colorterm = "24-bit" := by
  simp [Env.colortermOn, or_assoc]

theorem finalTC_table (env : Env) (x : Bool) :
    (env.tcellTruecolor = "" → env.finalTC x = x) ∧
    (env.tcellTruecolor = "disable" → env.finalTC x = false) ∧
    (env.tcellTruecolor ≠ "" → env.tcellTruecolor ≠ "disable" → env.finalTC x = true) := by
  refine ⟨?_, ?_, ?_⟩
  · intro h; simp [Env.finalTC, Env.override, h]
  · intro h; simp [Env.finalTC, Env.override, h]
  · intro h1 h2; simp [Env.finalTC, Env.override, h1, h2]

/-- **env_truecolor**: for a registered name, with `t` the registered entry and `v` the value the lookup returns:
    * `TCELL_TRUECOLOR=disable`: `v = t` (direct colour is never added);
    * `TCELL_TRUECOLOR` set to anything else: the RGB strings are supplied if `t` has none;
    * `TCELL_TRUECOLOR` unset: they are supplied iff `COLORTERM ∈ {truecolor, 24bit, 24-bit}` or `t.TrueColor`, and `t` has none. -/
theorem env_truecolor (copy : Bool) (env : Env) (R : Registry) (name : Name) (id : EntryId)
    (hne : name ≠ []) (h : R.find name = some id) :
    (env.tcellTruecolor = "disable" → resultOf (lookupG copy env R name) = some (R.deref id)) ∧
    (env.tcellTruecolor ≠ "" → env.tcellTruecolor ≠ "disable" →
      resultOf (lookupG copy env R name) =
        some (if rgbAllEmpty (R.deref id) then addRGB (R.deref id) else R.deref id)) ∧
    (env.tcellTruecolor = "" →
      resultOf (lookupG copy env R name) =
        some (if (env.colortermOn || (R.deref id).trueColor) && rgbAllEmpty (R.deref id)
              then addRGB (R.deref id) else R.deref id)) := by
  rw [lookup_registered_value copy env R name id hne h]
  have T := finalTC_table env (env.colortermOn || (R.deref id).trueColor)
  refine ⟨fun h1 => ?_, fun h1 h2 => ?_, fun h1 => ?_⟩
  · simp [finishVal, T.2.1 h1]
  · simp [finishVal, T.2.2 h1 h2]
  · simp [finishVal, T.1 h1]

/-- the hypotheses of `env_truecolor` / `lookup_registered` hold on the real database -/
example : nm "xterm-kitty" ≠ [] ∧ (R₀.find (nm "xterm-kitty")).isSome = true := by decide +kernel

example : ({ colorterm := "24bit" } : Env).colortermOn = true ∧ ({ colorterm := "yes" } : Env).colortermOn = false ∧
    ({ tcellTruecolor := "disable" } : Env).finalTC true = false ∧ ({ tcellTruecolor := "1" } : Env).finalTC false = true := by
  decide

/-! ### synthesis -/

theorem rgbAllEmpty_addRGB (t : Terminfo) : rgbAllEmpty (addRGB t) = false := rfl

theorem finalTC_mono (env : Env) (a b : Bool) (h : a = true → b = true) : env.finalTC a = true → env.finalTC b = true := by
  unfold Env.finalTC
  cases env.override <;> simp <;> exact h

/-- **synth_256**: `NAME-256color` is not registered but `NAME-88color` is (or it is not and `NAME-color` is): the lookup
    succeeds and returns that sibling's entry — amended for direct colour exactly as a lookup of the sibling itself
    would be — with `Colors = 256` and exactly the standard xterm 256-colour `SetFg`, `SetBg`, `SetFgBg`, `ResetFgBg`. -/
theorem synth_256 (copy : Bool) (env : Env) (R : Registry) (base : Name) (id : EntryId)
    (h0 : R.find (base ++ sfx256color) = none)
    (hs : R.find (base ++ sfx88color) = some id ∨
          (R.find (base ++ sfx88color) = none ∧ R.find (base ++ sfxColor) = some id)) :
    resultOf (lookupG copy env R (base ++ sfx256color)) =
      some (set256 (finishVal env (R.deref id) (env.colortermOn || (R.deref id).trueColor) false)) := by
  have hne88 : base ++ sfx88color ≠ [] := by simp [sfx88color]
  have hneC : base ++ sfxColor ≠ [] := by simp [sfxColor]
  -- the first sibling that resolves
  have hff : firstFound (lookupG copy env) base suf256 R =
      (some (finish copy env R (.ptr id) (env.colortermOn || (R.deref id).trueColor) false).1,
       (finish copy env R (.ptr id) (env.colortermOn || (R.deref id).trueColor) false).2) := by
    rcases hs with h88 | ⟨h88, hC⟩
    · simp [suf256, firstFound, lookup_registered copy env R _ id hne88 h88]
    · have hnf : lookupG copy env R (base ++ sfx88color) = (none, R) := by
        apply unknown_not_found copy env R _ h88
        · simp [List.isSuffixOf, sfxTruecolor, sfx88color, List.isPrefixOf]
        · simp [List.isSuffixOf, sfx256color, sfx88color, List.isPrefixOf]
      simp [suf256, firstFound, hnf, lookup_registered copy env R _ id hneC hC]
  rw [lookup_256color copy env R base h0, resultOf_finishFound, hff]
  simp only [resultOf, Option.map_some]
  rw [get_finish]
  -- the outer direct-colour step is a no-op after the inner one
  simp only [Registry.get]
  generalize R.deref id = t
  unfold finishVal
  simp only [Bool.false_eq_true, if_false, if_true]
  by_cases hin : (env.finalTC (env.colortermOn || t.trueColor) && rgbAllEmpty t) = true
  · simp only [hin, if_true, rgbAllEmpty_addRGB, Bool.and_false, Bool.false_eq_true, if_false]
  · have hout : (env.finalTC env.colortermOn && rgbAllEmpty t) = false := by
      cases hr : rgbAllEmpty t
      · simp
      · simp only [hr, Bool.and_true] at hin ⊢
        cases hc : env.finalTC env.colortermOn
        · rfl
        · exact absurd (finalTC_mono env _ _ (by intro h; simp [h]) hc) hin
    simp only [hin, hout, Bool.false_eq_true, if_false]

/-- consequences of `synth_256` in the words of the property: 256 colours and exactly the standard sequences -/
theorem synth_256_standard (copy : Bool) (env : Env) (R : Registry) (base : Name) (id : EntryId)
    (h0 : R.find (base ++ sfx256color) = none)
    (hs : R.find (base ++ sfx88color) = some id ∨
          (R.find (base ++ sfx88color) = none ∧ R.find (base ++ sfxColor) = some id)) :
    ∃ t, resultOf (lookupG copy env R (base ++ sfx256color)) = some t ∧ t.colors = 256 ∧
      t.setFg = stdSetFg256 ∧ t.setBg = stdSetBg256 ∧ t.setFgBg = stdSetFgBg256 ∧ t.resetFgBg = stdResetFgBg ∧
      t.name = (R.deref id).name ∧ t.setCursor = (R.deref id).setCursor ∧ t.keys = (R.deref id).keys := by
  refine ⟨_, synth_256 copy env R base id h0 hs, rfl, rfl, rfl, rfl, rfl, ?_, ?_, ?_⟩ <;>
  · unfold finishVal; simp only [Bool.false_eq_true, if_false]; split <;> rfl

/-- the hypotheses of `synth_256` hold on the real database: `eterm-256color` (from `eterm-color`) -/
example : R₀.find (nm "eterm" ++ sfx256color) = none ∧ R₀.find (nm "eterm" ++ sfx88color) = none ∧
    (R₀.find (nm "eterm" ++ sfxColor)).isSome = true := eterm_siblings

/-- **synth_truecolor**: `NAME-truecolor` is not registered and `r` is what the first resolving sibling among
    `NAME-256color`, `NAME-88color`, `NAME-color`, `NAME` returned: the lookup returns that entry with direct colour
    requested, i.e. unless `TCELL_TRUECOLOR=disable` it has RGB strings — the ISO 8613-6 ones if it had none. -/
theorem synth_truecolor (copy : Bool) (env : Env) (R R' : Registry) (base : Name) (r : Res)
    (h0 : R.find (base ++ sfxTruecolor) = none)
    (hff : firstFound (lookupG copy env) base sufTrue R = (some r, R')) :
    resultOf (lookupG copy env R (base ++ sfxTruecolor)) = some (finishVal env (R'.get r) true false) ∧
    (env.tcellTruecolor ≠ "disable" → rgbAllEmpty (R'.get r) = true →
      resultOf (lookupG copy env R (base ++ sfxTruecolor)) = some (addRGB (R'.get r))) ∧
    (env.tcellTruecolor ≠ "disable" →
      ∃ t, resultOf (lookupG copy env R (base ++ sfxTruecolor)) = some t ∧ rgbAllEmpty t = false) := by
  have hval : resultOf (lookupG copy env R (base ++ sfxTruecolor)) = some (finishVal env (R'.get r) true false) := by
    rw [lookup_truecolor copy env R base h0, resultOf_finishFound, hff]; rfl
  have hfin : env.tcellTruecolor ≠ "disable" → env.finalTC true = true := by
    intro h
    by_cases he : env.tcellTruecolor = ""
    · simp [(finalTC_table env true).1 he]
    · exact (finalTC_table env true).2.2 he h
  refine ⟨hval, fun hd he => ?_, fun hd => ?_⟩
  · rw [hval]; simp [finishVal, hfin hd, he]
  · refine ⟨_, hval, ?_⟩
    simp only [finishVal, hfin hd, Bool.true_and, Bool.false_eq_true, if_false]
    cases he : rgbAllEmpty (R'.get r)
    · simp [he]
    · simp only [if_true, rgbAllEmpty_addRGB]

/-- the hypotheses of `synth_truecolor` hold on the real database: `screen-truecolor` (from `screen-256color`) -/
example : R₀.find (nm "screen" ++ sfxTruecolor) = none ∧
    (firstFound (lookupG false {}) (nm "screen") sufTrue R₀).1.isSome = true :=
  ⟨not_registered (by decide +kernel), by decide +kernel⟩

/-- the registered names ending in `-truecolor` denote entries that bring their own RGB strings -/
theorem truecolor_names_direct :
    ∀ q ∈ R₀.names, sfxTruecolor.isSuffixOf q.1 = true → rgbAllEmpty (R₀.deref q.2) = false := by decide +kernel

/-- on the real database, neutral environment: for every registered NAME, `NAME-256color` (when a `-88color`/`-color`
    sibling exists) has 256 colours and the standard sequences, and `NAME-truecolor` resolves with RGB strings -/
theorem db_synthesis :
    (∀ p ∈ Gen.names, ∀ s ∈ suf256, ∀ base, stripSuffix s (nm p.1) = some base →
      R₀.find (base ++ sfx256color) = none →
      (resultOf (lookup {} R₀ (base ++ sfx256color))).map (fun t => (t.colors, t.setFg, t.setBg, t.setFgBg, t.resetFgBg))
        = some (256, stdSetFg256, stdSetBg256, stdSetFgBg256, stdResetFgBg)) ∧
    (∀ p ∈ Gen.names, (resultOf (lookup {} R₀ (nm p.1 ++ sfxTruecolor))).map rgbAllEmpty = some false) := by
  constructor
  · intro p hp s hs base hb hnf
    obtain ⟨-, id, hf, -⟩ := names_registered.1 p hp
    rw [stripSuffix_some hb] at hf
    -- the sibling `synth_256` starts from: `base-88color` if registered, else `base-color`
    have key : ∃ id', R₀.find (base ++ sfx88color) = some id' ∨
        (R₀.find (base ++ sfx88color) = none ∧ R₀.find (base ++ sfxColor) = some id') := by
      simp only [suf256, List.mem_cons, List.not_mem_nil, or_false] at hs
      rcases hs with rfl | rfl
      · exact ⟨id, .inl hf⟩
      · cases h88 : R₀.find (base ++ sfx88color) with
        | some id' => exact ⟨id', .inl rfl⟩
        | none => exact ⟨id, .inr ⟨rfl, hf⟩⟩
    obtain ⟨id', hs'⟩ := key
    obtain ⟨t, ht, h1, h2, h3, h4, h5, -⟩ := synth_256_standard false {} R₀ base id' hnf hs'
    show (resultOf (lookupG false {} R₀ (base ++ sfx256color))).map _ = _
    rw [ht, Option.map_some, h1, h2, h3, h4, h5]
  · intro p hp
    obtain ⟨hne, id, hf, -⟩ := names_registered.1 p hp
    show (resultOf (lookupG false {} R₀ (nm p.1 ++ sfxTruecolor))).map _ = _
    cases hT : R₀.find (nm p.1 ++ sfxTruecolor) with
    | some idT =>
      rw [lookup_registered_value false {} R₀ _ idT (by simp [sfxTruecolor]) hT, Option.map_some,
        rgbAllEmpty_finishVal _ _ _ _ (truecolor_names_direct (_, idT) (find_mem hT)
          (List.isSuffixOf_iff_suffix.mpr ⟨_, rfl⟩))]
    | none =>
      -- `synth_truecolor` applies: the bare name is the last sibling tried, and it is registered
      have hff := (firstFound_isSome_iff (not_found_pure false {})
        (nm p.1) sufTrue R₀).mpr ⟨[], by simp [sufTrue], by
          rw [List.append_nil, lookup_registered false {} R₀ _ id hne hf]; rfl⟩
      cases hfv : firstFound (lookupG false {}) (nm p.1) sufTrue R₀ with
      | mk o R' =>
        rw [hfv] at hff
        cases o with
        | none => cases hff
        | some r =>
          obtain ⟨t, ht, hr⟩ := (synth_truecolor false {} R₀ R' (nm p.1) r hT hfv).2.2 (by decide)
          rw [ht, Option.map_some, hr]

/-! ## Lookup layer: stability -/

/-- **lookup_pure (repaired code)**: a lookup does not change the registry. -/
theorem lookup_pure (env : Env) (R : Registry) (n : Name) : (lookupRepaired env R n).2 = R :=
  lookupF_true_reg env _ R n

/-- **lookup_order_independent (repaired code)**: for all names `a b`, all registries and all environments (even a
    different one for each lookup), looking up `b` gives the same result whether or not `a` was looked up first. -/
theorem lookup_order_independent (envA envB : Env) (R : Registry) (a b : Name) :
    lookupRepaired envB (lookupRepaired envA R a).2 b = lookupRepaired envB R b := by
  rw [lookup_pure]

/-- Conditional form (true on any tree): `Gen.lookupCopies` is what the translator's probe found; the driver ties
    `lookupG Gen.lookupCopies` to the real code.  If the tree copies before amending, its model is order independent. -/
theorem tree_lookup_order_independent (h : Gen.lookupCopies = true) (envA envB : Env) (R : Registry) (a b : Name) :
    lookupG Gen.lookupCopies envB (lookupG Gen.lookupCopies envA R a).2 b = lookupG Gen.lookupCopies envB R b := by
  rw [h]; exact lookup_order_independent envA envB R a b

/-- the variant in force: the tree under test copies before amending (/repo 56dac96 "LookupTerminfo amends a copy, not the
    registered entry").  On a tree that still amends in place this declaration fails to check and the `lookup` engine's
    oracle reports the order dependence with a concrete history (class `lookup-order-dependent`). -/
theorem tree_lookup_copies : Gen.lookupCopies = true := by decide

/-- the model of the tree under test: `LookupTerminfo` as the current source implements it -/
abbrev lookupTree (env : Env) (R : Registry) (n : Name) : Option Res × Registry := lookupG Gen.lookupCopies env R n

/-- **lookup_pure_tree** (headline, current tree): a lookup does not change the registry — any environment, registry, name. -/
theorem lookup_pure_tree (env : Env) (R : Registry) (n : Name) : (lookupTree env R n).2 = R := by
  show (lookupG Gen.lookupCopies env R n).2 = R
  rw [tree_lookup_copies]; exact lookup_pure env R n

/-- **lookup_order_independent_tree** (headline, current tree, full strength): for all names `a b`, all registries and all
    environments (even a different one for each lookup), looking up `b` gives the same result — returned entry AND registry
    left behind — whether or not `a` was looked up first.  No restriction on `a` (synthesizing `-256color` / `-truecolor`
    lookups and RGB amendment included: exactly the cases `lookup_order_dependent_*` refute for the pinned code). -/
theorem lookup_order_independent_tree (envA envB : Env) (R : Registry) (a b : Name) :
    lookupTree envB (lookupTree envA R a).2 b = lookupTree envB R b :=
  tree_lookup_order_independent tree_lookup_copies envA envB R a b

/-- **history_independent_tree**: every lookup of a history of any length returns what it returns in the initial registry,
    and the registry at the end is the initial one. -/
theorem history_independent_tree (env : Env) (R : Registry) (ns : List Name) :
    runHistory (lookupTree env) R ns = (ns.map fun n => resultOf (lookupTree env R n), R) := by
  induction ns with
  | nil => rfl
  | cons n ns ih => simp only [runHistory, lookup_pure_tree, ih, List.map_cons]

/-- non-vacuity on the real database, for the tree's own model: the three histories that were order dependent on the pinned
    code now agree, and the lookups still synthesize / amend (256 colours, RGB strings present) -/
example :
    (resultOf (lookupTree {} (lookupTree {} R₀ (nm "eterm-256color")).2 (nm "eterm-color"))).map (·.colors) = some 8 ∧
    (resultOf (lookupTree {} R₀ (nm "eterm-256color"))).map (·.colors) = some 256 ∧
    (resultOf (lookupTree {} (lookupTree {} R₀ (nm "screen-truecolor")).2 (nm "screen-256color"))).map rgbAllEmpty = some true ∧
    (resultOf (lookupTree {} R₀ (nm "screen-truecolor"))).map rgbAllEmpty = some false ∧
    (resultOf (lookupTree {} (lookupTree { colorterm := "truecolor" } R₀ (nm "xterm")).2 (nm "xterm"))).map rgbAllEmpty = some true := by
  decide +kernel

/-- … and for histories of any length: every lookup of a history returns what it returns in the initial registry,
    and the registry at the end is the initial one. -/
theorem history_independent (env : Env) (R : Registry) (ns : List Name) :
    runHistory (lookupRepaired env) R ns = (ns.map fun n => resultOf (lookupRepaired env R n), R) := by
  induction ns with
  | nil => rfl
  | cons n ns ih => simp only [runHistory, lookup_pure, ih, List.map_cons]

example : resultOf (lookupRepaired {} (lookupRepaired {} R₀ (nm "eterm-256color")).2 (nm "eterm-color"))
    = resultOf (lookupRepaired {} R₀ (nm "eterm-color")) := by rw [lookup_pure]

/-- the repaired code still synthesizes: the statement above is not vacuous -/
example : (resultOf (lookupRepaired {} R₀ (nm "eterm-256color"))).map (·.colors) = some 256 ∧
    (resultOf (lookupRepaired {} R₀ (nm "eterm-color"))).map (·.colors) = some 8 := by decide +kernel

/-- **The repair keeps the behaviour of every single lookup**: in any registry and environment the pinned code and the
    repaired code return the same entry value for the same name (they differ only in what they leave behind). -/
theorem repair_preserves_lookup_value (env : Env) (R : Registry) (n : Name) :
    resultOf (lookup env R n) = resultOf (lookupRepaired env R n) :=
  lookupF_agree env _ R n

/-- No lookup — pinned or repaired — registers or unregisters a name: the pinned code only edits entry contents. -/
theorem lookup_names_unchanged (copy : Bool) (env : Env) (R : Registry) (n : Name) :
    (lookupG copy env R n).2.names = R.names :=
  lookupF_names copy env _ R n

theorem resolvable_congr {R R' : Registry} (h : R'.names = R.names) {n : Name} (hr : Resolvable R n) : Resolvable R' n := by
  have hf : ∀ m, R'.find m = R.find m := fun m => by simp [Registry.find, h]
  induction hr with
  | @registered n hn hs => exact .registered hn (by rw [hf]; exact hs)
  | @truecolor base s h0 hs _ ih => exact .truecolor (by rw [hf]; exact h0) hs ih
  | @c256 base s h0 hs _ ih => exact .c256 (by rw [hf]; exact h0) hs ih

/-- **found_order_independent (pinned code too)**: whether a lookup succeeds or fails with `ErrTermNotFound` never depends on
    earlier lookups or on the environment — only the *contents* of the returned entry can (see the witnesses below). -/
theorem found_order_independent (copy : Bool) (envA envB envC : Env) (R : Registry) (a b : Name) :
    (lookupG copy envB (lookupG copy envA R a).2 b).1.isSome = (lookupG copy envC R b).1.isSome := by
  have hn := lookup_names_unchanged copy envA R a
  apply Bool.eq_iff_iff.mpr
  rw [found_iff_resolvable, found_iff_resolvable]
  exact ⟨resolvable_congr hn.symm, resolvable_congr hn⟩

/-- **Pinned code, witness 1**: looking up `eterm-256color` turns the registered
    `eterm-color` entry into a 256-colour entry — a later lookup of `eterm-color` returns 256 colours instead of 8. -/
theorem lookup_order_dependent_eterm :
    (resultOf (lookup {} R₀ (nm "eterm-color"))).map (·.colors) = some 8 ∧
    (resultOf (lookup {} (lookup {} R₀ (nm "eterm-256color")).2 (nm "eterm-color"))).map (·.colors) = some 256 := by
  decide +kernel

/-- **Pinned code, witness 2**: `screen-truecolor` leaves RGB strings in the registered `screen-256color`. -/
theorem lookup_order_dependent_screen :
    (resultOf (lookup {} R₀ (nm "screen-256color"))).map rgbAllEmpty = some true ∧
    (resultOf (lookup {} (lookup {} R₀ (nm "screen-truecolor")).2 (nm "screen-256color"))).map rgbAllEmpty = some false := by
  decide +kernel

/-- **Pinned code, witness 3**: with `COLORTERM=truecolor` a plain lookup permanently adds RGB strings to the registered
    entry: after the variable is unset the entry still has them. -/
theorem lookup_env_leaks_xterm :
    (resultOf (lookup {} R₀ (nm "xterm"))).map rgbAllEmpty = some true ∧
    (resultOf (lookup {} (lookup { colorterm := "truecolor" } R₀ (nm "xterm")).2 (nm "xterm"))).map rgbAllEmpty = some false := by
  decide +kernel

/-- `lookup_pure` and `lookup_order_independent` are **false** for the pinned code. -/
theorem lookup_order_independent_false :
    ¬ (∀ (env : Env) (R : Registry) (a b : Name), resultOf (lookup env (lookup env R a).2 b) = resultOf (lookup env R b)) ∧
    ¬ (∀ (env : Env) (R : Registry) (n : Name), (lookup env R n).2 = R) := by
  have w := lookup_order_dependent_eterm
  constructor
  · intro h
    have := congrArg (Option.map (·.colors)) (h {} R₀ (nm "eterm-256color") (nm "eterm-color"))
    rw [w.1, w.2] at this
    cases this
  · intro h
    have := w.2
    rw [h, w.1] at this
    cases this

/-- **pinned code only** (`lookup` = `lookupG false`, the model of the tree before 56dac96; NOT the variant in force — for the
    current tree see `lookup_order_independent_tree`, which has no hypothesis on `a`): the clause holds for every second
    lookup `b` when the first lookup `a` either fails, or is a direct hit that needs no amendment (24-bit colour not requested,
    or the entry already has an RGB string).  For first lookups that synthesize (`-256color`, `-truecolor` variants) or add RGB
    strings the statement is false for the pinned code, see the witnesses above: this is the exact extent of the former
    defect. -/
theorem pinned_lookup_result_independent (envA envB : Env) (R : Registry) (a b : Name)
    (h : (lookup envA R a).1 = none ∨
         ∃ id, a ≠ [] ∧ R.find a = some id ∧
           (envA.finalTC (envA.colortermOn || (R.deref id).trueColor) = false ∨ rgbAllEmpty (R.deref id) = false)) :
    lookup envB (lookup envA R a).2 b = lookup envB R b := by
  have : (lookup envA R a).2 = R := by
    rcases h with h | ⟨id, hne, hf, hc⟩
    · exact not_found_pure false envA R a h
    · show (lookupG false envA R a).2 = R
      rw [lookup_registered false envA R a id hne hf]
      rcases hc with hc | hc <;> simp [finish, hc, Registry.get]
  rw [this]

/-- the hypotheses are satisfiable on the real database: `xterm` in the neutral environment is such a first lookup -/
example : ∃ id, nm "xterm" ≠ [] ∧ R₀.find (nm "xterm") = some id ∧
    (({} : Env).finalTC (({} : Env).colortermOn || (R₀.deref id).trueColor) = false ∨ rgbAllEmpty (R₀.deref id) = false) :=
  ⟨(R₀.find (nm "xterm")).getD 0, by decide +kernel⟩

end Tcell.Props.C14
