/-
C19 – the page: `page_frame` (a Show touches only cells that were dirty at entry), `visited_clean` (every cell
the draw walk stops at is clean afterwards) and `page_faithful` (history induction: every in-range cell that is
unlocked and reported clean shows, on the page grid rebuilt from the JS calls, exactly the rendering of its
logical contents).  The dirty-tracking part of the induction is C08's specification ghost (lemmas in
Tcell/Lemmas/WScreen.lean).
-/
import Tcell.Lemmas.WScreen
namespace Tcell.Props.C19
open Tcell Tcell.Buf Tcell.WScreen

variable (p : Pal) (scr : Style)

/-- **page_frame.**  Every `drawCell` call a `Show` makes into JavaScript targets a cell that was dirty when the
`Show` started (so cells that did not change since they were last drawn are not touched), and `Show` makes no
`resize` call and – outside a `Sync` – no `clearScreen` call. -/
theorem page_frame (s : WS) (hc : s.clear = false) :
    ∀ c ∈ (WScreen.show p s).2,
      (∃ x y pc, c = JsCall.drawCell x y pc ∧ s.cells.dirty x y = true) ∨ c = JsCall.present := by
  intro c hcm
  unfold WScreen.show draw at hcm
  simp only [hc, Bool.false_eq_true, if_false, List.nil_append] at hcm
  rcases List.mem_append.1 hcm with h | h
  · exact Or.inl ((drawRows_frame p s.style s.w s.h.toNat 0 s.cells).2 c h)
  · simp only [List.mem_singleton] at h; exact Or.inr h


/-- **visited_clean.**  After the loops of `draw`, every position they stopped at is reported clean (it was clean or
locked already, or it has just been drawn). -/
theorem visited_clean (w : Int) : ∀ (n : Nat) (y : Int) (b : Buf),
    ∀ q ∈ visits p scr w n y b, (drawRows p scr w n y b).1.dirty q.1 q.2 = false := by
  intro n
  induction n with
  | zero => intro y b q h; simp [visits] at h
  | succ n ih =>
    intro y b q h
    unfold visits at h
    unfold drawRows
    rcases List.mem_append.1 h with h1 | h2
    · obtain ⟨x', hx', rfl⟩ := List.mem_map.1 h1
      exact (drawRows_frame p scr w n (y + 1) _).1.clean (rowVisits_clean p scr w y w.toNat 0 b x' hx')
    · exact ih _ _ q h2


/-- the walk starts every row at column 0 -/
example (w y : Int) (b : Buf) (fuel : Nat) (hw : 0 < w) : 0 ∈ rowVisits p scr w y (fuel + 1) 0 b := by
  simp [rowVisits, hw]


/-- **page_faithful.**  On the tree of either Fill variant (`fz = Tcell.currentFillBlanksZeroWidth` is the tree as it is:
Fill stores a blank for a rune that has no width, cell.go Fill; `fz = false` the pinned Fill), start from `Init` and perform
any history of SetContent / Fill (ANY rune, zero-width, control and invalid ones included) / LockCell / UnlockCell /
LockRegion (screen.go:424 with its re-dirtying of a wide rune left of a really unlocked row, `Tcell.lockRowsG`) /
Show / Sync / SetSize (any length, any coordinates, sizes, runes, styles).  Rebuild the page grid from the JS calls
the backend made.  Then every in-range cell that is unlocked and not dirty – in particular every cell the last
`Show` stopped at (`visited_clean`) – shows exactly the rendering of its logical contents as `GetContent` reports
them: the text with its combining runes, foreground/background/underline colour through `paletteColor`,
attribute bits and underline style (`view`).  (Screen style fixed at its initial value; `SetStyle` after a frame
leaves already drawn default-style cells as they were, see `setStyle_not_retroactive`.) -/
theorem page_faithful (fz : Bool) (rw : Rune → Int) (ops : List WOp) (hok : ∀ op ∈ ops, op.ok rw) (x y : Int) :
    let sp := runW p fz rw (WS.init, Page.blank) ops
    sp.1.cells.inRange x y → (sp.1.cells.cells x y).lock = false → sp.1.cells.dirty x y = false →
    sp.2 x y = some (view p sp.1.style sp.1.cells x y) := by
  intro sp hr hl hd
  obtain ⟨hst, _, hw, g, hg, hpg⟩ := runW_inv p ({} : Style) fz rw ops _ hok (init_inv p)
  rw [dirty, if_pos hr] at hd
  obtain ⟨h1, h2⟩ := (Cell.isDirty_false_iff _ hl).1 hd
  rw [hpg x y _ (hg x y hr h1), h2, hst, view_eq_renderRaw p _ _ x y hr (hw x y)]


/-- **shown_cells_faithful.**  After any history followed by `Show`, every in-range unlocked position the draw walk
stopped at (column 0 of every row, then each position plus the reported width of its rune: every cell not hidden
behind a wide rune) shows the rendering of its logical contents. -/
theorem shown_cells_faithful (fz : Bool) (rw : Rune → Int) (ops : List WOp) (hok : ∀ op ∈ ops, op.ok rw) :
    let sp0 := runW p fz rw (WS.init, Page.blank) ops
    let sp := stepW p fz rw sp0 .present
    ∀ q ∈ visits p sp0.1.style sp0.1.w sp0.1.h.toNat 0 sp0.1.cells,
      sp.1.cells.inRange q.1 q.2 → (sp.1.cells.cells q.1 q.2).lock = false →
      sp.2 q.1 q.2 = some (view p sp.1.style sp.1.cells q.1 q.2) := by
  intro sp0 sp q hq hr hl
  have hcl : sp.1.cells.dirty q.1 q.2 = false := visited_clean p sp0.1.style sp0.1.w sp0.1.h.toNat 0 sp0.1.cells q hq
  have hf := page_faithful p fz rw (ops ++ [.present])
    (by intro op h; rcases List.mem_append.1 h with h | h
        · exact hok op h
        · simp only [List.mem_singleton] at h; subst h; trivial) q.1 q.2
  simp only [runW_append] at hf
  exact hf hr hl hcl


/-- `SetStyle` is not retroactive: a `Show` on a screen whose cells are all clean makes no `drawCell` call whatever
the (new) screen style is, so default-style cells drawn earlier keep the colours of the style in force when they
were drawn.  (This is why `page_faithful` fixes the screen style; the oracle judges each call against the style
in force when it is made.) -/
theorem setStyle_not_retroactive (s : WS) (st : Style) (hc : s.clear = false) (hclean : ∀ x y, s.cells.dirty x y = false) :
    ∀ c ∈ (WScreen.show p { s with style := st }).2, c = JsCall.present := by
  intro c hcm
  rcases page_frame p { s with style := st } hc c hcm with ⟨x, y, _, _, hd⟩ | h
  · rw [hclean x y] at hd; exact absurd hd (by simp)
  · exact h


/-- the hypotheses of `page_faithful` are satisfiable and the statement is not vacuous: after
`SetContent(1,0,'A',[U+0301],red on default); Show` the page holds "A◌́" in xterm red at (1,0) -/
example :
    let pal : Pal := { palette := [(2^32 + 1, 0xcd0000)], values := [] }
    let ops := [WOp.setSize 3 1, WOp.setContent 1 0 65 [0x301] { fg := 2^32 + 1 }, WOp.present]
    (∀ op ∈ ops, op.ok (fun _ => 1)) ∧
    (runW pal currentFillBlanksZeroWidth (fun _ => 1) (WS.init, Page.blank) ops).2 1 0
      = some { text := [65, 0x301], fg := 0xcd0000, bg := 0, attrs := 0, us := 0, uc := 0 } := by
  refine ⟨by intro op h; simp at h; rcases h with h | h | h <;> subst h <;> simp [WOp.ok], by decide⟩

/-- … and with a Fill of a zero-width rune (U+200B) on the tree as it is, followed by a LockRegion / unlock beside a wide
rune: after `Fill(U+200B); SetContent(0,0,世); Show; LockRegion(1,0,1,1,true); LockRegion(1,0,1,1,false); Show` cell (2,0)
shows a blank and cell (0,0) the wide rune -/
example :
    let pal : Pal := { palette := [], values := [] }
    let rw : Rune → Int := fun r => if r = 0x200b then 0 else if r = 0x4e16 then 2 else 1
    let ops := [WOp.setSize 3 1, WOp.fill 0x200b {}, WOp.setContent 0 0 0x4e16 [] {}, WOp.present,
                WOp.lockRegion 1 0 1 1 true, WOp.lockRegion 1 0 1 1 false, WOp.present]
    (∀ op ∈ ops, op.ok rw) ∧
    ((runW pal true rw (WS.init, Page.blank) ops).2 2 0).map (·.text) = some [32] ∧
    ((runW pal true rw (WS.init, Page.blank) ops).2 0 0).map (·.text) = some [0x4e16] := by
  refine ⟨by intro op h; simp at h; rcases h with h | h | h | h | h | h | h <;> subst h <;> simp [WOp.ok], by decide, by decide⟩



end Tcell.Props.C19
