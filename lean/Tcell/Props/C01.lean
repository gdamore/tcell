/-
C01 — terminal display equals the logical screen after Show, Sync and resize.   **Layer A.**

For every finite history of SetContent/SetCell/Fill/Clear/SetStyle/ShowCursor/SetCursorStyle/LockRegion/Show/Sync/
window-resize/external-corruption operations, every screen size, coordinate (in or out of range), rune, combining list and
style: after Show / Sync / a notified resize the *abstract* terminal (`Tcell.ATerm`: deferred wrap, two-column glyphs,
"overwriting half a wide glyph blanks the other half") shows, in every unlocked cell that is not the hidden right half of a
wide rune, exactly the payload of the rune and combining runes last set there, in the style last set there (StyleDefault
resolved to the screen style), two columns wide for a wide rune, a blank for a wide rune in the last column, with the cursor
visible at the requested cell, or hidden / parked bottom-right when off-screen (`Displays`).

The locked-neighbour guard of drawCell is ARBITRARY (`hct : c.Walk` / `c.Plain` leave the flags free): the pinned drawCell
(`guardLocked = false`); /repo 0ca6187, fixes/C13-wide-left-of-locked.patch alone (`guardLocked = true`, `walkGuard = false`);
the tree as it is, /repo 30268e6, with fixes/C13-locked-wide-walk.patch on top (`walkGuard = true`).  With the guard a wide
rune whose right neighbour is locked when it is painted is shown as a blank of width 1 (the policy of the last column;
`Displays.cells`, `nl`); the invariant (`SyncInv.g1`, `BlankOk`) remembers the blank only while the neighbour stays locked,
and LockRegion(…, false) re-dirties the cell (`Tcell.redirtyLeft`).  "Visited" cells are those the draw loop of this very
Show visits (`visitedG`, on the buffer the loop starts from): with `walkGuard = false` the loop's skipping depends on which
cells are Dirty (finding C13-locked-wide-walk), so it cannot be read off the final buffer; for `guardLocked = false` it is
`visited` (`visitedG_eq_visited`).

`c.Plain` = no bottom-right insert-character trick (tscreen.go:815; of the built-in database only beterm, cygwin, sun and
sun-color use it, `Tcell.Props.C01B.db_cornerLike`).  The `…_corner_partial` theorems ask `c.Walk` only: the trick branch of
drawCell (`Scr.drawCell`, `Scr.cornerPx`) is carried through the invariant (`Lemmas/DrawCorner.lean: visit_corner`; ICH is
`ATerm.insertAt`) under the SIDE CONDITION `World.SafeRun` / `World.SafeAt` (Lemmas/World.lean; decidable, `cornerSafeB`): at
every Show / Sync / noticed resize on a terminal that needs the trick the screen has at least two columns and no cell of its
last row is locked.  It is vacuous for `cornerTrick = false` (`World.SafeRun.of_plain`), so the plain theorems are instances.
Why the whole last row and not only the neighbour: `corner_trick_lock_desync`; with the neighbour itself locked the trick
writes into a locked cell (open finding C13-corner-trick-locked-neighbour).

`_partial` leaves out: histories that violate the side condition (incl. a screen one column wide, where the trick
degenerates), and Layer B — that the *bytes* rendered for each abstract command drive a byte-level ECMA-48 terminal
(`Tcell.Spec.Ecma48`) the way `ATerm.apply` says: `Props/C01B.lean`, for the 45 ECMA-48 entries of the database; for the
other four that layer is validated on every run by the correspondence (model bytes = implementation bytes) and by the
reference emulator judging the implementation's own bytes (DESIGN.md §5 C01).
-/
import Tcell.Lemmas.World
import Tcell.Base.Utf8
namespace Tcell.Props.C01
open Tcell

variable {c : DrawCfg}

theorem show_faithful_corner_partial (hrw : RwOk c.rw) (hct : c.Walk) (w h : Int) (ops : List ScrOp)
    (hv : ∀ op ∈ ops, op.Valid c) (hsafe : World.SafeRun c (World.init w h) ops)
    (hlast : ((World.init w h).run c ops).SafeAt c .show) :
    let wd := (World.init w h).run c ops
    (wd.trusted = true ∨ ¬ (wd.sw.ttyw = wd.sw.s.w ∧ wd.sw.ttyh = wd.sw.s.h)) →
      Displays c (wd.sw.s.resize (some (wd.sw.ttyw, wd.sw.ttyh))).cells (wd.step c .show) :=
  fun h' => (show_step_c hrw hct (reach_inv_c hrw hct w h ops hv hsafe) hlast).2 h'

theorem sync_faithful_corner_partial (hrw : RwOk c.rw) (hct : c.Walk) (w h : Int) (ops : List ScrOp)
    (hv : ∀ op ∈ ops, op.Valid c) (hsafe : World.SafeRun c (World.init w h) ops)
    (hlast : ((World.init w h).run c ops).SafeAt c .sync) :
    let wd := (World.init w h).run c ops
    Displays c (wd.sw.s.prepSync (some (wd.sw.ttyw, wd.sw.ttyh))).cells (wd.step c .sync) ∧ (wd.step c .sync).trusted = true ∧
      (wd.step c .sync).d = some (wd.step c .sync).sw.s.style :=
  (sync_step_c hrw hct (reach_inv_c hrw hct w h ops hv hsafe) hlast).2

theorem resize_faithful_corner_partial (hrw : RwOk c.rw) (hct : c.Walk) (w h : Int) (ops : List ScrOp)
    (hv : ∀ op ∈ ops, op.Valid c) (hsafe : World.SafeRun c (World.init w h) ops) (w' h' : Int)
    (hlast : ((World.init w h).run c ops).SafeAt c (.ttyResizeNotify w' h')) :
    let wd := (World.init w h).run c ops
    Displays c (wd.sw.s.prepResize (some (w', h'))).cells (wd.step c (.ttyResizeNotify w' h')) ∧
      (wd.step c (.ttyResizeNotify w' h')).trusted = true ∧
      (wd.step c (.ttyResizeNotify w' h')).d = some (wd.step c (.ttyResizeNotify w' h')).sw.s.style :=
  (notify_step_c hrw hct (reach_inv_c hrw hct w h ops hv hsafe) w' h' hlast).2

theorem resize_noticed_by_show_corner_partial (hrw : RwOk c.rw) (hct : c.Walk) (w h : Int) (ops : List ScrOp)
    (hv : ∀ op ∈ ops, op.Valid c) (hsafe : World.SafeRun c (World.init w h) ops) (w' h' : Int)
    (hne : ¬ (w' = ((World.init w h).run c ops).sw.s.w ∧ h' = ((World.init w h).run c ops).sw.s.h))
    (hlast : (((World.init w h).run c ops).step c (.ttyResizeQuiet w' h')).SafeAt c .show) :
    let wd := ((World.init w h).run c ops).step c (.ttyResizeQuiet w' h')
    Displays c (wd.sw.s.resize (some (wd.sw.ttyw, wd.sw.ttyh))).cells (wd.step c .show) :=
  (show_step_c hrw hct (step_inv_c hrw hct (reach_inv_c hrw hct w h ops hv hsafe) (.ttyResizeQuiet w' h') trivial trivial) hlast).2
    (Or.inr hne)

theorem invariant_corner_partial (hrw : RwOk c.rw) (hct : c.Walk) (w h : Int) (ops : List ScrOp)
    (hv : ∀ op ∈ ops, op.Valid c) (hsafe : World.SafeRun c (World.init w h) ops) :
    let wd := (World.init w h).run c ops
    wd.trusted = true → SyncInv c wd.d wd.sw.s wd.t :=
  fun ht => (reach_inv_c hrw hct w h ops hv hsafe).tr ht

/-- **Show is faithful** (Layer A). After any valid history, if nothing outside the library has disturbed the
display since it was last completely repainted (`trusted`), or the window size changed and this Show notices it,
then after Show every visited unlocked cell is clean and displayed as last set, and the cursor is where it
should be. -/
theorem show_faithful_partial (hrw : RwOk c.rw) (hct : c.Plain) (w h : Int) (ops : List ScrOp)
    (hv : ∀ op ∈ ops, op.Valid c) :
    let wd := (World.init w h).run c ops
    (wd.trusted = true ∨ ¬ (wd.sw.ttyw = wd.sw.s.w ∧ wd.sw.ttyh = wd.sw.s.h)) →
      Displays c (wd.sw.s.resize (some (wd.sw.ttyw, wd.sw.ttyh))).cells (wd.step c .show) :=
  show_faithful_corner_partial hrw hct.walk w h ops hv (.of_plain hct ops _) (.of_plain hct _ _)

/-- **Sync is faithful from arbitrary terminal contents** (Layer A): no trust hypothesis — whatever happened to
the display before (external corruption, unnoticed resizes), after Sync it shows the logical screen; it is trusted
again and every StyleDefault cell is shown in the current screen style. -/
theorem sync_faithful_partial (hrw : RwOk c.rw) (hct : c.Plain) (w h : Int) (ops : List ScrOp)
    (hv : ∀ op ∈ ops, op.Valid c) :
    let wd := (World.init w h).run c ops
    Displays c (wd.sw.s.prepSync (some (wd.sw.ttyw, wd.sw.ttyh))).cells (wd.step c .sync) ∧ (wd.step c .sync).trusted = true ∧
      (wd.step c .sync).d = some (wd.step c .sync).sw.s.style :=
  sync_faithful_corner_partial hrw hct.walk w h ops hv (.of_plain hct ops _) (.of_plain hct _ _)

/-- **A reported new size is honoured from arbitrary contents** (Layer A): after the window changed to w'×h' and
the resize notification was processed, the display (whose contents the resize left arbitrary) shows the logical
screen at the new size. -/
theorem resize_faithful_partial (hrw : RwOk c.rw) (hct : c.Plain) (w h : Int) (ops : List ScrOp)
    (hv : ∀ op ∈ ops, op.Valid c) (w' h' : Int) :
    let wd := (World.init w h).run c ops
    Displays c (wd.sw.s.prepResize (some (w', h'))).cells (wd.step c (.ttyResizeNotify w' h')) ∧
      (wd.step c (.ttyResizeNotify w' h')).trusted = true ∧
      (wd.step c (.ttyResizeNotify w' h')).d = some (wd.step c (.ttyResizeNotify w' h')).sw.s.style :=
  resize_faithful_corner_partial hrw hct.walk w h ops hv (.of_plain hct ops _) w' h' (.of_plain hct _ _)

/-- The same when the notification is lost: the next Show notices the new size itself. -/
theorem resize_noticed_by_show_partial (hrw : RwOk c.rw) (hct : c.Plain) (w h : Int) (ops : List ScrOp)
    (hv : ∀ op ∈ ops, op.Valid c) (w' h' : Int)
    (hne : ¬ (w' = ((World.init w h).run c ops).sw.s.w ∧ h' = ((World.init w h).run c ops).sw.s.h)) :
    let wd := ((World.init w h).run c ops).step c (.ttyResizeQuiet w' h')
    Displays c (wd.sw.s.resize (some (wd.sw.ttyw, wd.sw.ttyh))).cells (wd.step c .show) :=
  resize_noticed_by_show_corner_partial hrw hct.walk w h ops hv (.of_plain hct ops _) w' h' hne (.of_plain hct _ _)

/-- Every reachable world satisfies the cross-Show invariant whenever it is trusted: clean unlocked cells show
what they held when they were painted, continuation cells belong to dirty or locked cells, the terminal grid is
well formed. (The invariant the theorems above rest on; useful on its own between Shows.) -/
theorem invariant_partial (hrw : RwOk c.rw) (hct : c.Plain) (w h : Int) (ops : List ScrOp)
    (hv : ∀ op ∈ ops, op.Valid c) :
    let wd := (World.init w h).run c ops
    wd.trusted = true → SyncInv c wd.d wd.sw.s wd.t :=
  invariant_corner_partial hrw hct.walk w h ops hv (.of_plain hct ops _)

/-- the corner family contains the plain one: without the trick the side condition holds for every history -/
theorem safeRun_of_plain (hct : c.Plain) (wd : World) (ops : List ScrOp) : World.SafeRun c wd ops :=
  World.SafeRun.of_plain hct ops wd

/-- Trust is only ever lost to the environment: library operations keep it. -/
theorem trusted_kept (wd : World) (op : ScrOp) (ht : wd.trusted = true)
    (hop : match op with | .ttyResizeQuiet _ _ => False | .corrupt => False | _ => True) :
    (wd.step c op).trusted = true := by
  cases op with
  | ttyResizeQuiet => exact hop.elim
  | corrupt => exact hop.elim
  | «show» => simp only [World.step]; split <;> first | exact ht | rfl
  | _ => first | exact ht | rfl

/-! ### non-vacuity: a concrete 4×2 screen with a wide rune, a combining mark, a style and a lock -/

def rwDemo : Rune → Int := fun r => if r = 0x4e16 then 2 else if r = 0 ∨ r = 0x301 then 0 else 1
def cfgDemo : DrawCfg :=
  { rw := rwDemo, payload := fun m comb => Utf8.encode m ++ comb.flatMap Utf8.encode, hasHide := true, cornerTrick := false,
    guardLocked := false, walkGuard := false }   -- the pinned drawCell, whatever the `current…` defaults say

theorem cfgDemo_plain : cfgDemo.Plain := ⟨rfl, fun h => absurd h (by decide)⟩

/-- the same with the locked-neighbour guard compiled in (/repo 0ca6187), and with the walk fix on top (the tree as it is) -/
def cfgGuard : DrawCfg := { cfgDemo with guardLocked := true }
def cfgWalk : DrawCfg := { cfgDemo with guardLocked := true, walkGuard := true }
theorem cfgGuard_plain : cfgGuard.Plain := ⟨rfl, fun h => absurd h (by decide)⟩
theorem cfgWalk_plain : cfgWalk.Plain := ⟨rfl, fun _ => rfl⟩

theorem rwDemo_ok : RwOk rwDemo :=
  { zero := by decide, space := by decide,
    nonneg := by intro r; unfold rwDemo; split <;> (try split) <;> omega,
    le2 := by intro r; unfold rwDemo; split <;> (try split) <;> omega }

def opsDemo : List ScrOp :=
  [.setContent 0 0 0x4e16 [] { fg := 2^32 + 1 }, .setContent 2 0 0x61 [0x301] {}, .lockRegion 3 1 1 1 true,
   .setStyle { bg := 2^32 + 4 }, .showCursor 2 0]

example : ∀ op ∈ opsDemo, op.Valid cfgDemo := by decide
example : ((World.init 4 2).run cfgDemo opsDemo).trusted = true := by decide
-- after Show the wide rune occupies cells (0,0) and (1,0), the combining mark rides on 'a', the cursor is at (2,0)
example : (((World.init 4 2).run cfgDemo opsDemo).step cfgDemo .show).t.grid 0 0 =
    .shown [0xe4, 0xb8, 0x96] true { fg := 2^32 + 1 } := by decide +kernel
example : (((World.init 4 2).run cfgDemo opsDemo).step cfgDemo .show).t.grid 1 0 = .cont := by decide +kernel
example : (((World.init 4 2).run cfgDemo opsDemo).step cfgDemo .show).t.grid 2 0 =
    .shown [0x61, 0xcc, 0x81] false { bg := 2^32 + 4 } := by decide +kernel
example : (((World.init 4 2).run cfgDemo opsDemo).step cfgDemo .show).t.cur = some (2, 0) := by decide +kernel
example : visitedG cfgDemo ((World.init 4 2).run cfgDemo opsDemo).sw.s.cells 1 0 = false := by decide +kernel
example : visitedG cfgDemo ((World.init 4 2).run cfgDemo opsDemo).sw.s.cells 2 0 = true := by decide +kernel

/-! non-vacuity with the guard compiled in: a wide rune left of a locked cell (3×1 screen: 'b' at (1,0) shown, then locked;
a wide rune put at (0,0)).  The hypotheses of the theorems hold, the Show paints the rune as a blank of width 1, and after
LockRegion(…, false) the next Show draws it two columns wide. -/

def opsGuard : List ScrOp :=
  [.setContent 1 0 0x62 [] {}, .show, .lockRegion 1 0 1 1 true, .setContent 0 0 0x4e16 [] {}]

example : ∀ op ∈ opsGuard, op.Valid cfgGuard := by decide
example : ((World.init 3 1).run cfgGuard opsGuard).trusted = true := by decide
example : visitedG cfgGuard ((World.init 3 1).run cfgGuard opsGuard).sw.s.cells 0 0 = true := by decide +kernel
example : (((World.init 3 1).run cfgGuard opsGuard).step cfgGuard .show).t.grid 0 0 = .shown [32] false {} := by decide +kernel
example : (((World.init 3 1).run cfgGuard opsGuard).step cfgGuard .show).t.grid 1 0 = .shown [0x62] false {} := by decide +kernel
example : (((World.init 3 1).run cfgGuard (opsGuard ++ [.show, .lockRegion 1 0 1 1 false])).step cfgGuard .show).t.grid 0 0 =
    .shown [0xe4, 0xb8, 0x96] true {} := by decide +kernel

/-! non-vacuity of the corner family: a 4×2 screen on a terminal that needs the trick (`cornerTrick := true`, the tree as it
is), a wide rune in the last row covering the second to last column, a locked cell in the FIRST row (allowed).  The corner
cell is changed between two Shows: the second Show runs the trick (write at column 2, ich1, repaint the wide rune at
column 1 which covers column 2). -/

def cfgCorner : DrawCfg := { cfgDemo with cornerTrick := true, guardLocked := true, walkGuard := true }
theorem cfgCorner_walk : cfgCorner.Walk := ⟨fun _ => rfl⟩

def opsCorner : List ScrOp :=
  [.setContent 0 1 0x61 [] {}, .setContent 1 1 0x4e16 [] {}, .setContent 3 1 0x5a [] {}, .lockRegion 0 0 1 1 true, .show,
   .setContent 3 1 0x59 [] { fg := 2^32 + 1 }]

example : ∀ op ∈ opsCorner, op.Valid cfgCorner := by decide
theorem opsCorner_safe : World.SafeRun cfgCorner (World.init 4 2) opsCorner :=
  ⟨trivial, trivial, trivial, trivial, cornerSafe_of_B (by decide +kernel), trivial, trivial⟩
theorem opsCorner_safe_show : ((World.init 4 2).run cfgCorner opsCorner).SafeAt cfgCorner .show :=
  cornerSafe_of_B (by decide +kernel)
example : ((World.init 4 2).run cfgCorner opsCorner).trusted = true := by decide
example : cfgCorner.cornerTrick = true := rfl
-- the corner cell is dirty, so this Show runs the trick; the `px` loop finds the wide rune at column 1
example : ((World.init 4 2).run cfgCorner opsCorner).sw.s.cells.dirty 3 1 = true := by decide +kernel
example : Scr.coverStart ((World.init 4 2).run cfgCorner opsCorner).sw.s.cells 1 3 0 3 = 1 := by decide +kernel
-- afterwards: the new glyph in the corner, the wide rune intact on columns 1-2, 'a' untouched, cursor parked at home
example : (((World.init 4 2).run cfgCorner opsCorner).step cfgCorner .show).t.grid 3 1 = .shown [0x59] false { fg := 2^32 + 1 } := by
  decide +kernel
example : (((World.init 4 2).run cfgCorner opsCorner).step cfgCorner .show).t.grid 1 1 = .shown [0xe4, 0xb8, 0x96] true {} := by
  decide +kernel
example : (((World.init 4 2).run cfgCorner opsCorner).step cfgCorner .show).t.grid 2 1 = .cont := by decide +kernel
example : (((World.init 4 2).run cfgCorner opsCorner).step cfgCorner .show).t.grid 0 1 = .shown [0x61] false {} := by decide +kernel
-- the theorem applies
example := show_faithful_corner_partial (c := cfgCorner) (by exact rwDemo_ok) cfgCorner_walk 4 2 opsCorner (by decide)
  opsCorner_safe opsCorner_safe_show

/-- **Why the side condition speaks about the whole last row** (8×1 screen, the tree as it is + the trick): the cell at column 1
is locked and holds a wide rune, column 0 holds a wide rune (painted as a blank of width 1, the draw loop steps by ONE
column there), columns 2…5 hold wide runes, column 6 a narrow one.  The draw loop visits 0,1,3,5,7; drawCell's `px`
loop walks by stored widths 0,2,4,6 and picks column 6 — a cell the display does not show (it is the right half of the rune
at column 5).  The trick writes the corner glyph over that right half and repaints column 6: the clean, unlocked, visited
wide rune at column 5 is destroyed (`garbage`) though no lock is anywhere near the corner.  Model-level witness (the model
is tied to tscreen.go by the byte-exact correspondence).  NOT listed as a finding: the two walks can only get out of phase
when a wide rune is stored in the hidden right half of another one (overlapping wide runes), cells the draw oracle
deliberately does not judge (`./check C01 --replay` of this history reports nothing); it is the reason why the invariant
cannot be carried with only the neighbour of the corner unlocked.  Related: open finding C13-corner-trick-locked-neighbour. -/
theorem corner_trick_lock_desync :
    let ops : List ScrOp := [.setContent 0 0 0x4e16 [] {}, .setContent 1 0 0x4e16 [] {}, .setContent 2 0 0x4e16 [] {},
      .setContent 3 0 0x4e16 [] {}, .setContent 4 0 0x4e16 [] {}, .setContent 5 0 0x4e16 [] {}, .setContent 6 0 0x78 [] {},
      .setContent 7 0 0x5a [] {}, .lockRegion 1 0 1 1 true, .show]
    let wd := (World.init 8 1).run cfgCorner ops
    wd.t.grid 5 0 = .garbage ∧ wd.sw.s.cells.dirty 5 0 = false ∧ wd.sw.s.cells.locked 5 0 = false ∧
      visitedG cfgCorner ((World.init 8 1).run cfgCorner (ops.take 9)).sw.s.cells 5 0 = true ∧
      wd.sw.s.cells.locked 6 0 = false ∧ wd.sw.s.cells.locked 7 0 = false ∧ wd.trusted = true := by
  decide +kernel

end Tcell.Props.C01
