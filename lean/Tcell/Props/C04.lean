/-
C04 — Fini/Suspend restore every terminal mode; Resume re-applies enabled ones.

Layer A (this file, all histories, every terminal description in the abstract, TCELL_ALTSCREEN either way):
`modes_restored`, `resume_reapplies`, `tty_order`, `teardown_writes_before_stop`, `stopped_is_quiet`,
`close_only_in_fini` about the model `Tcell.Modes` (tied to tscreen.go by the byte- and call-log-exact engine `modes`),
interpreted on the abstract register file `Tcell.ModesA.Regs`.
Layer B (`Props/C04B.lean`): the mode strings of every ECMA-family entry of the regenerated database mean, on the
reference emulator, what Layer A assumes (kernel evaluation; `_partial`, see there).
-/
import Tcell.Lemmas.ModesInv
namespace Tcell.Props.C04
open Tcell Tcell.Modes Tcell.ModesA

/-- the user's terminal, the screen object, and the title the terminal showed when the current session started -/
structure World where
  st : MState
  r : Regs
  g : Bytes

section
variable (ad : AD) (v a : Bool) (rw : Rune → Int) (payload : Rune → List Rune → List Nat) (corner : Bool)

/-- one API call: the model's step, its events applied to the terminal's registers -/
def execOp (w : World) (op : MOp) : World :=
  { st := (stepV v (mkCf ad rw payload corner a) w.st op).1,
    r := applyEvs ad (stepV v (mkCf ad rw payload corner a) w.st op).2 w.r,
    g := ghost w.st w.r w.g op }

def execAll (w : World) (ops : List MOp) : World := ops.foldl (execOp ad v a rw payload corner) w

/-- a freshly constructed screen on a terminal in its default state showing title `t0` with saved titles `s0`.
    `Init` is `engage` on it (tscreen.go:186-250), i.e. the op `.resume` (the extra WindowSize call of Init touches no register). -/
def world0 (w h : Int) (t0 : Bytes) (s0 : List Bytes) : World :=
  { st := Modes.fresh w h, r := { title := t0, tstack := s0 }, g := t0 }

/-- well-formed histories: no Resume after Fini (a finished screen must not be used again; Fini is once-only, so a
    screen re-engaged after Fini could never be torn down by Fini) -/
def wfFrom : Bool → List MOp → Bool
  | _, [] => true
  | fin, .resume :: r => !fin && wfFrom fin r
  | _, .fini :: r => wfFrom true r
  | fin, _ :: r => wfFrom fin r

theorem world0_inv (w h : Int) (t0 : Bytes) (s0 : List Bytes) :
    Inv ad v a (world0 w h t0 s0).st (world0 w h t0 s0).r (world0 w h t0 s0).g s0 := by
  refine ⟨?_, fun _ => ?_, fun h1 => by simp [world0, Modes.fresh] at h1⟩
  · constructor <;> simp [world0]
  · constructor <;> simp [world0]

/-- a finished screen is not running -/
def K (st : MState) : Prop := st.finished = true → st.running = false

def isFini : MOp → Bool
  | .fini => true
  | _ => false

/-- what the application has asked for after a history — written from the API's contract, not from the model's state -/
def reqStep (q : ModeReq) : MOp → ModeReq
  | .enableMouse f => { q with mouseFlags := f }
  | .disableMouse => { q with mouseFlags := 0 }
  | .enablePaste => { q with paste := true }
  | .disablePaste => { q with paste := false }
  | .enableFocus => { q with focus := true }
  | .disableFocus => { q with focus := false }
  | .setTitle t => { q with title := t }
  | _ => q

def reqAfter (q : ModeReq) (ops : List MOp) : ModeReq := ops.foldl reqStep q

theorem step_state (st : MState) (op : MOp) :
    (stepV v (mkCf ad rw payload corner a) st op).1.finished = (st.finished || isFini op) ∧
    (stepV v (mkCf ad rw payload corner a) st op).1.req = reqStep st.req op ∧
    (K st → (op = .resume → st.finished = false) → K (stepV v (mkCf ad rw payload corner a) st op).1) := by
  cases op <;> simp only [stepV, isFini, reqStep, Bool.or_false, Bool.or_true]
  case resume => unfold engage; split <;> exact ⟨rfl, rfl, fun hk hop => by simp_all [K]⟩
  case suspend => unfold disengageV; split <;> exact ⟨rfl, rfl, fun hk _ => by simp_all [K]⟩
  case fini =>
    unfold finiV disengageV
    split
    · exact ⟨by assumption, rfl, fun hk _ => hk⟩
    · split <;> exact ⟨rfl, rfl, fun hk _ => by simp_all [K]⟩
  case scr sop =>
    cases sop <;> simp only [scrStep] <;> (try split) <;>
      first | exact ⟨rfl, rfl, fun hk _ => hk⟩ | exact ⟨trivial, trivial, fun hk _ => hk⟩
  all_goals exact ⟨trivial, trivial, fun hk _ => hk⟩

theorem exec_inv (hp : Paired ad) (base : List Bytes) : ∀ (ops : List MOp) (w : World),
    Inv ad v a w.st w.r w.g base → K w.st → wfFrom w.st.finished ops = true →
    Inv ad v a (execAll ad v a rw payload corner w ops).st (execAll ad v a rw payload corner w ops).r
      (execAll ad v a rw payload corner w ops).g base ∧ K (execAll ad v a rw payload corner w ops).st := by
  intro ops
  induction ops with
  | nil => intro w h1 h2 _; exact ⟨h1, h2⟩
  | cons op l ih =>
    intro w h1 h2 h3
    have hres : op = .resume → w.st.finished = false := by
      intro e; subst e; simp [wfFrom] at h3; exact h3.1
    have hwf : wfFrom (w.st.finished || isFini op) l = true := by
      cases op <;> simp_all [wfFrom, isFini]
    obtain ⟨f1, _, k1⟩ := step_state ad v a rw payload corner w.st op
    exact ih (execOp ad v a rw payload corner w op) (step_inv ad v a rw payload corner hp w.st w.r w.g base op h1) (k1 h2 hres)
      (by simp only [execOp]; rw [f1]; exact hwf)

theorem wfFrom_append (fin : Bool) (ops : List MOp) (last : MOp) (h : wfFrom fin (ops ++ [last]) = true) :
    wfFrom fin ops = true := by
  induction ops generalizing fin with
  | nil => rfl
  | cons op l ih =>
    cases op <;> simp only [List.cons_append, wfFrom] at h ⊢ <;>
      first | exact ih _ h | (simp only [Bool.and_eq_true] at h ⊢; exact ⟨h.1, ih _ h.2⟩)

theorem execAll_append (w : World) (ops : List MOp) (last : MOp) :
    execAll ad v a rw payload corner w (ops ++ [last]) =
      execOp ad v a rw payload corner (execAll ad v a rw payload corner w ops) last := by
  simp [execAll, List.foldl_append]

theorem init_inv (hp : Paired ad) (w h : Int) (t0 : Bytes) (s0 : List Bytes) (ops : List MOp) (hwf : wfFrom false ops = true) :
    Inv ad v a (execAll ad v a rw payload corner (world0 w h t0 s0) (.resume :: ops)).st
      (execAll ad v a rw payload corner (world0 w h t0 s0) (.resume :: ops)).r
      (execAll ad v a rw payload corner (world0 w h t0 s0) (.resume :: ops)).g s0 ∧
    K (execAll ad v a rw payload corner (world0 w h t0 s0) (.resume :: ops)).st :=
  exec_inv ad v a rw payload corner hp s0 (.resume :: ops) _ (world0_inv ad v a w h t0 s0)
    (by simp [K, world0, Modes.fresh]) (by simp [wfFrom, world0, Modes.fresh]; exact hwf)

/-- **C04, modes restored.**  For every terminal description in the abstract (`ad`, with the pairing facts `Paired`:
    whatever string switches a mode on comes with the string that switches it off — `db_paired` shows this for every
    ECMA-family entry), TCELL_ALTSCREEN either way (`a`), the pinned and the repaired disengage (`v`), every screen size,
    every initial title and title stack of the user's terminal, and **every history** `ops` of
    EnableMouse/DisableMouse/EnablePaste/DisablePaste/EnableFocus/DisableFocus/SetTitle/SetContent/Fill/SetStyle/ShowCursor/
    SetCursorStyle/LockRegion/Show/Sync/window resizes/Beep/Suspend/Resume/Fini after Init, of any length and in any order
    (the only restriction: no Resume after a Fini), ending in Suspend or Fini:
    when that last call returns, the terminal is off the alternate screen, the cursor is visible with default shape and
    colour, colours and attributes are reset, keypad-transmit, the four mouse modes, bracketed paste and focus reporting are
    off, auto-margin is on, the title stack is what it was, and if a title was saved the title shown is the one saved
    at the start of the last session.  (The hyperlink clause holds for the repaired disengage only: `hyperlink_left_open`.) -/
theorem modes_restored (hp : Paired ad) (w h : Int) (t0 : Bytes) (s0 : List Bytes) (ops : List MOp) (last : MOp)
    (hl : last = .suspend ∨ last = .fini) (hwf : wfFrom false (ops ++ [last]) = true) :
    Idle ad v a (execAll ad v a rw payload corner (world0 w h t0 s0) (.resume :: (ops ++ [last]))).r
      (execAll ad v a rw payload corner (world0 w h t0 s0) (.resume :: (ops ++ [last]))).g s0 := by
  obtain ⟨i1, k1⟩ := init_inv ad v a rw payload corner hp w h t0 s0 ops (wfFrom_append false ops last hwf)
  rw [show MOp.resume :: (ops ++ [last]) = (MOp.resume :: ops) ++ [last] from rfl, execAll_append]
  generalize execAll ad v a rw payload corner (world0 w h t0 s0) (.resume :: ops) = wd at i1 k1
  have i2 := step_inv ad v a rw payload corner hp wd.st wd.r wd.g s0 last i1
  apply i2.idle
  rcases hl with hl | hl <;> subst hl <;> simp only [stepV]
  · unfold disengageV; split
    · simp_all
    · rfl
  · unfold finiV disengageV
    split
    · exact k1 (by assumption)
    · split
      · simp_all
      · rfl

theorem exec_req : ∀ (ops : List MOp) (w : World),
    (execAll ad v a rw payload corner w ops).st.req = reqAfter w.st.req ops := by
  intro ops
  induction ops with
  | nil => intro w; rfl
  | cons op l ih =>
    intro w
    show (execAll ad v a rw payload corner (execOp ad v a rw payload corner w op) l).st.req = _
    rw [ih]
    simp only [execOp, (step_state ad v a rw payload corner w.st op).2.1, reqAfter, List.foldl_cons]

/-- **C04, Resume re-applies.**  For every description, TCELL_ALTSCREEN setting and history `ops` after Init (no Resume after
    Fini) that leaves the screen suspended, when `Resume` returns: each mouse mode, bracketed paste and focus reporting are on
    **exactly** if the application's last request — wherever in the history it was made, also while suspended — enabled
    them (and the description has the string), the alternate screen and keypad mode are entered again, the cursor is hidden
    again, auto-margin is off again (where the description can), and a requested title is set again. -/
theorem resume_reapplies (hp : Paired ad) (w h : Int) (t0 : Bytes) (s0 : List Bytes) (ops : List MOp)
    (hwf : wfFrom false ops = true)
    (hsusp : (execAll ad v a rw payload corner (world0 w h t0 s0) (.resume :: ops)).st.running = false) :
    let r2 := (execAll ad v a rw payload corner (world0 w h t0 s0) (.resume :: (ops ++ [.resume]))).r
    let q := reqAfter {} ops
    r2.m1000 = (ad.mouse && decide (q.mouseFlags % 2 = 1)) ∧ r2.m1002 = (ad.mouse && decide (q.mouseFlags / 2 % 2 = 1)) ∧
    r2.m1003 = (ad.mouse && decide (q.mouseFlags / 4 % 2 = 1)) ∧ r2.m1006 = (ad.mouse && decide (q.mouseFlags % 8 ≠ 0)) ∧
    r2.paste = (q.paste && ad.pasteOn) ∧ r2.focus = (q.focus && ad.focusOn) ∧
    r2.alt = (a && ad.enterCA) ∧ r2.keypad = ad.enterKeypad ∧ r2.cv = !ad.hideCursor ∧ r2.am = !ad.disableAM ∧
    (q.title ≠ [] ∧ ad.setTitle = true → r2.title = q.title) := by
  have hq : (execAll ad v a rw payload corner (world0 w h t0 s0) (.resume :: ops)).st.req = reqAfter {} ops :=
    exec_req ad v a rw payload corner (.resume :: ops) (world0 w h t0 s0)
  obtain ⟨i1, _⟩ := init_inv ad v a rw payload corner hp w h t0 s0 ops hwf
  simp only
  rw [show MOp.resume :: (ops ++ [MOp.resume]) = (MOp.resume :: ops) ++ [MOp.resume] from rfl, execAll_append]
  generalize execAll ad v a rw payload corner (world0 w h t0 s0) (.resume :: ops) = wd at i1 hsusp hq
  have hi := i1.idle hsusp
  simp only [execOp, stepV, engage, hsusp, Bool.false_eq_true, if_false, hq, applyEvs_append, applyEvs_cons, applyEvs_nil,
    evEffect_call]
  rw [engage_regs ad v a rw payload corner hi]
  exact ⟨rfl, rfl, rfl, rfl, rfl, rfl, rfl, rfl, rfl, rfl, fun ht => if_pos ht⟩

/-- the Tty contract as an automaton over the calls (tty.go:23-60 and the property text): Start only on a stopped tty;
    Drain only on a started one; Stop only on a started tty that has been drained in this session and whose resize
    callback is unregistered; Close only on a stopped tty, once.  `ok` records that no call broke a rule. -/
structure TtySt where
  started : Bool := false
  drained : Bool := false
  nrNil : Bool := true
  closed : Bool := false
  ok : Bool := true

def ttyStep (s : TtySt) : Ev → TtySt
  | .call .start => { s with ok := s.ok && !s.started, started := true, drained := false }
  | .call .drain => { s with ok := s.ok && s.started, drained := true }
  | .call .notifyNil => { s with nrNil := true }
  | .call .notifyFn => { s with nrNil := false }
  | .call .stop => { s with ok := s.ok && s.started && s.drained && s.nrNil, started := false }
  | .call .close => { s with ok := s.ok && !s.started && !s.closed, closed := true }
  | _ => s

@[simp] theorem tty_put (s : TtySt) (k : Cap) : ttyStep s (.put k) = s := rfl
@[simp] theorem tty_frame (s : TtySt) (c : List Cmd) : ttyStep s (.frame c) = s := rfl
@[simp] theorem tty_ws (s : TtySt) : ttyStep s (.call .windowSize) = s := rfl
theorem foldl_tty_ite (s : TtySt) (p : Prop) [Decidable p] (x y : List Ev) :
    (if p then x else y).foldl ttyStep s = if p then x.foldl ttyStep s else y.foldl ttyStep s := by split <;> rfl

theorem tty_inert (s : TtySt) (l : List Ev) (h : ∀ e ∈ l, ∀ s, ttyStep s e = s) : l.foldl ttyStep s = s := by
  induction l with
  | nil => rfl
  | cons e r ih => rw [List.foldl_cons, h e (by simp), ih (fun e he => h e (by simp [he]))]

theorem tty_wr {caps : ModeCaps} {l : List Ev} (h : l.all (wrOk caps) = true) (s : TtySt) : l.foldl ttyStep s = s :=
  tty_inert s l fun e he s => by
    have := List.all_eq_true.mp h e he
    cases e <;> first | rfl | cases this

theorem tty_quiet {l : List Ev} (h : l.all quietEv = true) (s : TtySt) : l.foldl ttyStep s = s :=
  tty_inert s l fun e he s => by
    have := List.all_eq_true.mp h e he
    cases e <;> first | rfl | cases this

/-- the automaton agrees with the screen: started = running, closed = finished, and no rule was broken so far -/
def TtyRel (s : TtySt) (st : MState) : Prop := s.ok = true ∧ s.started = st.running ∧ s.closed = st.finished

theorem disengage_tty (s : TtySt) (st : MState) (h : TtyRel s st) :
    TtyRel ((disengageV v (mkCf ad rw payload corner a) st).2.foldl ttyStep s) (disengageV v (mkCf ad rw payload corner a) st).1 := by
  unfold disengageV
  split
  · exact h
  · rename_i hr
    simp only [List.foldl_append, List.foldl_cons, List.foldl_nil]
    rw [tty_wr (disengageEvs_wr v _ _ _)]
    obtain ⟨h1, h2, h3⟩ := h
    simp at hr
    simp [TtyRel, ttyStep, h1, h2, h3, hr]

theorem step_tty (s : TtySt) (st : MState) (op : MOp) (h : TtyRel s st) :
    TtyRel ((stepV v (mkCf ad rw payload corner a) st op).2.foldl ttyStep s) (stepV v (mkCf ad rw payload corner a) st op).1 := by
  by_cases hm : modeOp op = true
  · obtain ⟨_, hr, hf, hq⟩ := stepV_mode v (mkCf ad rw payload corner a) st op hm
    rw [tty_quiet hq]
    exact ⟨h.1, h.2.1.trans hr.symm, h.2.2.trans hf.symm⟩
  · cases op <;> first | exact absurd rfl hm | simp only [stepV]
    case suspend => exact disengage_tty ad v a rw payload corner s st h
    case resume =>
      unfold engage
      obtain ⟨h1, h2, h3⟩ := h
      split
      · rename_i hr; simp [TtyRel, ttyStep, h1, h2, h3]
      · rename_i hr
        simp only [List.foldl_append, List.foldl_cons, List.foldl_nil]
        rw [tty_wr (engageEvs_wr _ _)]
        simp at hr
        simp [TtyRel, ttyStep, h1, h2, h3, hr]
    case fini =>
      unfold finiV
      split
      · exact h
      · rename_i hf
        obtain ⟨d1, d2, d3⟩ := disengage_tty ad v a rw payload corner s st h
        simp only [List.foldl_append, List.foldl_cons, List.foldl_nil]
        have hrf : (disengageV v (mkCf ad rw payload corner a) st).1.running = false := by
          unfold disengageV; split
          · rename_i hr; simpa using hr
          · rfl
        have hff : (disengageV v (mkCf ad rw payload corner a) st).1.finished = st.finished := by
          unfold disengageV; split <;> rfl
        simp at hf
        simp [TtyRel, ttyStep, d1, d2, d3, hrf, hff, hf]
    case scr sop => cases sop <;> simp only [scrStep] <;> (try split) <;> exact h

/-- all events of a history, Init (`Modes.init`) included, in order -/
def allEvents (w h : Int) (ops : List MOp) : List Ev :=
  (Modes.init (mkCf ad rw payload corner a) w h).2 ++
    ((ops.foldl (fun (acc : MState × List Ev) op =>
        ((stepV v (mkCf ad rw payload corner a) acc.1 op).1, acc.2 ++ (stepV v (mkCf ad rw payload corner a) acc.1 op).2))
      ((Modes.init (mkCf ad rw payload corner a) w h).1, [])).2)

/-- **C04, Tty contract order.**  In the call log of **every** history (any calls, any order, Resume after Fini included):
    Start is only called on a stopped tty, Drain only on a started one, every Stop is preceded in its session by Drain and by
    NotifyResize(nil) with no re-registration in between, Close is called at most once and only on a stopped tty. -/
theorem tty_order (w h : Int) (ops : List MOp) :
    ((allEvents ad v a rw payload corner w h ops).foldl ttyStep {}).ok = true := by
  unfold allEvents
  have h0 : TtyRel ((Modes.init (mkCf ad rw payload corner a) w h).2.foldl ttyStep {}) (Modes.init (mkCf ad rw payload corner a) w h).1 := by
    unfold Modes.init
    have := step_tty ad v a rw payload corner {} (Modes.fresh w h) .resume ⟨rfl, rfl, rfl⟩
    simp only [stepV] at this
    simpa [List.foldl_cons] using this
  rw [List.foldl_append]
  generalize (Modes.init (mkCf ad rw payload corner a) w h).1 = st0 at h0 ⊢
  generalize (Modes.init (mkCf ad rw payload corner a) w h).2.foldl ttyStep {} = s0 at h0 ⊢
  generalize hF : (fun (acc : MState × List Ev) op =>
    ((stepV v (mkCf ad rw payload corner a) acc.1 op).1, acc.2 ++ (stepV v (mkCf ad rw payload corner a) acc.1 op).2)) = F
  suffices H : ∀ (ops : List MOp) (acc : MState × List Ev) (s : TtySt), TtyRel (acc.2.foldl ttyStep s) acc.1 →
      TtyRel ((ops.foldl F acc).2.foldl ttyStep s) (ops.foldl F acc).1 from (H ops (st0, []) s0 h0).1
  intro ops
  induction ops with
  | nil => exact fun _ _ h => h
  | cons op l ih =>
    intro acc s h
    subst hF
    exact ih _ s (by rw [List.foldl_append]; exact step_tty ad v a rw payload corner _ acc.1 op h)

/-- **all writes of a tear-down precede its Stop**: in the events of a Suspend or Fini nothing but Close follows the Stop
    (no write, no WindowSize, no Drain) -/
theorem teardown_writes_before_stop (st : MState) (op : MOp) (hop : op = .suspend ∨ op = .fini) :
    ∃ pre post, (stepV v (mkCf ad rw payload corner a) st op).2 = pre ++ post ∧   -- `pre`: no Stop, no Close
      (post = [] ∨ post = [.call .stop] ∨ post = [.call .stop, .call .close] ∨ post = [.call .close]) ∧
      (∀ e ∈ pre, e ≠ .call .stop ∧ e ≠ .call .close) := by
  have hpre : ∀ e ∈ [Ev.call .drain, Ev.call .notifyNil] ++ disengageEvsV v (mkCf ad rw payload corner a) st.wd.s.cursorShaped st.wd.s.cursorTinted,
      e ≠ .call .stop ∧ e ≠ .call .close := by
    intro e he
    simp only [List.mem_append, List.mem_cons, List.not_mem_nil, or_false] at he
    rcases he with (he | he) | he
    · subst he; simp
    · subst he; simp
    · have := List.all_eq_true.mp (disengageEvs_wr v (mkCf ad rw payload corner a) _ _) e he
      cases e <;> first | cases this | simp
  rcases hop with rfl | rfl <;> simp only [stepV]
  · unfold disengageV
    split
    · exact ⟨[], [], rfl, Or.inl rfl, by simp⟩
    · exact ⟨_, [.call .stop], rfl, Or.inr (Or.inl rfl), hpre⟩
  · unfold finiV
    split
    · exact ⟨[], [], rfl, Or.inl rfl, by simp⟩
    · unfold disengageV
      split
      · exact ⟨[], [.call .close], rfl, Or.inr (Or.inr (Or.inr rfl)), by simp⟩
      · exact ⟨_, [.call .stop, .call .close], by simp, Or.inr (Or.inr (Or.inl rfl)), hpre⟩

/-- **no I/O while stopped unless the application asks for it**: on a screen that is not running, every call other than
    Resume and Beep touches the tty with nothing but, for the first Fini, Close (mode changes are deferred to Resume,
    Show and Sync do nothing) -/
theorem stopped_is_quiet (st : MState) (op : MOp) (hr : st.running = false) (h1 : op ≠ .resume) (h2 : op ≠ .beep) :
    (stepV v (mkCf ad rw payload corner a) st op).2 = [] ∨
    (op = .fini ∧ st.finished = false ∧ (stepV v (mkCf ad rw payload corner a) st op).2 = [.call .close]) := by
  rcases (stepV_stopped v (mkCf ad rw payload corner a) st op hr h1).1 with h | ⟨hb, _⟩ | h
  · exact Or.inl h
  · exact absurd hb h2
  · exact Or.inr h

/-- **Close only in Fini**, and then as the very last call -/
theorem close_only_in_fini (st : MState) (op : MOp) (h : Ev.call .close ∈ (stepV v (mkCf ad rw payload corner a) st op).2) :
    op = .fini ∧ (stepV v (mkCf ad rw payload corner a) st op).2.getLast? = some (.call .close) := by
  have nowr : ∀ {l : List Ev}, l.all (wrOk (mkCf ad rw payload corner a).caps) = true → Ev.call .close ∉ l :=
    fun hl hc => by have := List.all_eq_true.mp hl _ hc; cases this
  have hdis : Ev.call .close ∉ (disengageV v (mkCf ad rw payload corner a) st).2 := by
    unfold disengageV
    split
    · simp
    · simp only [List.mem_append, List.mem_cons, List.not_mem_nil, or_false]
      intro hc
      rcases hc with ((hc | hc) | hc) | hc
      · cases hc
      · cases hc
      · exact nowr (disengageEvs_wr v _ _ _) hc
      · cases hc
  by_cases hm : modeOp op = true
  · have := List.all_eq_true.mp (stepV_mode v (mkCf ad rw payload corner a) st op hm).2.2.2 _ h
    cases this
  · cases op <;> first | exact absurd rfl hm | simp only [stepV] at h ⊢
    case fini =>
      refine ⟨trivial, ?_⟩
      unfold finiV at h ⊢
      split
      · rename_i hf; simp [hf] at h
      · simp
    case suspend => exact absurd h hdis
    case resume =>
      exfalso
      unfold engage at h
      split at h
      · simp at h
      · rw [List.mem_append] at h
        rcases h with h | h
        · simp at h
        · exact nowr (engageEvs_wr _ _) h
    case scr sop => exfalso; cases sop <;> simp only [scrStep] at h <;> (try split at h) <;> simp at h

end

/-- an xterm-like description: every string exists -/
def adX : AD :=
  { mouse := true, pasteOn := true, pasteOff := true, focusOn := true, focusOff := true, saveTitle := true, restoreTitle := true,
    setTitle := true, cursorFg := true, cursorRGB := true, cursorStyles := some (fun _ => true), enterCA := true, exitCA := true,
    caTitle := true, showCursor := true, hideCursor := true, enterKeypad := true, exitKeypad := true, disableAM := true,
    enableAM := true, attrOff := true, resetFgBg := true, url := true }

theorem adX_paired : Paired adX :=
  ⟨rfl, fun _ => rfl, fun _ => rfl, fun _ => rfl, rfl, fun p hp => by cases hp; rfl, fun _ => rfl, fun _ => rfl, fun _ => rfl, rfl⟩

def rw1 : Rune → Int := fun _ => 1
def pay1 : Rune → List Rune → List Nat := fun m _ => [m.toNat]

/-- a history with mouse + paste + focus + title + a red steady-bar cursor drawn, a Suspend/Resume cycle with requests made
    while suspended, more drawing with the cursor style set back to default, ending in Fini -/
def hist : List MOp :=
  [.enableMouse 5, .enablePaste, .enableFocus, .setTitle [116], .scr (.setCursorStyle 6 (2^32 + 2^33 + 0xff0000)),
   .scr (.showCursor 0 0), .scr (.setContent 0 0 120 [] { attrs := 1 }), .scr .show, .suspend, .disableMouse, .enableMouse 2,
   .beep, .scr .show, .resume, .scr (.setCursorStyle 0 0), .scr .sync]

example : wfFrom false (hist ++ [.fini]) = true := by decide

/-- the hypotheses of `modes_restored` are satisfiable, and its conclusion on this history -/
example : Idle adX false true (execAll adX false true rw1 pay1 false (world0 3 1 [115, 104] []) (.resume :: (hist ++ [.fini]))).r
    (execAll adX false true rw1 pay1 false (world0 3 1 [115, 104] []) (.resume :: (hist ++ [.fini]))).g [] :=
  modes_restored adX false true rw1 pay1 false adX_paired 3 1 [115, 104] [] hist .fini (Or.inr rfl) (by decide)

set_option maxRecDepth 100000 in
/-- … and it is not trivially so: in the middle of that history (after the Show) the modes really are on, the cursor is a
    tinted steady bar, a saved title is on the stack; after the Resume the mouse mode requested *while suspended* is on -/
def r1 : Regs := (execAll adX false true rw1 pay1 false (world0 3 1 [115, 104] []) (.resume :: hist.take 8)).r
def r2 : Regs := (execAll adX false true rw1 pay1 false (world0 3 1 [115, 104] []) (.resume :: hist.take 14)).r

set_option maxRecDepth 100000 in
example :
    r1.alt = true ∧ r1.m1000 = true ∧ r1.m1002 = false ∧ r1.m1003 = true ∧ r1.m1006 = true ∧ r1.paste = true ∧
    r1.focus = true ∧ r1.shape = 6 ∧ r1.tinted = true ∧ r1.penSet = true ∧ r1.keypad = true ∧ r1.am = false ∧
    r1.title = [116] ∧ r1.tstack = [[115, 104], [115, 104]] ∧
    r2.m1000 = false ∧ r2.m1002 = true ∧ r2.m1003 = false ∧ r2.m1006 = true ∧ r2.paste = true ∧ r2.focus = true ∧
    r2.alt = true := by
  decide +kernel

/-- the history behind the known finding `C04-hyperlink-left-open`: draw the last cell with a hyperlink style, then Fini -/
def histLink : List MOp := [.scr (.setContent 2 0 120 [] { url := "http://x/" }), .scr .show]

/-- **the pinned disengage (`v = false`) leaves the hyperlink open**: `modes_restored`'s hyperlink clause (`v = true → …`)
    cannot be strengthened to the pinned code; the engine `modes` reproduces this on the real code
    (finding class `mode-left-on:hyperlink`, repair fixes/C04-exit-url.patch) -/
theorem hyperlink_left_open :
    (execAll adX false false rw1 pay1 false (world0 3 1 [] []) (.resume :: (histLink ++ [.fini]))).r.link = true ∧
    (execAll adX true false rw1 pay1 false (world0 3 1 [] []) (.resume :: (histLink ++ [.fini]))).r.link = false := by
  decide +kernel

/-- without the restriction "no Resume after Fini" the statement is false for the code as it is: Fini is once-only
    (`finiOnce`), so a screen resumed after Fini can never be torn down by Fini again -/
theorem resume_after_fini_stays_engaged :
    (execAll adX false true rw1 pay1 false (world0 3 1 [] []) [.resume, .fini, .resume, .fini]).r.alt = true := by
  decide +kernel

/-- **resume_while_running_inert**: Resume on a screen that is running ("already engaged": an unconditional SIGCONT handler, a
double Resume) re-registers the resize callback and does nothing else — no byte is written, no Tty call but NotifyResize is made,
and the whole state (requests, cells, the session's shutdown signalling that a later Suspend relies on) is what it was.  (A tree on
which the refused call replaces the session's stop channel hangs the next Suspend: seeded change C06-7, reported by engine `pipe`.) -/
theorem resume_while_running_inert (cf : ModeCfg) (st : MState) (h : st.running = true) :
    Modes.step cf st .resume = (st, [.call .notifyFn]) := by
  simp [Modes.step, Modes.stepV, Modes.engage, h]

/-- **suspend_while_suspended_inert**: Suspend on a screen that is not running (suspended already, or finished) does nothing at all -/
theorem suspend_while_suspended_inert (cf : ModeCfg) (st : MState) (h : st.running = false) :
    Modes.step cf st .suspend = (st, []) := by
  simp [Modes.step, Modes.stepV, Modes.disengageV, h]

example (cf : ModeCfg) : ∃ st : MState, st.running = true ∧ Modes.step cf st .resume = (st, [.call .notifyFn]) :=
  ⟨{ running := true }, rfl, resume_while_running_inert cf _ rfl⟩

end Tcell.Props.C04
