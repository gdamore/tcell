/-
C13 — Show() redraws only cells whose appearance changed; locked cells never.   **Layer A** (see C01).

"Writes cell content" = an abstract `put` command reaches the terminal; `ATerm.writes` logs the cell each one is addressed
to, `ATerm.covered` the cells each payload occupies.  Same domain as C01: every history, size, coordinate, rune and style;
every terminal description — `c.Plain` (no bottom-right insert-character trick) without side condition, the
`…_corner_partial` theorems (`c.Walk`) under C01's side condition `World.SafeRun` / `World.SafeAt` and with the property's
own exception "plus … the neighbour used to paint the bottom-right corner on auto-margin terminals" (`CornerWrite`,
Lemmas/DrawDefs.lean): when the corner cell (w-1,h-1) is dirty and visited, the Show also writes column w-2 of the last row
(the corner glyph is written there and shifted by `ich1`; ICH itself counts as writing every cell from the cursor to the
right margin, `ATerm.insertAt`) and repaints the cell covering column w-2 (`Scr.coverStart`: column w-2 itself or the wide
rune at w-3).  `_partial`: Layer A only, and the side condition.

Three variants of drawCell are modelled (`DrawCfg.guardLocked`, default `Tcell.currentGuardsLockedNeighbour`; `DrawCfg.walkGuard`,
default `Tcell.currentWalkGuard`); `hct : c.Walk` / `c.Plain` (= no corner trick) leave the guard flags ARBITRARY:
* `guardLocked = false` — the pinned tree.  Frame theorem, idle Show, locked-never-addressed, unlock-repaints hold; the
  locked clause of the property is *false* for it (`wide_left_of_locked_overpaints`, finding C13-wide-left-of-locked, fixed).
* `guardLocked = true, walkGuard = false` — /repo 0ca6187 (fixes/C13-wide-left-of-locked.patch alone).  Frame theorem,
  locked-never-addressed, unlock-repaints and `locked_never_painted_partial` (no payload, right halves of two-column glyphs included, occupies a
  locked cell — stated on the terminal's `covered` log) hold for every history.  **Idle Show is FALSE** for it:
  `idle_show_writes_tree_as_is` — drawCell narrows a wide rune left of a locked cell only when it paints it, so the width
  it returns to the draw loop depends on whether the cell was Dirty; when the locked cell itself holds a wide rune the next,
  idle, Show walks differently and paints the cell right of the locked one, which on a real terminal destroys the locked
  cell's glyph (finding C13-locked-wide-walk, reproduced by the oracle of engine `draw`).  `idle_show_writes_nothing_partial`
  therefore carries the hypothesis `guardLocked = false ∨ walkGuard = true`.
* `guardLocked = true, walkGuard = true` — the tree as it is (fixes/C13-locked-wide-walk.patch, /repo 30268e6): all theorems, idle Show included.
-/
import Tcell.Lemmas.World
import Tcell.Lemmas.LockGuard
import Tcell.Props.C01
namespace Tcell.Props.C13
open Tcell Tcell.Buf

variable {c : DrawCfg}

/-- **Only dirty cells are written, plus the corner trick's neighbour** (all terminals). -/
theorem show_writes_only_dirty_corner_partial (hrw : RwOk c.rw) (hct : c.Walk) (w h : Int) (ops : List ScrOp)
    (hv : ∀ op ∈ ops, op.Valid c) (hsafe : World.SafeRun c (World.init w h) ops)
    (hlast : ((World.init w h).run c ops).SafeAt c .show) :
    let wd := (World.init w h).run c ops
    wd.trusted = true → (wd.sw.ttyw = wd.sw.s.w ∧ wd.sw.ttyh = wd.sw.s.h) →
    ∃ ws, (wd.step c .show).t.writes = ws ++ wd.t.writes ∧
      ∀ p ∈ ws, (wd.sw.s.cells.dirty p.1 p.2 = true ∧ visitedG c wd.sw.s.cells p.1 p.2 = true) ∨
        CornerWrite c wd.sw.s.cells p :=
  fun ht hsz => (show_drawPost hrw hct (reach_inv_c hrw hct w h ops hv hsafe) hlast ht hsz).2.writes

/-- **Locked cells are never addressed** (all terminals, under the side condition: the trick's extra writes go to the last
row, which holds no locked cell). -/
theorem locked_never_addressed_corner_partial (hrw : RwOk c.rw) (hct : c.Walk) (w h : Int) (ops : List ScrOp)
    (hv : ∀ op ∈ ops, op.Valid c) (hsafe : World.SafeRun c (World.init w h) ops)
    (hlast : ((World.init w h).run c ops).SafeAt c .show) :
    let wd := (World.init w h).run c ops
    wd.trusted = true → (wd.sw.ttyw = wd.sw.s.w ∧ wd.sw.ttyh = wd.sw.s.h) →
    ∃ ws, (wd.step c .show).t.writes = ws ++ wd.t.writes ∧
      ∀ p ∈ ws, wd.sw.s.cells.locked p.1 p.2 = false := by
  intro wd ht hsz
  have inv := reach_inv_c hrw hct w h ops hv hsafe
  obtain ⟨hs0, dp⟩ := show_drawPost hrw hct inv hlast ht hsz
  obtain ⟨ws, h1, h2⟩ := dp.writes
  refine ⟨ws, h1, fun p hp => ?_⟩
  rcases h2 p hp with hd | hc
  · exact dirty_unlocked _ _ _ hd.1
  · rw [hc.2.1, inv.buf.ch]; exact (hs0 hc.1).2 _

/-- an idle Show, from any world that satisfies the invariant -/
theorem idle_show {wd : World} (hrw : RwOk c.rw) (hct : c.Walk) (hs : c.guardLocked = false ∨ c.walkGuard = true)
    (inv : WInv c wd) (hlast : wd.SafeAt c .show) (hlast2 : (wd.step c .show).SafeAt c .show)
    (htr : wd.trusted = true ∨ ¬ (wd.sw.ttyw = wd.sw.s.w ∧ wd.sw.ttyh = wd.sw.s.h)) :
    ((wd.step c .show).step c .show).t.writes = (wd.step c .show).t.writes := by
  obtain ⟨inv1, hdisp⟩ := show_step_c hrw hct inv hlast
  obtain ⟨sw, sh, sg, sl⟩ := (hdisp htr).same
  -- after the first Show the display is trusted and the sizes agree
  have ht1 : (wd.step c .show).trusted = true := by
    simp only [World.step]; split
    · rename_i hsz; exact htr.resolve_right (not_not_intro hsz)
    · rfl
  have hsz1 : (wd.step c .show).sw.ttyw = (wd.step c .show).sw.s.w ∧ (wd.step c .show).sw.ttyh = (wd.step c .show).sw.s.h :=
    ⟨inv1.tdim.1.symm.trans (inv1.tr ht1).tw, inv1.tdim.2.symm.trans (inv1.tr ht1).th⟩
  obtain ⟨ws, h1, h2⟩ := (show_drawPost hrw hct inv1 hlast2 ht1 hsz1).2.writes
  cases ws with
  | nil => exact h1
  | cons p ws =>
    -- a written cell (the corner cell, if the trick ran) would be dirty and visited; the walk does not depend on the Dirty
    -- flags (`hs`), so the first Show visited it too and left it clean
    exfalso
    obtain ⟨i, j, hd, hvis⟩ : ∃ i j, (wd.step c .show).sw.s.cells.dirty i j = true ∧
        visitedG c (wd.step c .show).sw.s.cells i j = true := by
      rcases h2 p (List.mem_cons_self ..) with h | h
      · exact ⟨_, _, h⟩
      · exact ⟨_, _, h.2.2.1, h.2.2.2.1⟩
    rw [visitedG_static c hs _ _ sw sh sg sl] at hvis
    obtain ⟨hr, hdd⟩ := (dirty_iff ..).1 hd
    have := (hdisp htr).cleaned i j (by simpa only [inRange_iff, sw, sh] using hr) hvis
      ((sl i j).symm.trans (isDirty_true_unlocked _ hdd))
    rw [this] at hd; exact absurd hd (by decide)

/-- **An idle Show writes nothing** (all terminals): a Show immediately following a Show (no content change, no resize,
no corruption in between) sends no cell payload at all — for the pinned drawCell and for the repaired one with the walk
fix (`hs`); for /repo 0ca6187 see `idle_show_writes_tree_as_is`.  After a Show the corner cell is clean, so the trick
does not run either. -/
theorem idle_show_writes_nothing_corner_partial (hrw : RwOk c.rw) (hct : c.Walk) (hs : c.guardLocked = false ∨ c.walkGuard = true)
    (w h : Int) (ops : List ScrOp) (hv : ∀ op ∈ ops, op.Valid c) (hsafe : World.SafeRun c (World.init w h) ops)
    (hlast : ((World.init w h).run c ops).SafeAt c .show)
    (hlast2 : (((World.init w h).run c ops).step c .show).SafeAt c .show) :
    let wd := (World.init w h).run c ops
    (wd.trusted = true ∨ ¬ (wd.sw.ttyw = wd.sw.s.w ∧ wd.sw.ttyh = wd.sw.s.h)) →
    ((wd.step c .show).step c .show).t.writes = (wd.step c .show).t.writes :=
  idle_show hrw hct hs (reach_inv_c hrw hct w h ops hv hsafe) hlast hlast2

/-- **A cell is repainted by the first Show after it is unlocked** (all terminals; more generally after anything made it
dirty): this is C01's `show_faithful_corner_partial` — after that Show the cell is clean and displays its content. -/
theorem unlock_repaints_corner_partial (hrw : RwOk c.rw) (hct : c.Walk) (w h : Int) (ops : List ScrOp)
    (hv : ∀ op ∈ ops, op.Valid c) (hsafe : World.SafeRun c (World.init w h) ops) (x y rw' rh : Int)
    (hlast : (((World.init w h).run c ops).step c (.lockRegion x y rw' rh false)).SafeAt c .show) :
    let wd := ((World.init w h).run c ops).step c (.lockRegion x y rw' rh false)
    wd.trusted = true → Displays c (wd.sw.s.resize (some (wd.sw.ttyw, wd.sw.ttyh))).cells (wd.step c .show) :=
  fun ht => (show_step_c hrw hct (step_inv_c hrw hct (reach_inv_c hrw hct w h ops hv hsafe) (.lockRegion x y rw' rh false)
    trivial trivial) hlast).2 (Or.inl ht)

/-- **Locked cells are never painted** (all terminals with the guard compiled in, under the side condition): no cell a
payload occupies and no cell an inserted character shifts is locked. -/
theorem locked_never_painted_corner_partial (hrw : RwOk c.rw) (hct : c.Walk) (hg : c.guardLocked = true) (w h : Int)
    (ops : List ScrOp) (hv : ∀ op ∈ ops, op.Valid c) (hsafe : World.SafeRun c (World.init w h) ops)
    (hlast : ((World.init w h).run c ops).SafeAt c .show) :
    let wd := (World.init w h).run c ops
    wd.trusted = true → (wd.sw.ttyw = wd.sw.s.w ∧ wd.sw.ttyh = wd.sw.s.h) →
    ∃ cs, (wd.step c .show).t.covered = cs ++ wd.t.covered ∧ ∀ p ∈ cs, wd.sw.s.cells.locked p.1 p.2 = false :=
  fun ht hsz =>
    let ⟨cs, h1, h2⟩ := (show_drawPost hrw hct (reach_inv_c hrw hct w h ops hv hsafe) hlast ht hsz).2.covers
    ⟨cs, h1, h2 hg⟩

/-- **Only dirty cells are written.** During a Show on a trusted display of unchanged size, every cell that
receives payload was reported Dirty by the cell buffer when the Show began (and was visited by the draw loop, i.e.
is not the hidden half of a wide rune).  By C08 (`dirty_sound` and the explicit dirtying rules) a cell is Dirty
only if its rune, combining runes or style differ from what they were when it was last painted, or it lies in
the columns covered or uncovered by a changed wide rune, or it was invalidated / unlocked. -/
theorem show_writes_only_dirty_partial (hrw : RwOk c.rw) (hct : c.Plain) (w h : Int) (ops : List ScrOp)
    (hv : ∀ op ∈ ops, op.Valid c) :
    let wd := (World.init w h).run c ops
    wd.trusted = true → (wd.sw.ttyw = wd.sw.s.w ∧ wd.sw.ttyh = wd.sw.s.h) →
    ∃ ws, (wd.step c .show).t.writes = ws ++ wd.t.writes ∧
      ∀ p ∈ ws, wd.sw.s.cells.dirty p.1 p.2 = true ∧ visitedG c wd.sw.s.cells p.1 p.2 = true := by
  intro wd ht hsz
  obtain ⟨ws, h1, h2⟩ :=
    show_writes_only_dirty_corner_partial hrw hct.walk w h ops hv (.of_plain hct ops _) (.of_plain hct _ _) ht hsz
  exact ⟨ws, h1, fun p hp => (h2 p hp).resolve_right fun hc => absurd (hct.ct.symm.trans hc.1) (by decide)⟩

/-- **Locked cells are never addressed.** No payload is sent to a cell that is locked when the Show begins. -/
theorem locked_never_addressed_partial (hrw : RwOk c.rw) (hct : c.Plain) (w h : Int) (ops : List ScrOp)
    (hv : ∀ op ∈ ops, op.Valid c) :
    let wd := (World.init w h).run c ops
    wd.trusted = true → (wd.sw.ttyw = wd.sw.s.w ∧ wd.sw.ttyh = wd.sw.s.h) →
    ∃ ws, (wd.step c .show).t.writes = ws ++ wd.t.writes ∧
      ∀ p ∈ ws, (wd.sw.s.cells.cells p.1 p.2).lock = false := by
  intro wd ht hsz
  obtain ⟨ws, h1, h2⟩ := show_writes_only_dirty_partial hrw hct w h ops hv ht hsz
  exact ⟨ws, h1, fun p hp => isDirty_true_unlocked _ ((dirty_iff ..).1 (h2 p hp).1).2⟩

/-- **An idle Show writes nothing.** -/
theorem idle_show_writes_nothing_partial (hrw : RwOk c.rw) (hct : c.Plain) (hs : c.guardLocked = false ∨ c.walkGuard = true)
    (w h : Int) (ops : List ScrOp) (hv : ∀ op ∈ ops, op.Valid c) :
    let wd := (World.init w h).run c ops
    (wd.trusted = true ∨ ¬ (wd.sw.ttyw = wd.sw.s.w ∧ wd.sw.ttyh = wd.sw.s.h)) →
    ((wd.step c .show).step c .show).t.writes = (wd.step c .show).t.writes :=
  idle_show_writes_nothing_corner_partial hrw hct.walk hs w h ops hv (.of_plain hct ops _) (.of_plain hct _ _) (.of_plain hct _ _)

/-- **A cell is repainted by the first Show after it is unlocked.** -/
theorem unlock_repaints_partial (hrw : RwOk c.rw) (hct : c.Plain) (w h : Int) (ops : List ScrOp)
    (hv : ∀ op ∈ ops, op.Valid c) (x y rw' rh : Int) :
    let wd := ((World.init w h).run c ops).step c (.lockRegion x y rw' rh false)
    wd.trusted = true → Displays c (wd.sw.s.resize (some (wd.sw.ttyw, wd.sw.ttyh))).cells (wd.step c .show) :=
  unlock_repaints_corner_partial hrw hct.walk w h ops hv (.of_plain hct ops _) x y rw' rh (.of_plain hct _ _)

/-! non-vacuity (4×2, `cornerTrick := true`, wide rune in the last row; `C01.opsCorner`): the Show that repaints the corner
writes exactly the corner's neighbourhood — ICH shifts columns 2,3, the glyph is written at column 2, the wide rune at column 1
(which covers column 2) is repainted — and a second Show writes nothing. -/
example : ((((World.init 4 2).run C01.cfgCorner C01.opsCorner).step C01.cfgCorner .show).t.writes.take 4) =
    [(1, 1), (3, 1), (2, 1), (2, 1)] := by decide +kernel
example : CornerWrite C01.cfgCorner ((World.init 4 2).run C01.cfgCorner C01.opsCorner).sw.s.cells (1, 1) := by
  unfold CornerWrite; decide +kernel
example : ((((World.init 4 2).run C01.cfgCorner C01.opsCorner).step C01.cfgCorner .show).step C01.cfgCorner .show).t.writes =
    (((World.init 4 2).run C01.cfgCorner C01.opsCorner).step C01.cfgCorner .show).t.writes := by decide +kernel
example := show_writes_only_dirty_corner_partial (c := C01.cfgCorner) (by exact C01.rwDemo_ok) C01.cfgCorner_walk 4 2 C01.opsCorner
  (by decide) C01.opsCorner_safe C01.opsCorner_safe_show

/-- the open finding C13-corner-trick-locked-neighbour on the model: with the neighbour (2,0) of the corner locked the trick
writes into it (the side condition excludes exactly this) -/
theorem corner_trick_writes_locked_neighbour :
    let ops : List ScrOp := [.setContent 2 0 0x62 [] {}, .show, .lockRegion 2 0 1 1 true, .setContent 3 0 0x5a [] {}]
    let wd := (World.init 4 1).run C01.cfgCorner ops
    wd.sw.s.cells.locked 2 0 = true ∧ (2, 0) ∈ (wd.step C01.cfgCorner .show).t.covered.take 3 ∧ wd.trusted = true := by
  decide +kernel

/-! ### what is *not* true of the pinned code: a wide rune left of a locked cell paints over it

The right half of a wide glyph drawn at column x lands on column x+1 even when that cell is locked: the
terminal cell of the locked position changes although no payload is addressed to it.  Witness on the
abstract terminal (replayed on the real code by the oracle of the check, class `locked-cell-overpainted`). -/

def lockedOps : List ScrOp :=
  [.setContent 1 0 0x62 [] {}, .show, .lockRegion 1 0 1 1 true, .setContent 0 0 0x4e16 [] {}, .show]

example : ((World.init 3 1).run C01.cfgDemo (lockedOps.take 2)).t.grid 1 0 = .shown [0x62] false {} := by decide +kernel
/-- pinned drawCell (`C01.cfgDemo.guardLocked = false`): after the second Show the locked cell (1,0) no longer shows 'b':
the wide rune's right half covers it -/
theorem wide_left_of_locked_overpaints :
    (((World.init 3 1).run C01.cfgDemo lockedOps).sw.s.cells.cells 1 0).lock = true ∧
    ((World.init 3 1).run C01.cfgDemo lockedOps).t.grid 1 0 = .cont := by decide +kernel

/-- the demo configuration with the locked-neighbour guard compiled in (fixes/C13-wide-left-of-locked.patch) -/
def cfgRepaired : DrawCfg := { C01.cfgDemo with guardLocked := true }

/-- **No payload of a Show covers a locked cell** (repaired drawCell, `guardLocked = true`, walk fix or not; every history,
size, coordinate, rune, style; every terminal description without the corner trick).  Stated on the abstract terminal:
`ATerm.covered` logs, for every payload the terminal receives, the cell the cursor is on and — for a two-column glyph — the
cell to its right.  During a Show on a trusted display of unchanged size every cell so covered is not locked when the Show
begins: neither an addressed cell (`locked_never_addressed_partial`) nor the right half of a wide glyph.
`_partial`: the four corner-trick entries are excluded (`hct`).  For the pinned drawCell the statement is false
(`wide_left_of_locked_overpaints`). -/
theorem locked_never_painted_partial (hrw : RwOk c.rw) (hct : c.Plain) (hg : c.guardLocked = true) (w h : Int)
    (ops : List ScrOp) (hv : ∀ op ∈ ops, op.Valid c) :
    let wd := (World.init w h).run c ops
    wd.trusted = true → (wd.sw.ttyw = wd.sw.s.w ∧ wd.sw.ttyh = wd.sw.s.h) →
    ∃ cs, (wd.step c .show).t.covered = cs ++ wd.t.covered ∧ ∀ p ∈ cs, wd.sw.s.cells.locked p.1 p.2 = false :=
  locked_never_painted_corner_partial hrw hct.walk hg w h ops hv (.of_plain hct ops _) (.of_plain hct _ _)

/-- The same at the level of the draw loop's own log, from the state any history leads to (no trust, no size hypothesis):
`drawLog` lists every cell payload of the draw pass with the cell the loop addresses it to and the columns it occupies. -/
theorem locked_never_painted_log (hct : c.cornerTrick = false) (hg : c.guardLocked = true) (w h : Int) (ops : List ScrOp) :
    let wd := (World.init w h).run c ops
    let s := wd.sw.s.resize (some (wd.sw.ttyw, wd.sw.ttyh))
    ∀ e ∈ s.drawLog c, s.cells.locked e.1 e.2.1 = false ∧ (e.2.2 > 1 → s.cells.locked (e.1 + 1) e.2.1 = false) :=
  fun e he => drawLog_ok hct hg _ e he

/-- the same from an arbitrary screen state (the history plays no role) -/
theorem locked_never_painted_any_state (hct : c.cornerTrick = false) (hg : c.guardLocked = true) (s : Scr) :
    ∀ e ∈ s.drawLog c, s.cells.locked e.1 e.2.1 = false ∧ (e.2.2 > 1 → s.cells.locked (e.1 + 1) e.2.1 = false) :=
  fun e he => drawLog_ok hct hg s e he

-- the log is not vacuous: on the witness history the last Show paints exactly cell (0,0) — two columns wide on the
-- pinned tree (covering the locked (1,0)), one column wide on the repaired tree
example : (((World.init 3 1).run C01.cfgDemo (lockedOps.take 4)).sw.s.drawLog C01.cfgDemo) = [(0, 0, 2)] := by decide +kernel
example : (((World.init 3 1).run cfgRepaired (lockedOps.take 4)).sw.s.drawLog cfgRepaired) = [(0, 0, 1)] := by decide +kernel
example : cfgRepaired.cornerTrick = false ∧ cfgRepaired.guardLocked = true := ⟨rfl, rfl⟩

/-- repaired drawCell on the witness history: the locked cell (1,0) still shows 'b', the wide rune left of it is shown as
a blank of width 1 (the policy of the last column) -/
theorem wide_left_of_locked_kept_repaired :
    (((World.init 3 1).run cfgRepaired lockedOps).sw.s.cells.cells 1 0).lock = true ∧
    ((World.init 3 1).run cfgRepaired lockedOps).t.grid 1 0 = .shown [0x62] false {} ∧
    ((World.init 3 1).run cfgRepaired lockedOps).t.grid 0 0 = .shown [32] false {} := by decide +kernel

/-- … and the first Show after the cell is unlocked draws the wide rune again, two columns wide (LockRegion(…, false) of
the repaired tree marks a wide rune just left of the region dirty, `Tcell.lockRowsG`) -/
theorem unlock_repaints_wide_repaired :
    ((World.init 3 1).run cfgRepaired (lockedOps ++ [.lockRegion 1 0 1 1 false, .show])).t.grid 0 0 =
      .shown [0xe4, 0xb8, 0x96] true {} ∧
    ((World.init 3 1).run cfgRepaired (lockedOps ++ [.lockRegion 1 0 1 1 false, .show])).t.grid 1 0 = .cont := by
  decide +kernel

/-- What C01's `Displays` says about a clean unlocked cell holding a wide rune on the repaired tree, in contributor R's
form: the cell shows its content exactly as on the pinned tree, or — only if the next column is locked now — a blank of
width 1 in the cell's style. -/
def DisplaysRepairedCell (c : DrawCfg) (wd : World) (x y : Int) : Prop :=
  let cell := wd.sw.s.cells.cells x y
  ∃ st', (wd.t.grid x y = shownOf c wd.sw.s.w x cell.currMain cell.currComb st' ∨
          (wd.sw.s.cells.locked (x + 1) y = true ∧ wd.t.grid x y = .shown [32] false st'))

example : DisplaysRepairedCell cfgRepaired ((World.init 3 1).run cfgRepaired lockedOps) 0 0 :=
  ⟨{}, Or.inr ⟨by decide +kernel, by decide +kernel⟩⟩

/-- **`DisplaysRepairedCell` holds after every Show / Sync / notified resize, for every clean unlocked cell** (in particular
for every cell the draw loop visited): it is the `cells` clause of `Displays`, which C01's `show_faithful_partial`,
`sync_faithful_partial`, `resize_faithful_partial` establish for every history. -/
theorem displays_repaired_cell {pre : Buf} {wd : World} (disp : Displays c pre wd) (x y : Int)
    (hr : wd.sw.s.cells.inRange x y) (hl : (wd.sw.s.cells.cells x y).lock = false) (hd : wd.sw.s.cells.dirty x y = false) :
    DisplaysRepairedCell c wd x y := by
  obtain ⟨st', nl, h1, _, _, h4, _⟩ := disp.cells x y hr hl hd
  refine ⟨st', ?_⟩
  cases nl with
  | false => left; simpa using h1
  | true =>
    by_cases hw : obsWidth c.rw (wd.sw.s.cells.cells x y).currMain > 1
    · right; exact ⟨(h4 rfl hw).2, by rw [h1, shownOfG_guard _ _ _ _ _ _ hw]⟩
    · left; rw [h1]
      simp only [shownOfG, shownOf, cellTextG_of_not _ _ _ _ _ _ true (fun h => hw h.2)]

/-- corollary on histories: after a Show on a trusted display (or one that notices a size change) -/
theorem show_faithful_repaired_cell_partial (hrw : RwOk c.rw) (hct : c.Plain) (w h : Int) (ops : List ScrOp)
    (hv : ∀ op ∈ ops, op.Valid c) :
    let wd := (World.init w h).run c ops
    (wd.trusted = true ∨ ¬ (wd.sw.ttyw = wd.sw.s.w ∧ wd.sw.ttyh = wd.sw.s.h)) →
    ∀ x y, (wd.step c .show).sw.s.cells.inRange x y → ((wd.step c .show).sw.s.cells.cells x y).lock = false →
      (wd.step c .show).sw.s.cells.dirty x y = false → DisplaysRepairedCell c (wd.step c .show) x y :=
  fun htr x y hr hl hd => displays_repaired_cell (C01.show_faithful_partial hrw hct w h ops hv htr) x y hr hl hd

/-! ### /repo 0ca6187: an idle Show is not idle when a wide rune sits left of a locked wide rune

5×1 screen: a wide rune at (1,0) and 'a' at (3,0) are shown; (1,0) is locked; a wide rune is put at (0,0).  Show #2 paints (0,0)
as a blank of width 1 (guard) and therefore steps to the locked (1,0), whose width 2 makes the loop skip (2,0) (marking it
dirty).  Show #3 — nothing has changed — finds (0,0) clean, steps by its stored width 2 straight to (2,0) and paints it: a
payload in an idle Show, landing on the right half of the glyph the locked cell displays. -/

def walkOps : List ScrOp :=
  [.setContent 1 0 0x4e16 [] {}, .setContent 3 0 0x61 [] {}, .show, .lockRegion 1 0 1 1 true,
   .setContent 0 0 0x4e16 [] {}, .show]

/-- /repo 0ca6187 (`guardLocked = true`, `walkGuard = false`): the idle Show writes cell (2,0), and the terminal cell of
the locked position (1,0) — the left half of the glyph whose right half was overwritten — is no longer the glyph -/
theorem idle_show_writes_tree_as_is :
    let wd := (World.init 5 1).run C01.cfgGuard walkOps
    (wd.step C01.cfgGuard .show).t.writes = (2, 0) :: wd.t.writes ∧
    (wd.sw.s.cells.cells 1 0).lock = true ∧
    wd.t.grid 1 0 = .shown [0xe4, 0xb8, 0x96] true {} ∧ (wd.step C01.cfgGuard .show).t.grid 1 0 = .garbage := by
  decide +kernel

/-- the tree as it is (`walkGuard = true`): the same idle Show writes nothing and the glyph stays -/
theorem idle_show_quiet_with_walk_fix :
    let wd := (World.init 5 1).run C01.cfgWalk walkOps
    (wd.step C01.cfgWalk .show).t.writes = wd.t.writes ∧
    (wd.step C01.cfgWalk .show).t.grid 1 0 = .shown [0xe4, 0xb8, 0x96] true {} := by
  decide +kernel

example : ∀ op ∈ walkOps, op.Valid C01.cfgGuard := by decide
example : ((World.init 5 1).run C01.cfgGuard walkOps).trusted = true := by decide +kernel
example : C01.cfgWalk.guardLocked = false ∨ C01.cfgWalk.walkGuard = true := Or.inr rfl
-- `locked_never_painted_partial` is not vacuous: on the witness of the fixed finding the Show covers exactly cell (0,0)
example : (((World.init 3 1).run cfgRepaired (lockedOps.take 4)).step cfgRepaired .show).t.covered =
    (0, 0) :: ((World.init 3 1).run cfgRepaired (lockedOps.take 4)).t.covered := by decide +kernel
example : (((World.init 3 1).run C01.cfgDemo (lockedOps.take 4)).step C01.cfgDemo .show).t.covered =
    (1, 0) :: (0, 0) :: ((World.init 3 1).run C01.cfgDemo (lockedOps.take 4)).t.covered := by decide +kernel

end Tcell.Props.C13
