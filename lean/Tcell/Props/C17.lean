/-
C17 — Legacy charsets: output valid in the locale encoding, with faithful fallbacks.

Theorems about the model `Tcell.Model.Encode` (tscreen.go encodeRune / drawCell payload / CanDisplay /
Register-UnregisterRuneFallback / buildAcsMap).  Everything is generic in the encoder `enc : Rune → EncResult`
(the external charset library is a parameter), in the ACS map, in the fallback map and in the runes.  The
`acs_map_*` theorems speak of the regenerated database `Tcell.Gen.db` and name table `Tcell.Gen.vtACSNames`: one kernel
evaluation per distinct `acsKey` (`all_of_eraseDups`), carried over to the tree's variant by `tree_map` and from the
repaired to the stripped variant by `buildAcsMap_stripped`; the two padded entries are evaluated on their own
(`acs_wire_padded`).
-/
import Tcell.Model.Encode
import Tcell.Gen.TerminfoDB
import Tcell.Gen.Acs
import Tcell.Spec.TermCaps
import Tcell.Lemmas.TPuts
import Tcell.Spec.Ecma48
namespace Tcell.Props.C17
open Tcell

/-! ### the decision chain -/

/-- The property's chain for one rune drawn first in a cell: its encoding if representable, else the terminal's ACS
string, else the registered fallback, else `?` — in that priority. -/
def chainSpec (t : EncState) (r : Rune) : Bytes :=
  if (t.enc r).bad then
    match t.acs.get? r with
    | some a => a
    | none =>
      match t.fallback.get? r with
      | some f => f
      | none => [63]
  else (t.enc r).out

/-- width padding of the property: a wide cell shown as `?` is written as `? ` -/
def widen (width : Int) (s : Bytes) : Bytes := if width > 1 ∧ s = [63] then [63, 32] else s

theorem encodeRune_first (t : EncState) (r : Rune) : t.encodeRune r [] = chainSpec t r := by
  unfold EncState.encodeRune chainSpec
  cases h : (t.enc r).bad <;> simp
  cases t.acs.get? r <;> simp
  cases t.fallback.get? r <;> simp

/-- **chain**: the payload of a cell holding the single rune `r` (any reported width, any column where it fits) is
`enc r` if representable, else the ACS glyph string if the map has one, else the registered fallback, else `?`,
in that priority, with `? ` for a wide cell. -/
theorem chain (t : EncState) (tw x : Int) (r : Rune) (width : Int)
    (hfit : ¬ x > tw - (if width < 1 then 1 else width)) :
    (t.cellPayload tw x r [] width).str = widen (if width < 1 then 1 else width) (chainSpec t r) := by
  unfold EncState.cellPayload EncState.encodeCell widen
  simp only [List.foldl_nil, encodeRune_first]
  rw [if_neg hfit]
  by_cases hw : (if width < 1 then 1 else width) > 1 <;> by_cases hq : chainSpec t r = [63] <;> simp [hw, hq]

theorem chain_encoded (t : EncState) (r : Rune) (h : (t.enc r).bad = false) : chainSpec t r = (t.enc r).out := by
  simp [chainSpec, h]
theorem chain_acs (t : EncState) (r : Rune) (a : Bytes) (h : (t.enc r).bad = true) (ha : t.acs.get? r = some a) :
    chainSpec t r = a := by simp [chainSpec, h, ha]
theorem chain_fallback (t : EncState) (r : Rune) (f : Bytes) (h : (t.enc r).bad = true) (ha : t.acs.get? r = none)
    (hf : t.fallback.get? r = some f) : chainSpec t r = f := by simp [chainSpec, h, ha, hf]
theorem chain_question (t : EncState) (r : Rune) (h : (t.enc r).bad = true) (ha : t.acs.get? r = none)
    (hf : t.fallback.get? r = none) : chainSpec t r = [63] := by simp [chainSpec, h, ha, hf]

/-- a wide rune that does not fit in the last column is written as one blank of width 1 -/
theorem last_column_blank (t : EncState) (tw x : Int) (r : Rune) (comb : List Rune) (width : Int)
    (h : x > tw - (if width < 1 then 1 else width)) :
    t.cellPayload tw x r comb width = { str := [32], width := 1, resetCx := false } := by
  unfold EncState.cellPayload; simp [h]

/-- combining runes: an encodable one is appended, one that is not is elided (once something has been emitted) -/
theorem comb_encoded (t : EncState) (r : Rune) (buf : Bytes) (h : (t.enc r).bad = false) :
    t.encodeRune r buf = buf ++ (t.enc r).out := by simp [EncState.encodeRune, h]
theorem comb_elided (t : EncState) (r : Rune) (buf : Bytes) (h : (t.enc r).bad = true) (hb : buf ≠ []) :
    t.encodeRune r buf = buf := by
  have : buf.isEmpty = false := by cases buf <;> simp_all
  simp [EncState.encodeRune, h, this]

/-! ### never raw UTF-8, never the substitution byte -/

/-- where a piece of payload may come from: the encoder's own output for a rune of the cell that it accepted
(no error, non-empty, not starting with the substitution byte 0x1A), the terminal's ACS string or the registered
fallback for a rune of the cell, or the literal `?`. -/
inductive Piece (t : EncState) (rs : List Rune) : Bytes → Prop
  | enc (r : Rune) : r ∈ rs → (t.enc r).err = false → (t.enc r).out ≠ [] → (t.enc r).out.head? ≠ some 0x1A → Piece t rs (t.enc r).out
  | acs (r : Rune) (a : Bytes) : r ∈ rs → t.acs.get? r = some a → Piece t rs a
  | fallback (r : Rune) (f : Bytes) : r ∈ rs → t.fallback.get? r = some f → Piece t rs f
  | question : Piece t rs [63]

theorem bad_false (e : EncResult) (h : e.bad = false) : e.err = false ∧ e.out ≠ [] ∧ e.out.head? ≠ some 0x1A := by
  simpa [EncResult.bad, and_assoc] using h

def Pieces (t : EncState) (rs : List Rune) (buf : Bytes) : Prop :=
  ∃ ps : List Bytes, buf = ps.flatten ∧ ∀ p ∈ ps, Piece t rs p

theorem Pieces.snoc {t : EncState} {rs : List Rune} {buf p : Bytes} (hb : Pieces t rs buf) (hp : Piece t rs p) :
    Pieces t rs (buf ++ p) := by
  obtain ⟨ps, rfl, hall⟩ := hb
  exact ⟨ps ++ [p], by simp, by simpa [or_imp, forall_and] using ⟨hall, hp⟩⟩

theorem pieces_encodeRune {t : EncState} {rs : List Rune} {r : Rune} (hr : r ∈ rs) {buf : Bytes} (hb : Pieces t rs buf) :
    Pieces t rs (t.encodeRune r buf) := by
  unfold EncState.encodeRune
  split
  · split
    · split
      · exact hb.snoc (.acs r _ hr ‹_›)
      · split
        · exact hb.snoc (.fallback r _ hr ‹_›)
        · exact hb.snoc .question
    · exact hb
  · obtain ⟨h1, h2, h3⟩ := bad_false _ (Bool.eq_false_iff.2 ‹_›)
    exact hb.snoc (.enc r hr h1 h2 h3)

/-- **never_raw_utf8**: whatever the cell holds (main rune, any combining runes, any width, any column), the bytes written
are a blank (last column), or a concatenation of pieces each of which is the encoder's accepted output for a rune of the
cell, the ACS string / registered fallback for a rune of the cell, or `?` — optionally followed by the padding blank of
`? `.  In particular the UTF-8 bytes of a rune appear only if the locale's encoder produced them (or a registered
string consists of them), and an encoder piece never starts with the substitution byte 0x1A. -/
theorem never_raw_utf8 (t : EncState) (tw x : Int) (mainc : Rune) (comb : List Rune) (width : Int) :
    (t.cellPayload tw x mainc comb width).str = [32] ∨
    ∃ ps : List Bytes, (∀ p ∈ ps, Piece t (mainc :: comb) p) ∧
      ((t.cellPayload tw x mainc comb width).str = ps.flatten ∨ (t.cellPayload tw x mainc comb width).str = ps.flatten ++ [32]) := by
  have hfold : ∀ (cs : List Rune) (buf : Bytes), (∀ r ∈ cs, r ∈ mainc :: comb) → Pieces t (mainc :: comb) buf →
      Pieces t (mainc :: comb) (cs.foldl (fun b r => t.encodeRune r b) buf) := by
    intro cs
    induction cs with
    | nil => exact fun _ _ hb => hb
    | cons c cs ih =>
      exact fun buf hc hb => ih _ (fun r hr => hc r (List.mem_cons_of_mem _ hr)) (pieces_encodeRune (hc c (List.mem_cons_self ..)) hb)
  obtain ⟨ps, hps, hall⟩ : Pieces t (mainc :: comb) (t.encodeCell mainc comb) :=
    hfold comb _ (fun r hr => List.mem_cons_of_mem _ hr) (pieces_encodeRune (List.mem_cons_self ..) ⟨[], rfl, by simp⟩)
  unfold EncState.cellPayload
  by_cases hx : x > tw - (if width < 1 then 1 else width)
  · left; simp [hx]
  · right
    refine ⟨ps, hall, ?_⟩
    simp only [if_neg hx]
    by_cases hq : (decide ((if width < 1 then 1 else width) > 1) && t.encodeCell mainc comb == [63]) = true
    · right
      simp only [hq, if_true]
      have : t.encodeCell mainc comb = [63] := by simp at hq; exact hq.2
      rw [← hps, this]; rfl
    · left
      simp only [hq]
      simpa using hps

/-! ### CanDisplay -/

/-- **canDisplay_iff** (without fallbacks): true exactly when the rune is shown as itself (the encoder accepts it and its
output is what is written) or as the ACS glyph the map has for it. -/
theorem canDisplay_iff (t : EncState) (r : Rune) :
    t.canDisplay r false = true ↔
      ((t.enc r).bad = false ∧ t.encodeRune r [] = (t.enc r).out) ∨
      ((t.enc r).bad = true ∧ ∃ a, t.acs.get? r = some a ∧ t.encodeRune r [] = a) := by
  rw [encodeRune_first]
  unfold EncState.canDisplay chainSpec
  cases h : (t.enc r).bad <;> cases ha : t.acs.get? r <;> simp

/-- **canDisplay_iff** (fallbacks allowed): additionally true when a fallback string is registered (and is then what is written). -/
theorem canDisplay_fallbacks_iff (t : EncState) (r : Rune) :
    t.canDisplay r true = true ↔
      (t.enc r).bad = false ∨ (t.acs.get? r).isSome ∨ (t.fallback.get? r).isSome := by
  unfold EncState.canDisplay
  cases h : (t.enc r).bad <;> cases ha : t.acs.get? r <;> cases hf : t.fallback.get? r <;> simp

/-- a rune CanDisplay rejects even with fallbacks is drawn as `?` -/
theorem not_canDisplay_question (t : EncState) (r : Rune) (h : t.canDisplay r true = false) : t.encodeRune r [] = [63] := by
  rw [encodeRune_first]
  unfold EncState.canDisplay at h
  unfold chainSpec
  cases hb : (t.enc r).bad <;> cases ha : t.acs.get? r <;> cases hf : t.fallback.get? r <;> simp_all

/-! ### RegisterRuneFallback / UnregisterRuneFallback -/

theorem get_insert_self (m : RuneMap) (r : Rune) (s : Bytes) : (m.insert r s).get? r = some s := by
  simp [RuneMap.insert, RuneMap.get?]
theorem get_insert_other (m : RuneMap) (r r' : Rune) (s : Bytes) (h : r' ≠ r) : (m.insert r s).get? r' = m.get? r' := by
  have : (r == r') = false := by simp; exact fun e => h e.symm
  simp [RuneMap.insert, RuneMap.get?, this]
theorem get_erase_self (m : RuneMap) (r : Rune) : (m.erase r).get? r = none := by
  simp [RuneMap.erase, RuneMap.get?, List.find?_eq_none]
theorem get_erase_other (m : RuneMap) (r r' : Rune) (h : r' ≠ r) : (m.erase r).get? r' = m.get? r' := by
  unfold RuneMap.erase RuneMap.get?
  rw [List.find?_filter]
  congr 2; funext p
  by_cases hp : p.1 = r' <;> simp [hp, h]

/-- **register_takes_effect**: after `RegisterRuneFallback(r, s)` the next draw of a rune that is neither representable nor
in the ACS map writes `s`, CanDisplay(r, true) is true, and every other rune is drawn as before. -/
theorem register_takes_effect (t : EncState) (r : Rune) (s : Bytes) (hb : (t.enc r).bad = true) (ha : t.acs.get? r = none) :
    (t.registerFallback r s).encodeRune r [] = s ∧ (t.registerFallback r s).canDisplay r true = true ∧
    ∀ r', r' ≠ r → ∀ buf, (t.registerFallback r s).encodeRune r' buf = t.encodeRune r' buf := by
  refine ⟨?_, ?_, ?_⟩
  · rw [encodeRune_first]; unfold chainSpec EncState.registerFallback; simp [hb, ha, get_insert_self]
  · unfold EncState.canDisplay EncState.registerFallback; simp [hb, ha, get_insert_self]
  · intro r' hr buf; unfold EncState.encodeRune EncState.registerFallback; simp [get_insert_other _ _ _ _ hr]

/-- **unregister_takes_effect**: after `UnregisterRuneFallback(r)` such a rune is drawn as `?` again, CanDisplay(r, true) is
false, and every other rune is drawn as before. -/
theorem unregister_takes_effect (t : EncState) (r : Rune) (hb : (t.enc r).bad = true) (ha : t.acs.get? r = none) :
    (t.unregisterFallback r).encodeRune r [] = [63] ∧ (t.unregisterFallback r).canDisplay r true = false ∧
    ∀ r', r' ≠ r → ∀ buf, (t.unregisterFallback r).encodeRune r' buf = t.encodeRune r' buf := by
  refine ⟨?_, ?_, ?_⟩
  · rw [encodeRune_first]; unfold chainSpec EncState.unregisterFallback; simp [hb, ha, get_erase_self]
  · unfold EncState.canDisplay EncState.unregisterFallback; simp [hb, ha, get_erase_self]
  · intro r' hr buf; unfold EncState.encodeRune EncState.unregisterFallback; simp [get_erase_other _ _ _ hr]

/-! ### the ACS map -/

/-- terminfo(5): `acsc` is a list of pairs (vt100 name, the terminal's character) -/
def pairs : Bytes → List (Nat × Nat)
  | n :: d :: rest => (n, d) :: pairs rest
  | _ => []

/-- for every listed pair `(n, d)` whose name is in `names`, the map sends the rune named `n` to `smacs ++ [d] ++ rmacs` -/
def acsSpecOn (v : EncVariant) (names : List (Nat × Rune)) (e : Terminfo) (ps : List (Nat × Nat)) : Bool :=
  ps.all fun p =>
    match names.find? (fun q => q.1 == p.1) with
    | some (_, r) => (buildAcsMap v names e).get? r == some (e.enterAcs ++ [p.2] ++ e.exitAcs)
    | none => true

theorem acsSpecOn_iff (v : EncVariant) (names : List (Nat × Rune)) (e : Terminfo) (ps : List (Nat × Nat)) :
    acsSpecOn v names e ps = true ↔
      ∀ p ∈ ps, ∀ q, names.find? (fun q => q.1 == p.1) = some q →
        (buildAcsMap v names e).get? q.2 = some (e.enterAcs ++ [p.2] ++ e.exitAcs) := by
  unfold acsSpecOn
  rw [List.all_eq_true]
  constructor
  · intro h p hp q hq
    have := h p hp
    rw [hq] at this
    simpa using this
  · intro h p hp
    cases hq : names.find? (fun q => q.1 == p.1) with
    | none => rfl
    | some q => simpa using h p hp q hq

/-- the variant of `buildAcsMap` the tree under test implements, as found by the translator's behavioural probe
(`harness/cmd/extract/acs.go` `acsProbe`; engine `acs` asks the same three questions and the correspondence ties
`buildAcsMap treeVariant` to the real function on every database entry and on synthetic descriptions) -/
def treeVariant : EncVariant :=
  { acsAll := Gen.acsAll, acsRawByte := Gen.acsRawByte, acsStrip := Gen.acsStripsPadding }

/-- the current tree has both repairs of /repo 1c34022 (loop `>= 2`, raw terminal byte); with
fixes/C17-acs-strip-padding.patch it is `.stripped`, without it `.repaired` — the kernel decides which -/
theorem tree_variant_repaired : treeVariant = if Gen.acsStripsPadding then .stripped else .repaired := by decide

/-- the descriptions whose `smacs`/`rmacs` carry a padding specification (terminfo(5) `$<…>`) -/
def acsPadded (e : Terminfo) : Bool :=
  !(Spec.TermCaps.stripPadding e.enterAcs == e.enterAcs && Spec.TermCaps.stripPadding e.exitAcs == e.exitAcs)

/-- what the terminal must receive for the glyph `d`: `smacs`, the character, `rmacs`, each capability string as `TPuts`
would emit it (terminfo(5): padding is a delay, never bytes; `C15.tputs_spec`: `TPuts` writes `stripPadding s`) -/
def acsWire (e : Terminfo) (d : Nat) : Bytes :=
  Spec.TermCaps.stripPadding e.enterAcs ++ [d] ++ Spec.TermCaps.stripPadding e.exitAcs

def acsWireOn (v : EncVariant) (names : List (Nat × Rune)) (e : Terminfo) (ps : List (Nat × Nat)) : Bool :=
  ps.all fun p =>
    match names.find? (fun q => q.1 == p.1) with
    | some (_, r) => (buildAcsMap v names e).get? r == some (acsWire e p.2)
    | none => true

/-! #### any description: every string of the repaired map is wire-exact -/

/-- the repaired `strip` is the terminfo(5) reference: `TPuts` of the tree with an empty pad character writes
`stripPadding s` (`Lemmas.TPuts.tputsAux_bytes`, the lemma behind `C15.tputs_spec`) -/
theorem acsCap_stripped (v : EncVariant) (h : v.acsStrip = true) (s : Bytes) :
    acsCap v s = Spec.TermCaps.stripPadding s := by
  have := TPuts.tputsAux_bytes [] (s.length + 1) s {} (Nat.lt_succ_self _)
  simpa [acsCap, h, TPuts.tputs, TPuts.tputsV, TPuts.currentStrict] using this

theorem acsCap_unstripped (v : EncVariant) (h : v.acsStrip = false) (s : Bytes) : acsCap v s = s := by
  simp [acsCap, h]

theorem acsLoop_values (v : EncVariant) (names : List (Nat × Rune)) (enter exit : Bytes) (s : Bytes) (m : RuneMap)
    (r : Rune) (a : Bytes) (h : (acsLoop v names enter exit s m).get? r = some a) :
    m.get? r = some a ∨ ∃ p ∈ pairs s, a = enter ++ acsDstv v p.2 ++ exit := by
  induction s using pairs.induct generalizing m with
  | case1 n d rest ih =>
    unfold acsLoop at h
    split at h
    · refine (ih _ h).elim (fun h1 => ?_) fun ⟨p, hp, ha⟩ => .inr ⟨p, List.mem_cons_of_mem _ hp, ha⟩
      split at h1
      · rename_i r' _
        by_cases hr : r = r'
        · rw [hr, get_insert_self] at h1
          exact .inr ⟨(n, d), List.mem_cons_self .., (Option.some.inj h1).symm⟩
        · rw [get_insert_other _ _ _ _ hr] at h1
          exact .inl h1
      · exact .inl h1
    · exact .inl h
  | case2 s hs =>
    unfold acsLoop at h
    split at h
    · exact absurd rfl (hs _ _ _)
    · exact .inl h

theorem buildAcsMap_values (v : EncVariant) (names : List (Nat × Rune)) (e : Terminfo) (r : Rune) (a : Bytes)
    (h : (buildAcsMap v names e).get? r = some a) :
    ∃ p ∈ pairs e.altChars, a = acsCap v e.enterAcs ++ acsDstv v p.2 ++ acsCap v e.exitAcs :=
  (acsLoop_values v names _ _ _ _ r a h).resolve_left (by simp [RuneMap.get?])

/-- **acs_values_wire** (repaired variant, ANY terminal description and any name table — not only the database): every
string of the ACS map, i.e. everything `encodeRune` can hand to `writeString` for an ACS glyph, is
`stripPadding EnterAcs ++ dstv ++ stripPadding ExitAcs` for a pair `(n, d)` of the description's `acsc` string: the two
capability strings exactly as `TPuts` would emit them (terminfo(5) reference `stripPadding`), the terminal's character in
between — nothing of the padding, nothing else removed, whatever form the padding has and wherever it stands. -/
theorem acs_values_wire (v : EncVariant) (hs : v.acsStrip = true) (names : List (Nat × Rune)) (e : Terminfo)
    (r : Rune) (a : Bytes) (h : (buildAcsMap v names e).get? r = some a) :
    ∃ p ∈ pairs e.altChars,
      a = Spec.TermCaps.stripPadding e.enterAcs ++ acsDstv v p.2 ++ Spec.TermCaps.stripPadding e.exitAcs := by
  simpa only [acsCap_stripped v hs] using buildAcsMap_values v names e r a h

/-- the same for a tree without the repair: the capability strings verbatim — so a padding specification in smacs/rmacs
reaches `writeString` (the defect, for any description) -/
theorem acs_values_verbatim (v : EncVariant) (hs : v.acsStrip = false) (names : List (Nat × Rune)) (e : Terminfo)
    (r : Rune) (a : Bytes) (h : (buildAcsMap v names e).get? r = some a) :
    ∃ p ∈ pairs e.altChars, a = e.enterAcs ++ acsDstv v p.2 ++ e.exitAcs := by
  simpa only [acsCap_unstripped v hs] using buildAcsMap_values v names e r a h

/-- hypotheses satisfiable, on forms of padding the database does not have: padding in the middle and at the start, `*` `/`
flags and a decimal, a `$<x>` that is no padding specification (kept), the `$` `<` characters of the terminal kept -/
example : (buildAcsMap .stripped Gen.vtACSNames
      { (default : Terminfo) with altChars := [113, 36], enterAcs := [27, 36, 60, 53, 62, 40, 48, 36, 60, 120, 62],
                                   exitAcs := [36, 60, 49, 46, 53, 42, 47, 62, 27, 40, 66] }).get? 9472 =
    some [27, 40, 48, 36, 60, 120, 62, 36, 27, 40, 66] := by decide +kernel

/-- the loop reads the variant through `acsAll` and `acsRawByte` only -/
theorem acsLoop_congr {v v' : EncVariant} (ha : v.acsAll = v'.acsAll) (hr : v.acsRawByte = v'.acsRawByte)
    (names : List (Nat × Rune)) (enter exit s : Bytes) (m : RuneMap) :
    acsLoop v names enter exit s m = acsLoop v' names enter exit s m := by
  induction s using pairs.induct generalizing m with
  | case1 n d rest ih => simp only [acsLoop, acsDstv, ha, hr, ih]
  | case2 s hs => unfold acsLoop; split <;> first | exact absurd rfl (hs _ _ _) | rfl

theorem stripPadding_of_not_padded {e : Terminfo} (h : acsPadded e = false) :
    Spec.TermCaps.stripPadding e.enterAcs = e.enterAcs ∧ Spec.TermCaps.stripPadding e.exitAcs = e.exitAcs := by
  simpa [acsPadded] using h

/-- the repair changes nothing but the padding: for a description without padding in smacs/rmacs the two variants build
the same map -/
theorem buildAcsMap_stripped (names : List (Nat × Rune)) {e : Terminfo} (h : acsPadded e = false) :
    buildAcsMap .stripped names e = buildAcsMap .repaired names e := by
  obtain ⟨h1, h2⟩ := stripPadding_of_not_padded h
  unfold buildAcsMap
  rw [acsCap_stripped _ rfl, acsCap_stripped _ rfl, acsCap_unstripped _ rfl, acsCap_unstripped _ rfl, h1, h2]
  exact acsLoop_congr (v := .stripped) (v' := .repaired) rfl rfl ..

/-- … and then "wire-exact" is the reading of `acsSpecOn` -/
theorem acsWireOn_of_not_padded (v : EncVariant) (names : List (Nat × Rune)) {e : Terminfo} (h : acsPadded e = false)
    (ps : List (Nat × Nat)) : acsWireOn v names e ps = acsSpecOn v names e ps := by
  obtain ⟨h1, h2⟩ := stripPadding_of_not_padded h
  unfold acsWireOn acsSpecOn acsWire
  rw [h1, h2]

/-- the map of the tree under test is that of `.stripped` on a tree with the padding repair and that of `.repaired` on a
tree without it — and either of them for a description without padding -/
theorem tree_map (names : List (Nat × Rune)) {e : Terminfo} :
    (Gen.acsStripsPadding = true ∨ acsPadded e = false →
      buildAcsMap treeVariant names e = buildAcsMap .stripped names e) ∧
    (Gen.acsStripsPadding = false ∨ acsPadded e = false →
      buildAcsMap treeVariant names e = buildAcsMap .repaired names e) := by
  rw [tree_variant_repaired]
  cases Gen.acsStripsPadding
  · exact ⟨fun h => (buildAcsMap_stripped names (h.resolve_left nofun)).symm, fun _ => rfl⟩
  · exact ⟨fun _ => rfl, fun h => buildAcsMap_stripped names (h.resolve_left nofun)⟩

/-! #### the database

`buildAcsMap` reads three fields of a description, and many entries agree on them: the kernel evaluates each statement
once per distinct triple. -/

structure AcsKey where
  altChars : Bytes
  enterAcs : Bytes
  exitAcs : Bytes
deriving DecidableEq

def acsKey (e : Terminfo) : AcsKey := { altChars := e.altChars, enterAcs := e.enterAcs, exitAcs := e.exitAcs }
def AcsKey.entry (k : AcsKey) : Terminfo := { altChars := k.altChars, enterAcs := k.enterAcs, exitAcs := k.exitAcs }

theorem all_of_eraseDups {α κ : Type} [BEq κ] [LawfulBEq κ] (f : α → κ) (p : κ → Bool) {l : List α}
    (h : (l.map f).eraseDups.all p = true) {a : α} (ha : a ∈ l) : p (f a) = true :=
  List.all_eq_true.1 h _ (List.mem_eraseDups.2 (List.mem_map_of_mem ha))

/-- the model variant `.repaired` (/repo 1c34022 … before the padding repair), whatever the tree: for every entry and every
listed, named pair `(n, d)` the map sends the rune named `n` to `EnterAcs ++ [d] ++ ExitAcs` -/
theorem acs_map_spec_repaired :
    ∀ e ∈ Gen.db, acsSpecOn .repaired Gen.vtACSNames e (pairs e.altChars) = true := fun _ he =>
  all_of_eraseDups acsKey (fun k => acsSpecOn .repaired Gen.vtACSNames k.entry (pairs k.altChars)) (by decide +kernel) he

/-- **acs_map_spec** (current tree): for EVERY entry of the regenerated database and EVERY pair `(n, d)` of
its `AltChars` with `n ∈ vtACSNames` – the last pair and terminal characters ≥ 0x80 included –
`acs (rune n) = EnterAcs ++ [d] ++ ExitAcs`, for the `buildAcsMap` of the tree under test.  Holds since /repo 1c34022;
on the pinned tree only `acs_map_spec_pinned_extent` held (witnesses `acs_map_spec_pinned_fails`,
`acs_map_pinned_high_byte`).  `EnterAcs`/`ExitAcs` are the capability strings as the database has them, i.e. including
any `$<n>` padding; on a tree that removes the padding (`Gen.acsStripsPadding`) this reading is therefore stated for the
entries without padding only — what reaches the terminal, for EVERY entry, is the subject of `acs_map_wire` below. -/
theorem acs_map_spec :
    ∀ e ∈ Gen.db, (Gen.acsStripsPadding = false ∨ acsPadded e = false) →
      acsSpecOn treeVariant Gen.vtACSNames e (pairs e.altChars) = true := by
  intro e he h
  have := acs_map_spec_repaired e he
  unfold acsSpecOn at this ⊢
  rwa [(tree_map _).2 h]

/-- the entries with padding in smacs/rmacs: vt220 and vt420.  (A fact about the database; together with
`acs_wire_unstripped_extent` it says which entries the finding `C17-acs-padding` concerns on a tree WITHOUT
fixes/C17-acs-strip-padding.patch.) -/
theorem acs_padded_entries : (Gen.db.filter acsPadded).map (·.name) = ["vt220", "vt420"] := by decide +kernel

theorem not_padded_of_name {e : Terminfo} (he : e ∈ Gen.db) (h : e.name ≠ "vt220" ∧ e.name ≠ "vt420") :
    acsPadded e = false := by
  cases hp : acsPadded e
  · rfl
  · have := List.mem_map_of_mem (f := (·.name)) (List.mem_filter.2 ⟨he, hp⟩)
    rw [acs_padded_entries] at this
    simp [h.1, h.2] at this

/-- on the two of them the repaired variant is wire-exact and the unrepaired one is not -/
theorem acs_wire_padded :
    ∀ e ∈ Gen.db.filter acsPadded, acsWireOn .stripped Gen.vtACSNames e (pairs e.altChars) = true ∧
      acsWireOn .repaired Gen.vtACSNames e (pairs e.altChars) = false := by decide +kernel

/-- **acs_map_wire, repaired variant**: for the model variant with fixes/C17-acs-strip-padding.patch, EVERY database entry,
every listed pair, no exception, whatever the tree under test (it is what `acs_map_wire` reduces to on a patched tree). -/
theorem acs_map_wire_stripped :
    ∀ e ∈ Gen.db, acsWireOn .stripped Gen.vtACSNames e (pairs e.altChars) = true := by
  intro e he
  cases h : acsPadded e
  · have := acs_map_spec_repaired e he
    rw [acsWireOn_of_not_padded _ _ h]
    unfold acsSpecOn at this ⊢
    rwa [buildAcsMap_stripped _ h]
  · exact (acs_wire_padded e (List.mem_filter.2 ⟨he, h⟩)).1

/-- **acs_map_wire** (the property's reading; current tree): the string `drawCell` writes for the glyph (it is written with
`writeString`, not `TPuts`: tscreen.go encodeRune/drawCell) is byte for byte what the terminal must receive —
on a tree with fixes/C17-acs-strip-padding.patch (`Gen.acsStripsPadding = true`: the hypothesis is trivially true) for
EVERY database entry and every listed pair, with no exception; on a tree without it for every entry other than vt220 and
vt420 (for those two the statement is then FALSE: `acs_wire_padded_fails`, finding `C17-acs-padding`, oracle class
`acs-padding-literal`). -/
theorem acs_map_wire :
    ∀ e ∈ Gen.db, (Gen.acsStripsPadding = true ∨ (e.name ≠ "vt220" ∧ e.name ≠ "vt420")) →
      acsWireOn treeVariant Gen.vtACSNames e (pairs e.altChars) = true := by
  intro e he h
  have := acs_map_wire_stripped e he
  unfold acsWireOn at this ⊢
  rwa [(tree_map _).1 (h.imp_right (not_padded_of_name he))]

/-- the premise of `acs_map_wire` is satisfiable on either tree (xterm), and the entries it may exclude exist (vt220) -/
example : (∃ e ∈ Gen.db, e.name = "xterm" ∧ (Gen.acsStripsPadding = true ∨ (e.name ≠ "vt220" ∧ e.name ≠ "vt420")) ∧
      (pairs e.altChars).length ≥ 20) ∧ (∃ e ∈ Gen.db, e.name = "vt220" ∧ acsPadded e = true) := by decide +kernel

/-- the repair changes nothing but the padding: on every entry without padding in smacs/rmacs the two variants build the
same map -/
theorem acs_strip_conservative :
    ∀ e ∈ Gen.db, acsPadded e = false → buildAcsMap .stripped Gen.vtACSNames e = buildAcsMap .repaired Gen.vtACSNames e :=
  fun _ _ h => buildAcsMap_stripped _ h

/-- the unrepaired variant (`.repaired` = /repo before fixes/C17-acs-strip-padding.patch) is wire-exact on precisely the
entries without padding: the extent of the finding `C17-acs-padding` -/
theorem acs_wire_unstripped_extent :
    ∀ e ∈ Gen.db, acsWireOn .repaired Gen.vtACSNames e (pairs e.altChars) = !acsPadded e := by
  intro e he
  cases h : acsPadded e
  · rw [acsWireOn_of_not_padded _ _ h]
    exact acs_map_spec_repaired e he
  · exact (acs_wire_padded e (List.mem_filter.2 ⟨he, h⟩)).2

/-- counterexample for the model variant WITHOUT the padding repair (whatever the tree): on vt220 the
horizontal-line glyph is written as `ESC ( 0 $ < 2 > q ESC ( B $ < 4 >`; the repaired variant writes `ESC ( 0 q ESC ( B`. -/
theorem acs_wire_padded_fails :
    ∃ e ∈ Gen.db, e.name = "vt220" ∧ acsWireOn .repaired Gen.vtACSNames e (pairs e.altChars) = false ∧
      (buildAcsMap .repaired Gen.vtACSNames e).get? 9472 = some [27, 40, 48, 36, 60, 50, 62, 113, 27, 40, 66, 36, 60, 52, 62] ∧
      acsWire e 113 = [27, 40, 48, 113, 27, 40, 66] ∧
      (buildAcsMap .stripped Gen.vtACSNames e).get? 9472 = some [27, 40, 48, 113, 27, 40, 66] := by
  decide +kernel

/-! #### "always occupying the cell's width": the ACS string on the reference terminal -/

/-- the reference ECMA-48 terminal (`Spec.Ecma48`, 8-bit locale, 40 columns, cursor at the origin) after receiving `s` -/
def acsTerm (e : Terminfo) (s : Bytes) : Spec.Ecma48.Term :=
  ((Spec.Ecma48.Term.init { w := 40, h := 2, utf8 := false, ffClears := (e.clear == [12]) }).feed s).finish

/-- the string shows ONE glyph and leaves the terminal as it was: no complaint of the strict tokenizer, the cursor one cell
to the right of where it was, every mode register (G0/G1 designation, shift state, alternate font, …) back at its value -/
def oneCell (e : Terminfo) (s : Bytes) : Bool :=
  let t := acsTerm e s
  t.malformed.isEmpty && t.cx == 1 && t.cy == 0 && !t.pendingWrap && t.modes == (acsTerm e []).modes

/-- ECMA-48 family (the scope of the reference terminal): cursor addressing starts with CSI -/
def isEcma (e : Terminfo) : Bool := match e.setCursor with | 27 :: 91 :: _ => true | _ => false

/-- for every listed, named pair whose terminal character is a graphic byte, the map's string for the rune occupies one cell -/
def acsOneCellOn (v : EncVariant) (names : List (Nat × Rune)) (e : Terminfo) (ps : List (Nat × Nat)) : Bool :=
  ps.all fun p =>
    match names.find? (fun q => q.1 == p.1) with
    | some (_, r) =>
      if p.2 < 32 || p.2 == 127 then true
      else match (buildAcsMap v names e).get? r with
        | some a => oneCell e a
        | none => false
    | none => true

/-- what `acsOneCellOn` reads of a description: the three fields of the map, and whether `clear` is a form feed -/
def glyphKey (e : Terminfo) : AcsKey × Bool := (acsKey e, e.clear == [12])
def glyphEntry (k : AcsKey × Bool) : Terminfo := { k.1.entry with clear := if k.2 then [12] else [] }

theorem acsOneCellOn_glyphEntry (v : EncVariant) (names : List (Nat × Rune)) (e : Terminfo) (ps : List (Nat × Nat)) :
    acsOneCellOn v names (glyphEntry (glyphKey e)) ps = acsOneCellOn v names e ps := by
  have : ((glyphEntry (glyphKey e)).clear == [12]) = (e.clear == [12]) := by
    show ((if e.clear == [12] then [12] else []) == [12]) = _
    cases e.clear == [12] <;> rfl
  unfold acsOneCellOn oneCell acsTerm
  rw [this]
  rfl

/-- the repaired model variant, whatever the tree: on every ECMA entry, no exception, the string of every listed pair whose
terminal character is a graphic byte occupies one cell of the reference terminal (`oneCell`) -/
theorem acs_glyph_one_cell_stripped :
    (Gen.db.filter isEcma).all (fun e => acsOneCellOn .stripped Gen.vtACSNames e (pairs e.altChars)) = true := by
  rw [List.all_eq_true]
  intro e he
  rw [← acsOneCellOn_glyphEntry]
  exact all_of_eraseDups glyphKey (fun k => acsOneCellOn .stripped Gen.vtACSNames (glyphEntry k) (pairs k.1.altChars))
    (by decide +kernel) he

/-- **acs_glyph_one_cell** (the property's "always occupying the cell's width", ACS branch; tree under test): on a tree with
fixes/C17-acs-strip-padding.patch, for EVERY ECMA-48-family entry of the database and every listed pair whose terminal
character is a graphic byte, the string written for the glyph moves the reference terminal's cursor by exactly one cell,
raises no complaint and restores every mode; on a tree without the repair the same for every entry but vt220 and vt420.
(Pairs whose terminal character is a C0 byte — the PC-font positions of ansi, cygwin, pcansi — are outside the reference
terminal's scope: `C09.acs_pc_font_controls`.) -/
theorem acs_glyph_one_cell :
    (Gen.db.filter isEcma).all (fun e =>
      (Gen.acsStripsPadding || (e.name != "vt220" && e.name != "vt420")) →
        acsOneCellOn treeVariant Gen.vtACSNames e (pairs e.altChars)) = true := by
  rw [List.all_eq_true]
  intro e he
  have hs := List.all_eq_true.1 acs_glyph_one_cell_stripped e he
  rw [decide_eq_true_eq]
  intro h
  unfold acsOneCellOn at hs ⊢
  rwa [(tree_map _).1 ((by simpa using h : _ ∨ _).imp_right (not_padded_of_name (List.mem_filter.1 he).1))]

/-- pinned counterexample (variant without the padding repair): on vt220 the horizontal line occupies NINE cells — the glyph
and the eight characters of `$<2>` `$<4>` (the first four of them shown in the special-graphics set) -/
theorem acs_glyph_unstripped_nine_cells :
    ∃ e ∈ Gen.db, e.name = "vt220" ∧ acsOneCellOn .repaired Gen.vtACSNames e (pairs e.altChars) = false ∧
      (acsTerm e [27, 40, 48, 36, 60, 50, 62, 113, 27, 40, 66, 36, 60, 52, 62]).cx = 9 ∧
      (acsTerm e [27, 40, 48, 113, 27, 40, 66]).cx = 1 := by
  decide +kernel

/-- non-vacuity: the database has entries with an ACS map, their pair lists are non-trivial (xterm: 30-odd pairs, all
named), the last pair of xterm (`~~`, bullet) and the ≥ 0x80 character of `ansi` are covered -/
example : (Gen.db.filter (fun e => !(pairs e.altChars).isEmpty)).length ≥ 20 ∧
    (∃ e ∈ Gen.db, e.name = "xterm" ∧ (pairs e.altChars).getLast? = some (126, 126) ∧
      (buildAcsMap treeVariant Gen.vtACSNames e).get? 183 = some [27, 40, 48, 126, 27, 40, 66]) ∧
    (∃ e ∈ Gen.db, e.name = "ansi" ∧ (113, 196) ∈ pairs e.altChars ∧
      (buildAcsMap treeVariant Gen.vtACSNames e).get? 9472 = some [27, 91, 49, 49, 109, 196, 27, 91, 49, 48, 109]) := by
  decide +kernel

/-- On the pinned tree (`for len(acsstr) > 2`) the statement is **false**: the last pair of the xterm entry (`~~`, bullet) is
missing from the map. -/
theorem acs_map_spec_pinned_fails :
    ∃ e ∈ Gen.db, e.name = "xterm" ∧ acsSpecOn .pinned Gen.vtACSNames e (pairs e.altChars) = false ∧
      (buildAcsMap .pinned Gen.vtACSNames e).get? 183 = none ∧
      (buildAcsMap .repaired Gen.vtACSNames e).get? 183 = some [27, 40, 48, 126, 27, 40, 66] := by
  decide +kernel

/-- second defect of the pinned loop: `string(acsstr[1])` UTF-8-encodes a terminal character ≥ 0x80 (entry `ansi`: `q` ↦ 0xC4). -/
theorem acs_map_pinned_high_byte :
    ∃ e ∈ Gen.db, e.name = "ansi" ∧
      (buildAcsMap .pinned Gen.vtACSNames e).get? 9472 = some [27, 91, 49, 49, 109, 195, 132, 27, 91, 49, 48, 109] ∧
      (buildAcsMap .repaired Gen.vtACSNames e).get? 9472 = some [27, 91, 49, 49, 109, 196, 27, 91, 49, 48, 109] := by
  decide +kernel

/-- what held for the PINNED loop (model variant `.pinned`, not the current tree; the extent of the
defect): every pair but the last one of each entry, as long as the terminal's character is below 0x80. -/
theorem acs_map_spec_pinned_extent :
    ∀ e ∈ Gen.db, acsSpecOn .pinned Gen.vtACSNames e ((pairs e.altChars).dropLast.filter (fun p => p.2 < 128)) = true :=
  fun _ he => all_of_eraseDups acsKey
    (fun k => acsSpecOn .pinned Gen.vtACSNames k.entry ((pairs k.altChars).dropLast.filter (fun p => p.2 < 128)))
    (by decide +kernel) he

/-! ### non-vacuity -/

/-- a Latin-1-like encoder: bytes below 0x100 map to themselves, everything else is the substitution byte -/
def exEnc : Encoder := fun r => if 32 ≤ r ∧ r < 256 then { out := [r.toNat] } else { out := [0x1A] }
def exState : EncState := { enc := exEnc, acs := [(9472, [27, 40, 48, 113, 27, 40, 66])], fallback := [(9474, [124]), (9472, [45])] }

example : (exState.cellPayload 80 0 233 [] 1).str = [233] := by decide            -- é: encoded
example : (exState.cellPayload 80 0 9472 [] 1).str = [27, 40, 48, 113, 27, 40, 66] := by decide  -- ─: ACS wins over the fallback
example : (exState.cellPayload 80 0 9474 [] 1).str = [124] := by decide           -- │: fallback
example : (exState.cellPayload 80 0 19990 [] 2).str = [63, 32] := by decide       -- 世: "? "
example : (exState.cellPayload 80 79 19990 [] 2).str = [32] := by decide          -- last column
example : (exState.cellPayload 80 0 97 [769, 233] 1).str = [97, 233] := by decide -- combining U+0301 elided, é kept
example : exState.canDisplay 9472 false = true ∧ exState.canDisplay 9474 false = false ∧ exState.canDisplay 9474 true = true := by decide
example : (exEnc 8364).bad = true ∧ exState.acs.get? 8364 = none := by decide     -- hypotheses of register_takes_effect
example : ((exState.registerFallback 8364 [69]).cellPayload 80 0 8364 [] 1).str = [69] := by decide
example : (((exState.registerFallback 8364 [69]).unregisterFallback 8364).cellPayload 80 0 8364 [] 1).str = [63] := by decide

end Tcell.Props.C17
