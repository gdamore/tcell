/-
C08 — CellBuffer stores what was set and its dirty flag never misses a change.
Property theorems (helpers are in Tcell.Lemmas.Cell), and what the screens built on the buffer (Lemmas/Sim,
Lemmas/WScreen) take from them: `GhostInv`, `QuietStep`, `DirtyLe`.  All statements quantify over every buffer
size, coordinate, rune, combining list, style and, where a history is mentioned, every finite op list.
`rw` is the rune-width function (go-runewidth, regenerated table); nothing here depends on which one.
-/
import Tcell.Model.LockRegion
import Tcell.Lemmas.Cell
namespace Tcell.Props.C08
open Tcell Tcell.Buf

variable (rw : Rune → Int)

/-- In range, SetContent stores rune and combining list as given and the style with the ColorNone merge
(a ColorNone foreground / background keeps the colour the cell had). -/
theorem set_stores (b : Buf) (x y : Int) (m : Rune) (c : List Rune) (s : Style) (h : b.inRange x y) :
    let c' := (b.setContent rw x y m c s).cells x y
    c'.currMain = m ∧ c'.currComb = c ∧
    c'.currStyle = { s with fg := if s.fg = colorNone then (b.cells x y).currStyle.fg else s.fg,
                            bg := if s.bg = colorNone then (b.cells x y).currStyle.bg else s.bg } := by
  simp only [setContent_cells, if_pos h, and_self, if_true, true_and, Cell.store_currMain, Cell.store_currComb,
    Cell.store_currStyle, Style.merge]
  rcases preDirty_cases b x y m c x y with e | e <;> rw [e] <;> simp

/-- GetContent after an in-range SetContent: the stored triple, with a blank of width 1 substituted when
the stored width is 0 or the rune is a C0 control. -/
theorem get_set (b : Buf) (x y : Int) (m : Rune) (c : List Rune) (s : Style) (h : b.inRange x y) :
    let b' := b.setContent rw x y m c s
    let cs := (b'.cells x y).currStyle
    let w := (b'.cells x y).width
    b'.getContent x y = if w = 0 ∨ m < 32 then (32, c, cs, 1) else (m, c, cs, w) := by
  have hs := set_stores rw b x y m c s h
  have hr : (b.setContent rw x y m c s).inRange x y := by simpa [inRange_iff] using h
  simp only [getContent, if_pos hr, hs.1, hs.2.1]

/-- Out-of-range writes are ignored. -/
theorem set_oob_noop (b : Buf) (x y : Int) (m : Rune) (c : List Rune) (s : Style) (h : ¬ b.inRange x y) :
    b.setContent rw x y m c s = b := by simp [setContent, h]

/-- Out-of-range reads return the zero rune with the default style (and width 0). -/
theorem get_oob (b : Buf) (x y : Int) (h : ¬ b.inRange x y) : b.getContent x y = (0, [], {}, 0) := by
  simp [getContent, h]

/-- SetContent changes the content (rune, combining, style), width and lock of no other cell. -/
theorem set_frame (b : Buf) (x y i j : Int) (m : Rune) (c : List Rune) (s : Style) (hne : ¬ (i = x ∧ j = y)) :
    let c' := (b.setContent rw x y m c s).cells i j
    let c0 := b.cells i j
    c'.content = c0.content ∧ c'.width = c0.width ∧ c'.lock = c0.lock := by
  simp only [setContent_cells, hne, if_false]
  split
  · rcases preDirty_cases b x y m c i j with e | e <;> rw [e] <;> simp
  · simp

/-- SetContent never changes the size. -/
theorem set_size (b : Buf) (x y : Int) (m : Rune) (c : List Rune) (s : Style) :
    (b.setContent rw x y m c s).size = b.size := by
  simp [size]

/-- Fill stores the rune with no combining runes in every cell, merging ColorNone per cell. -/
theorem fill_spec (b : Buf) (r : Rune) (s : Style) (x y : Int) :
    let c' := (b.fill r s).cells x y
    c'.currMain = r ∧ c'.currComb = [] ∧ c'.width = 1 ∧
    c'.currStyle = { s with fg := if s.fg = colorNone then (b.cells x y).currStyle.fg else s.fg,
                            bg := if s.bg = colorNone then (b.cells x y).currStyle.bg else s.bg } := by
  simp [Cell.filled, Style.merge]

/-- Fill of either tree stores a rune with no combining runes and width 1 in every cell, merging ColorNone per cell;
the rune is the one given, except that the repaired tree stores a blank for a zero-width rune. -/
theorem fillV_spec (fz : Bool) (b : Buf) (r : Rune) (s : Style) (x y : Int) :
    let c' := (b.fillV fz rw r s).cells x y
    c'.currMain = (if fz = true ∧ rw r = 0 then 32 else r) ∧ c'.currComb = [] ∧ c'.width = 1 ∧
    c'.currStyle = { s with fg := if s.fg = colorNone then (b.cells x y).currStyle.fg else s.fg,
                            bg := if s.bg = colorNone then (b.cells x y).currStyle.bg else s.bg } := by
  simp [Cell.filled, Cell.fillRune, Style.merge]

/-- **GetContent after the repaired Fill**, for EVERY rune (zero-width, control, wide, out of range): the rune with
a blank substituted exactly as after SetContent (`get_set`), no combining runes, the merged style, width 1. -/
theorem get_fill_repaired (b : Buf) (r : Rune) (s : Style) (x y : Int) (hr : b.inRange x y) :
    (b.fillV true rw r s).getContent x y =
      (if rw r = 0 ∨ r < 32 then 32 else r, [], (b.cells x y).currStyle.merge s, 1) := by
  have hr' : (b.fillV true rw r s).inRange x y := by simpa [inRange_iff] using hr
  simp only [getContent, if_pos hr', fillV_cells, Cell.filled]
  by_cases h0 : rw r = 0
  · simp [Cell.fillRune_true_zero rw r h0, h0]
  · by_cases h1 : r < 32 <;> simp [Cell.fillRune_ne0 true rw r h0, h0, h1]

/-- …whereas the pinned Fill hands back a zero-width rune at or above ' ' unblanked (the defect `C08-fill-zero-width` /
`C09-fill-control`; concrete instance: `Tcell.Props.C09.fill_c1_not_blank`). -/
theorem get_fill_pinned (b : Buf) (r : Rune) (s : Style) (x y : Int) (hr : b.inRange x y) :
    (b.fill r s).getContent x y = (if r < 32 then 32 else r, [], (b.cells x y).currStyle.merge s, 1) := by
  have hr' : (b.fill r s).inRange x y := by simpa [inRange_iff] using hr
  simp only [getContent, if_pos hr', fill_cells, Cell.filled]
  by_cases h1 : r < 32 <;> simp [h1]

/-- Resize preserves the content of the overlapping region and yields exactly the requested size. -/
theorem resize_overlap (b : Buf) (w h x y : Int) (hx : 0 ≤ x) (hy : 0 ≤ y)
    (h1 : x < w) (h2 : y < h) (h3 : x < b.w) (h4 : y < b.h) :
    ((b.resize w h).cells x y).content = (b.cells x y).content ∧
    ((b.resize w h).cells x y).width = (b.cells x y).width ∧ (b.resize w h).size = (w, h) := by
  have hin : 0 ≤ x ∧ 0 ≤ y ∧ x < w ∧ y < h ∧ x < b.w ∧ y < b.h := ⟨hx, hy, h1, h2, h3, h4⟩
  rw [resize_cells_eq, if_pos hin]
  split <;> simp [size, resize_w, resize_h]

/-- Cells that an effective Resize adds are empty (zero rune, default style). -/
theorem resize_new_cells (b : Buf) (w h x y : Int) (hne : ¬ (b.h = h ∧ b.w = w)) (hnew : ¬ (x < b.w ∧ y < b.h)) :
    ((b.resize w h).cells x y).content = (0, [], {}) := by
  rw [resize_cells _ _ _ _ _ hne]
  have : ¬ (0 ≤ x ∧ 0 ≤ y ∧ x < w ∧ y < h ∧ x < b.w ∧ y < b.h) := by omega
  simp [this, Cell.content]

/-! ### the two trees

`Buf.applyV fz` / `Buf.runV fz` / `runGhostV fz` are the op semantics of the tree of variant `fz` (`fz = false`: pinned,
Fill stores every rune as given; `fz = true`: Fill repaired by fixes/C09-fill-zero-width.patch stores a blank for a
zero-width rune; width 1 on both).  Theorems about histories are proved for both at once; those stated for
`apply` / `run` / `runGhost` are the instance `fz = false`. -/

theorem runV_false (ops : List CbOp) (b : Buf) : Buf.runV false rw b ops = Buf.run rw b ops := by
  induction ops generalizing b with
  | nil => rfl
  | cons op ops ih =>
    show Buf.runV false rw (b.applyV false rw op) ops = Buf.run rw (b.apply rw op) ops
    rw [applyV_false]; exact ih _

/-- Width invariant of a cell: the stored width is that of the stored rune, or the cell was normalised
from the zero rune to a blank by SetDirty(false), or it was written by Fill (width 1 by fiat). -/
def WidthOk (c : Cell) : Prop := c.width = rw c.currMain ∨ (c.width = 0 ∧ c.currMain = 32) ∨ c.width = 1

/-- `WidthOk` without its "written by Fill" disjunct: the stored width is that of the stored rune, or the cell was
normalised from the zero rune to a blank by SetDirty(false) -/
def WidthExact (c : Cell) : Prop := c.width = rw c.currMain ∨ (c.width = 0 ∧ c.currMain = 32)

theorem widthOk_iff (c : Cell) : WidthOk rw c ↔ WidthExact rw c ∨ c.width = 1 := or_assoc.symm

/-- SetDirty(false) turns the zero rune into a blank; the width it was stored with (`rw 0 = 0`) stays -/
theorem widthExact_markClean (h0 : rw 0 = 0) (c : Cell) (h : WidthExact rw c) : WidthExact rw c.markClean := by
  simp only [WidthExact, Cell.markClean_width, Cell.markClean_currMain] at h ⊢
  by_cases hz : c.currMain = 0
  · rw [hz, h0] at h; simp only [hz, if_true]; exact .inr ⟨h.elim id And.left, trivial⟩
  · simpa only [hz, if_false] using h

theorem widthExact_closed (h0 : rw 0 = 0) : Cell.Closed (WidthExact rw) where
  fresh := .inl h0.symm
  carry _ h := h
  markDirty _ h := h
  markClean := widthExact_markClean rw h0
  setLock _ _ h := h

theorem widthOk_closed (h0 : rw 0 = 0) : Cell.Closed (WidthOk rw) where
  fresh := .inl h0.symm
  carry _ h := h
  markDirty _ h := h
  markClean c h := (widthOk_iff rw _).2 (((widthOk_iff rw c).1 h).imp (widthExact_markClean rw h0 c) id)
  setLock _ _ h := h

/-- For every history, every cell satisfies `WidthOk`, given `rw 0 = 0`
(a generated obligation on the regenerated width table). -/
theorem width_inv (h0 : rw 0 = 0) (ops : List CbOp) (x y : Int) :
    WidthOk rw ((Buf.run rw Buf.empty ops).cells x y) := by
  rw [← runV_false]
  refine runV_cells (widthOk_closed rw h0) false rw ops (fun op _ c h => ?_) _ (fun _ _ => .inl h0.symm) x y
  cases op with
  | setContent _ _ m cc s => exact Cell.store_width_rune (Q := fun w m => w = rw m ∨ (w = 0 ∧ m = 32) ∨ w = 1) rw c m cc s (.inl rfl) h
  | fill => exact .inr (.inr rfl)
  | _ => exact h

/-- side condition of the reported-width law on an op: Fill is used with a rune of width 1 — or, on the repaired
tree, of width 0 (with `0 ≤ rw r`: with a rune *not wider than 1*, see `fillOk_repaired_iff`) -/
def FillOk (fz : Bool) : CbOp → Prop
  | .fill r _ => rw r = 1 ∨ (fz = true ∧ rw r = 0)
  | _ => True

theorem fillOk_repaired_iff (r : Rune) (s : Style) (hnn : 0 ≤ rw r) : FillOk rw true (.fill r s) ↔ rw r ≤ 1 := by
  simp only [FillOk, true_and]; omega

theorem widthExact_write (fz : Bool) (h32 : rw 32 = 1) {op : CbOp} (hop : FillOk rw fz op) {c : Cell}
    (h : WidthExact rw c) : WidthExact rw (op.write fz rw c) := by
  cases op with
  | setContent _ _ m cc s => exact Cell.store_width_rune (Q := fun w m => w = rw m ∨ (w = 0 ∧ m = 32)) rw c m cc s (.inl rfl) h
  | fill r s =>
    refine .inl ?_
    show (1 : Int) = rw (Cell.fillRune fz rw r)
    rcases hop with h | ⟨rfl, h⟩
    · rw [Cell.fillRune_ne0 fz rw r (by omega), h]
    · rw [Cell.fillRune_true_zero rw r h, h32]
  | _ => exact h

theorem widthExact_inv (fz : Bool) (h0 : rw 0 = 0) (h32 : rw 32 = 1) (ops : List CbOp) (hops : ∀ op ∈ ops, FillOk rw fz op)
    (x y : Int) : WidthExact rw ((Buf.runV fz rw Buf.empty ops).cells x y) :=
  runV_cells (widthExact_closed rw h0) fz rw ops (fun op hm _ => widthExact_write rw fz h32 (hops op hm)) _
    (fun _ _ => .inl h0.symm) x y

/-- Reported width: for a cell not last written by Fill, GetContent's width is that of the rune, and a
blank of width 1 stands in for zero-width and control runes (`rw 32 = 1` is a generated obligation). -/
theorem reported_width (h32 : rw 32 = 1) (b : Buf) (x y : Int) (hr : b.inRange x y)
    (hw : (b.cells x y).width = rw (b.cells x y).currMain ∨ ((b.cells x y).width = 0 ∧ (b.cells x y).currMain = 32)) :
    ((b.getContent x y).2.2.2 =
      if rw (b.cells x y).currMain = 0 ∨ (b.cells x y).currMain < 32 then 1 else rw (b.cells x y).currMain) ∧
    ((b.getContent x y).1 =
      if rw (b.cells x y).currMain = 0 ∨ (b.cells x y).currMain < 32 then 32 else (b.cells x y).currMain) := by
  simp only [getContent, if_pos hr]
  rcases hw with hw | ⟨hw, hm⟩
  · rw [hw]; split <;> simp_all
  · simp [hw, hm, h32]

/-- **The reported-width law, full strength, on either tree.**  After every history in which Fill is used with runes
of width 1 — on the repaired tree: with runes *not wider than one column*, zero-width, control and invalid ones
included (`fillOk_repaired_iff`) — GetContent of every in-range cell reports the width of the stored rune `m`, i.e.
`max 1 (rw m)`, with a blank of width 1 standing in for zero-width and control runes.  (Fill with a wide rune is
outside Fill's documented domain on both trees: it records width 1.) -/
theorem reported_width_law (fz : Bool) (h0 : rw 0 = 0) (h32 : rw 32 = 1) (ops : List CbOp)
    (hops : ∀ op ∈ ops, FillOk rw fz op) (x y : Int) (hr : (Buf.runV fz rw Buf.empty ops).inRange x y) :
    let b := Buf.runV fz rw Buf.empty ops
    let m := (b.cells x y).currMain
    ((b.getContent x y).2.2.2 = if rw m = 0 ∨ m < 32 then 1 else rw m) ∧
    ((b.getContent x y).1 = if rw m = 0 ∨ m < 32 then 32 else m) :=
  reported_width rw h32 _ x y hr (widthExact_inv rw fz h0 h32 ops hops x y)

/-- The link between the implementation's `last*` fields and the specification ghost. -/
def GhostInv (b : Buf) (g : Ghost) : Prop :=
  ∀ x y, b.inRange x y → (b.cells x y).lastMain ≠ 0 → g x y = some (b.cells x y).last

/-- The ghost forgets a position exactly where the op zeroes `lastMain`, learns the content where SetDirty(false)
copies it into `last*`, and no other step touches `last*`. -/
theorem ghostInv_stepV (fz : Bool) (b : Buf) (g : Ghost) (op : CbOp) (hinv : GhostInv b g) :
    GhostInv (b.applyV fz rw op) (g.step b (b.applyV fz rw op) op) := by
  intro i j hr hl
  cases op with
  | fill r s => exact hinv i j hr hl
  | invalidate => exact absurd rfl hl
  | resize w h =>
    simp only [applyV, Buf.apply, Ghost.step] at hr hl ⊢
    by_cases hh : b.h = h ∧ b.w = w
    · rw [if_pos hh]; obtain ⟨rfl, rfl⟩ := hh; rw [resize_same] at hr hl ⊢; exact hinv i j hr hl
    · rw [resize_cells _ _ _ _ _ hh] at hl; split at hl <;> exact absurd rfl hl
  | lockCell x y =>
    simp only [applyV, Buf.apply, inRange_iff, lockCell_w, lockCell_h] at hr
    simp only [applyV, Buf.apply, Ghost.step, lockCell_cells] at hl ⊢
    by_cases hc : i = x ∧ j = y ∧ b.inRange x y
    · rw [if_pos hc] at hl ⊢; exact hinv i j hr hl
    · rw [if_neg hc] at hl ⊢; exact hinv i j hr hl
  | unlockCell x y =>
    simp only [applyV, Buf.apply, inRange_iff, unlockCell_w, unlockCell_h] at hr
    simp only [applyV, Buf.apply, Ghost.step_unlockCell, unlockCell_cells] at hl ⊢
    by_cases hc : i = x ∧ j = y ∧ b.inRange x y
    · rw [if_pos hc] at hl; exact absurd rfl hl
    · simp only [if_neg hc] at hl ⊢; exact hinv i j hr hl
  | setDirty x y d =>
    simp only [applyV, Buf.apply, inRange_iff, setDirty_w, setDirty_h] at hr
    simp only [applyV, Buf.apply, Ghost.step_setDirty] at hl ⊢
    by_cases hc : i = x ∧ j = y ∧ b.inRange x y
    · obtain ⟨rfl, rfl, hxy⟩ := hc
      cases d
      · simp [setDirty_false_cells, hxy]
      · simp [setDirty_true_cells, hxy] at hl
    · cases d <;> simp only [setDirty_false_cells, setDirty_true_cells, if_neg hc] at hl ⊢ <;> exact hinv i j hr hl
  | setContent x y m c s =>
    simp only [applyV, Buf.apply, inRange_iff, setContent_w, setContent_h] at hr
    simp only [applyV, Buf.apply, Ghost.step_setContent, setContent_cells] at hl ⊢
    by_cases hxy : b.inRange x y
    · -- `store` does not touch `last*`: the cell counts as the one `preDirty` left
      have hl' : ((b.preDirty x y m c).cells i j).lastMain ≠ 0 := by
        rw [if_pos hxy] at hl; split at hl <;> exact hl
      have e : (if i = x ∧ j = y then ((b.preDirty x y m c).cells i j).store rw m c s
          else (b.preDirty x y m c).cells i j).last = ((b.preDirty x y m c).cells i j).last := by split <;> rfl
      rw [if_pos hxy, e]
      by_cases hs : ((b.cells x y).width > 0 ∧ (m ≠ (b.cells x y).currMain ∨ c ≠ (b.cells x y).currComb)) ∧
          j = y ∧ x ≤ i ∧ i < x + (b.cells x y).width
      · rw [preDirty_cells, if_pos ⟨hs.1, hs.2.1, hs.2.2.1, hs.2.2.2, hr⟩] at hl'; exact absurd rfl hl'
      · have e1 : (b.preDirty x y m c).cells i j = b.cells i j := by
          rw [preDirty_cells, if_neg (fun h => hs ⟨h.1, h.2.1, h.2.2.1, h.2.2.2.1⟩)]
        rw [e1] at hl' ⊢; rw [if_neg (fun h => hs h.2)]; exact hinv i j hr hl'
    · simp only [hxy, if_false, false_and] at hl ⊢; exact hinv i j hr hl

theorem ghostInv_step (b : Buf) (g : Ghost) (op : CbOp) (hinv : GhostInv b g) :
    GhostInv (b.apply rw op) (g.step b (b.apply rw op) op) := by
  have := ghostInv_stepV rw false b g op hinv
  rwa [applyV_false] at this

theorem ghostInv_of_lastMain {b : Buf} (h : ∀ x y, (b.cells x y).lastMain = 0) (g : Ghost) : GhostInv b g :=
  fun x y _ hl => absurd (h x y) hl

theorem resize_lastMain (b : Buf) (w h : Int) (hb : b.h = h ∧ b.w = w → ∀ x y, (b.cells x y).lastMain = 0) (x y : Int) :
    ((b.resize w h).cells x y).lastMain = 0 := by
  rw [resize_cells_eq]; split
  · exact hb ‹_› x y
  · split <;> rfl

/-- `b'` comes from `b` by steps that keep the size and the cell predicate `P` and under which the ghost only forgets -/
structure QuietStep (P : Cell → Prop) (b b' : Buf) : Prop where
  w : b'.w = b.w
  h : b'.h = b.h
  cells : (∀ x y, P (b.cells x y)) → ∀ x y, P (b'.cells x y)
  ghost : ∀ g, GhostInv b g → ∃ g', GhostInv b' g' ∧ ∀ x y c, g' x y = some c → g x y = some c

section
variable {P : Cell → Prop}

theorem QuietStep.refl (b : Buf) : QuietStep P b b := ⟨rfl, rfl, id, fun g hg => ⟨g, hg, fun _ _ _ => id⟩⟩

theorem QuietStep.trans {b1 b2 b3 : Buf} (h1 : QuietStep P b1 b2) (h2 : QuietStep P b2 b3) : QuietStep P b1 b3 := by
  refine ⟨h2.w.trans h1.w, h2.h.trans h1.h, h2.cells ∘ h1.cells, fun g hg => ?_⟩
  obtain ⟨ga, hga, la⟩ := h1.ghost g hg
  obtain ⟨gb, hgb, lb⟩ := h2.ghost ga hga
  exact ⟨gb, hgb, fun x y c h => la x y c (lb x y c h)⟩

theorem quiet_applyV (hP : Cell.Closed P) (fz : Bool) (b : Buf) {op : CbOp} (hq : op.Quiet)
    (hw : ∀ c, P c → P (op.write fz rw c)) : QuietStep P b (b.applyV fz rw op) :=
  ⟨(applyV_size fz rw b hq).1, (applyV_size fz rw b hq).2, applyV_cells hP fz rw b op hw,
    fun g hg => ⟨_, ghostInv_stepV rw fz b g op hg, Ghost.step_forgets g b _ hq⟩⟩

theorem quiet_apply (hP : Cell.Closed P) (b : Buf) {op : CbOp} (hq : op.Quiet)
    (hw : ∀ c, P c → P (op.write false rw c)) : QuietStep P b (b.apply rw op) :=
  applyV_false rw b op ▸ quiet_applyV rw hP false b hq hw

/-- LockCell, UnlockCell and SetDirty never consult the width function, so any stands in for it -/
theorem quiet_lockSteps (hP : Cell.Closed P) (b : Buf) (lock : Bool) : LockSteps lock (QuietStep P b) :=
  ⟨fun _ _ x y h => h.trans (quiet_apply (fun _ => 0) hP _ (op := .lockCell x y) trivial fun _ h => h),
   fun _ _ x y h => h.trans (quiet_apply (fun _ => 0) hP _ (op := .unlockCell x y) trivial fun _ h => h),
   fun _ _ x y h => h.trans (quiet_apply (fun _ => 0) hP _ (op := .setDirty x y true) trivial fun _ h => h)⟩

theorem quiet_lockRow (hP : Cell.Closed P) (b : Buf) (x y : Int) (lock : Bool) (n : Nat) :
    QuietStep P b (lockRow b x y lock n) :=
  (quiet_lockSteps hP b lock).lockRow (.refl b) x y n

theorem quiet_lockRowsG (hP : Cell.Closed P) (b : Buf) (x y w : Int) (lock : Bool) (m : Nat) :
    QuietStep P b (lockRowsG b x y w lock m) :=
  (quiet_lockSteps hP b lock).lockRowsG (.refl b) x y w m

end

theorem ghostInv_runV (fz : Bool) (ops : List CbOp) (b : Buf) (g : Ghost) (h : GhostInv b g) :
    GhostInv (runGhostV fz rw (b, g) ops).1 (runGhostV fz rw (b, g) ops).2 := by
  induction ops generalizing b g with
  | nil => exact h
  | cons op ops ih => simp only [runGhostV]; exact ih _ _ (ghostInv_stepV rw fz b g op h)

theorem runGhost_fst (ops : List CbOp) (b : Buf) (g : Ghost) : (runGhost rw (b, g) ops).1 = Buf.run rw b ops := by
  induction ops generalizing b g with
  | nil => rfl
  | cons op ops ih => simp only [runGhost, Buf.run, List.foldl_cons]; exact ih _ _

theorem runGhostV_false (ops : List CbOp) (s : Buf × Ghost) : runGhostV false rw s ops = runGhost rw s ops := by
  induction ops generalizing s with
  | nil => rfl
  | cons op ops ih => simp only [runGhostV, runGhost, applyV_false]; exact ih _

/-- **Dirty never misses a change, on either tree.**  After any history from the empty buffer, if an in-range unlocked
cell is reported clean, the observer's snapshot from the last time it was marked clean exists and equals
the present rune, combining runes and style.  Contrapositive: content differing from what it was when
last marked clean — or an Invalidate / effective Resize / unlock / forced-dirty / wide-rune change over
that column since — makes Dirty true. -/
theorem dirty_soundV (fz : Bool) (ops : List CbOp) (x y : Int) :
    let s := runGhostV fz rw (Buf.empty, Ghost.none) ops
    s.1.inRange x y → (s.1.cells x y).lock = false → s.1.dirty x y = false →
      s.2 x y = some (s.1.cells x y).content := by
  intro s hr hl hd
  have hinv : GhostInv s.1 s.2 := ghostInv_runV rw fz ops _ _ (fun x y hr => by simp [Buf.empty, inRange_iff] at hr; omega)
  simp only [dirty, if_pos hr] at hd
  rw [Cell.isDirty_false_iff _ hl] at hd
  rw [hinv x y hr hd.1, hd.2]

/-- `dirty_soundV` on the pinned tree. -/
theorem dirty_sound (ops : List CbOp) (x y : Int) :
    let s := runGhost rw (Buf.empty, Ghost.none) ops
    s.1.inRange x y → (s.1.cells x y).lock = false → s.1.dirty x y = false →
      s.2 x y = some (s.1.cells x y).content := by
  simpa only [runGhostV_false] using dirty_soundV rw false ops x y

/-- Right after SetDirty(x,y,false) the cell is reported clean. -/
theorem clean_after_setDirty_false (b : Buf) (x y : Int) : (b.setDirty x y false).dirty x y = false := by
  unfold dirty
  split
  · rename_i h
    have h' : b.inRange x y := by simpa [inRange_iff] using h
    simp only [setDirty_false_cells, h', and_self, if_true]
    cases hl : (b.cells x y).markClean.lock
    · rw [Cell.isDirty_false_iff _ hl]; exact ⟨Cell.markClean_lastMain_ne _, by simp⟩
    · unfold Cell.isDirty; rw [hl]; rfl
  · rfl

def DirtyLe (b' b : Buf) : Prop := ∀ i j, b'.dirty i j = true → b.dirty i j = true

theorem DirtyLe.refl (b : Buf) : DirtyLe b b := fun _ _ h => h

theorem DirtyLe.trans {a b c : Buf} (h1 : DirtyLe a b) (h2 : DirtyLe b c) : DirtyLe a c := fun i j h => h2 i j (h1 i j h)

theorem DirtyLe.clean {b' b : Buf} (h : DirtyLe b' b) {i j : Int} (hc : b.dirty i j = false) : b'.dirty i j = false := by
  cases hd : b'.dirty i j
  · rfl
  · rw [h i j hd] at hc; cases hc

theorem setDirty_false_dirtyLe (b : Buf) (x y : Int) : DirtyLe (b.setDirty x y false) b := by
  intro i j h
  by_cases hxy : i = x ∧ j = y
  · obtain ⟨rfl, rfl⟩ := hxy
    rw [clean_after_setDirty_false] at h; cases h
  · simp only [dirty, inRange_iff, setDirty_w, setDirty_h, setDirty_false_cells,
      if_neg (fun hh : i = x ∧ j = y ∧ _ => hxy ⟨hh.1, hh.2.1⟩)] at h ⊢
    exact h

/-- A locked cell is reported clean whatever its content. -/
theorem locked_reports_clean (b : Buf) (x y : Int) (h : (b.cells x y).lock = true) : b.dirty x y = false := by
  unfold dirty; split <;> simp [Cell.isDirty, h]

/-- `lastMain = 0` is the "needs repaint" sentinel: an unlocked in-range cell carrying it is dirty. -/
theorem dirty_of_lastMain_zero {b : Buf} {x y : Int} (hr : b.inRange x y) (hl : (b.cells x y).lock = false)
    (h0 : (b.cells x y).lastMain = 0) : b.dirty x y = true := by
  simp [dirty, hr, Cell.isDirty, hl, h0]

/-- After Invalidate every unlocked in-range cell is dirty. -/
theorem dirty_after_invalidate (b : Buf) (x y : Int) (hr : b.inRange x y) (hl : (b.cells x y).lock = false) :
    b.invalidate.dirty x y = true :=
  dirty_of_lastMain_zero (b := b.invalidate) hr hl rfl

/-- After an effective Resize every in-range cell is dirty (and unlocked). -/
theorem dirty_after_resize (b : Buf) (w h x y : Int) (hne : ¬ (b.h = h ∧ b.w = w))
    (hr : (b.resize w h).inRange x y) : (b.resize w h).dirty x y = true := by
  apply dirty_of_lastMain_zero hr <;> rw [resize_cells _ _ _ _ _ hne] <;> split <;> rfl

/-- After UnlockCell the cell is dirty. -/
theorem dirty_after_unlock (b : Buf) (x y : Int) (hr : b.inRange x y) : (b.unlockCell x y).dirty x y = true := by
  have hc : (b.unlockCell x y).cells x y = ((b.cells x y).setLock false).markDirty := by
    rw [unlockCell_cells, if_pos ⟨rfl, rfl, hr⟩]
  apply dirty_of_lastMain_zero (by simpa [inRange_iff] using hr) <;> rw [hc] <;> rfl

/-- Changing the rune or combining list of a cell of (old) width k dirties every in-range, unlocked
column x … x+k−1 it covered. -/
theorem wide_change_dirties_span (b : Buf) (x y i : Int) (m : Rune) (c : List Rune) (s : Style)
    (hr : b.inRange x y) (hchg : m ≠ (b.cells x y).currMain ∨ c ≠ (b.cells x y).currComb)
    (hi : x ≤ i ∧ i < x + (b.cells x y).width) (hir : b.inRange i y) (hl : (b.cells i y).lock = false) :
    (b.setContent rw x y m c s).dirty i y = true := by
  have hpre : (b.preDirty x y m c).cells i y = (b.cells i y).markDirty := by
    rw [preDirty_cells, if_pos ⟨⟨by omega, hchg⟩, rfl, hi.1, hi.2, hir⟩]
  apply dirty_of_lastMain_zero (by simpa [inRange_iff] using hir) <;>
    rw [setContent_cells, if_pos hr, hpre] <;> split <;> first | rfl | exact hl

/-! ### non-vacuity: a concrete 3×2 buffer with a wide rune exercises the hypotheses -/

def rwDemo : Rune → Int := fun r => if r = 0x4e16 then 2 else if r = 0 then 0 else 1

def demoOps : List CbOp :=
  [.resize 3 2, .setContent 0 0 0x4e16 [] {}, .setDirty 0 0 false, .setDirty 1 0 false,
   .setContent 0 0 0x61 [0x301] { fg := colorNone }]

example : (Buf.run rwDemo Buf.empty demoOps).inRange 1 0 := by decide
example : (Buf.run rwDemo Buf.empty demoOps).dirty 1 0 = true := by decide
example : (Buf.run rwDemo Buf.empty demoOps).dirty 0 0 = true := by decide
example : (Buf.run rwDemo Buf.empty (demoOps ++ [.setDirty 0 0 false])).dirty 0 0 = false := by decide
example : ((runGhost rwDemo (Buf.empty, Ghost.none) (demoOps ++ [.setDirty 0 0 false])).2 0 0) =
    some (0x61, [0x301], {}) := by decide

/-- the hypotheses of `reported_width_law` are satisfiable on the repaired tree with a zero-width Fill rune, and the two
trees differ exactly there -/
def rwDemoZ : Rune → Int := fun r => if r = 0x4e16 then 2 else if r = 0 ∨ r = 0x200b ∨ r = 0x9b then 0 else 1
def demoFill : List CbOp := [.resize 2 1, .fill 0x200b {}, .setContent 1 0 0x200b [0x301] {}]
example : ∀ op ∈ demoFill, FillOk rwDemoZ true op := by
  intro op h; simp only [demoFill, List.mem_cons, List.not_mem_nil, or_false] at h
  rcases h with h | h | h <;> subst h <;> simp [FillOk, rwDemoZ]
example : (Buf.runV true rwDemoZ Buf.empty demoFill).getContent 0 0 = (32, [], {}, 1) := by decide
example : (Buf.runV true rwDemoZ Buf.empty demoFill).getContent 1 0 = (32, [0x301], {}, 1) := by decide
example : (Buf.runV false rwDemoZ Buf.empty demoFill).getContent 0 0 = (0x200b, [], {}, 1) := by decide
example : (Buf.runV false rwDemoZ Buf.empty demoFill).getContent 1 0 = (0x200b, [0x301], {}, 1) := by decide

end Tcell.Props.C08
