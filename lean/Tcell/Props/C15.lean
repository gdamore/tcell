/-
C15 — TPuts strips only padding; TGoto and TColor are right for every terminal.
Models: Tcell.Model.TPuts (TPuts / TGoto / TColor of terminfo.go:596-675), Tcell.Model.TParm.
References: Tcell.Spec.TermCaps (padding grammar, addressing conventions, SGR decoder).
-/
import Tcell.Lemmas.Cup
import Tcell.Gen.TerminfoDB
namespace Tcell.Props.C15
open Tcell Tcell.TParm Tcell.TPuts Tcell.Spec.TermCaps

/-! ### TPuts -/

/-- `a$<x>b`: the pinned code removes `$<x>` although it is not a padding specification; the reference keeps it and
so does the repaired code (fixes/C15-tputs-nonpadding.patch). -/
theorem tputs_nonpadding_counterexample :
    (tputsV false [] [97,36,60,120,62,98]).bytes = [97,98] ∧
    stripPadding [97,36,60,120,62,98] = [97,36,60,120,62,98] ∧
    (tputsV true [] [97,36,60,120,62,98]).bytes = [97,36,60,120,62,98] := by decide

/-- a well-formed specification is removed by all three: `ESC[H$<5.5*/>x` -/
example : (tputsV false [] [27,91,72,36,60,53,46,53,42,47,62,120]).bytes = [27,91,72,120] ∧
    stripPadding [27,91,72,36,60,53,46,53,42,47,62,120] = [27,91,72,120] ∧
    (tputsV true [0] [27,91,72,36,60,53,46,53,42,47,62,120]) = ⟨[27,91,72,120], [5500000]⟩ := by decide

theorem tputsAux_delays_nil (st : Bool) (f : Nat) (s : Bytes) (o : Out) (h : o.delays = []) :
    (tputsAux st [] f s o).delays = [] := by
  induction f generalizing s o with
  | zero => simpa [tputsAux] using h
  | succ f ih =>
    simp only [tputsAux]
    split
    · simpa using h
    · split
      · simpa using h
      · split
        · exact ih _ _ (by simpa using h)
        · exact ih _ _ (by simpa using h)

/-- TPuts sleeps only when the terminal description has a pad character: with an empty `PadChar` no delay is
ever taken, whatever the string. -/
theorem delay_only_with_padchar (st : Bool) (s : Bytes) : (tputsV st [] s).delays = [] :=
  tputsAux_delays_nil st _ s {} rfl

/-- A string without `$<` is written unchanged. -/
theorem no_marker_identity (st : Bool) (pad s : Bytes) (h : findMarker s = none) : (tputsV st pad s).bytes = s := by
  simp [tputsV, tputsAux, h]

/-- An unterminated `$<…` (no `>` after the first `$<`) is written verbatim, together with everything before it. -/
theorem unterminated_verbatim (st : Bool) (pad s pre post : Bytes) (h : findMarker s = some (pre, post))
    (hg : findGt post = none) : (tputsV st pad s).bytes = s := by
  have := findMarker_split s pre post h
  simp only [tputsV, tputsAux, h, hg]
  simp [this]

example : (tputsV false [] [97,36,60,53]).bytes = [97,36,60,53] :=
  unterminated_verbatim false [] _ [97] [53] (by decide) (by decide)

/-- **`tputs_spec`**: for EVERY byte string `s` and any pad character, the bytes the repaired TPuts (terminfo.go
596-644 at /repo HEAD: `strings.Index` for `$<`, then for `>`, `isPadding`) writes are exactly `s` with every
well-formed padding specification `$< digit+ [. digit*] (*|/)* >` removed, as the grammar-directed reference
`stripPadding` defines it: a `$<…>` whose content is not a padding specification stays, an unterminated `$<` stays,
scanning resumes right after a kept `$<` (so `$<$<5>` loses only the inner specification).  For the pinned code the
statement is false (`tputs_nonpadding_counterexample`). -/
theorem tputs_spec (pad s : Bytes) : (tputsV true pad s).bytes = stripPadding s := by
  have := tputsAux_bytes pad (s.length + 1) s {} (Nat.lt_succ_self _)
  simpa [tputsV] using this

example : (tputsV true [0] [36,60,36,60,53,62,120,36,60,49,46,62,36,60,46,62]).bytes = [36,60,120,36,60,46,62] := by decide

/-- the same for the model variant that mirrors the tree under check -/
theorem tputs_spec_current (pad s : Bytes) : (tputs pad s).bytes = stripPadding s := tputs_spec pad s

/-- what TPuts writes is a subsequence of the string (it only ever removes bytes) -/
theorem output_is_subsequence (pad s : Bytes) : ((tputsV true pad s).bytes).Sublist s := by
  rw [tputs_spec]; exact strip_sublist s

/-- on a terminal with a pad character the delays TPuts sleeps are, in order, those of exactly the padding
specifications the reference grammar recognises (`padSpecs`), each converted by the code's `n[.m]` ms arithmetic
(`delayOf`: digits accumulate, every digit after the dot divides the unit by ten) -/
theorem tputs_delays (pad s : Bytes) (h : pad ≠ []) :
    (tputsV true pad s).delays = (padSpecs s).map delayOf := by
  have hp : pad.isEmpty = false := by cases pad <;> simp_all
  have := tputsAux_delays pad hp (s.length + 1) s {} (Nat.lt_succ_self _)
  simpa [tputsV] using this

example : (tputsV true [0] [97,36,60,53,62,98,36,60,120,62,36,60,49,46,53,42,62]).delays = [5000000, 1500000] ∧
    padSpecs [97,36,60,53,62,98,36,60,120,62,36,60,49,46,53,42,62] = [[53], [49,46,53,42]] := by decide

/-! ### TGoto: closed forms of every distinct SetCursor program of the database -/

/-- `ESC [ %i %p1 %d ; %p2 %d H` -/
def cupAnsi : Bytes := [27,91,37,105,37,112,49,37,100,59,37,112,50,37,100,72]
/-- `ESC & a %p1 %d y %p2 %d C` (hpterm) -/
def cupHp : Bytes := [27,38,97,37,112,49,37,100,121,37,112,50,37,100,67]
/-- `ESC Y %p1 %' ' %+ %c %p2 %' ' %+ %c` (vt52) -/
def cupVt52 : Bytes := [27,89,37,112,49,37,39,32,39,37,43,37,99,37,112,50,37,39,32,39,37,43,37,99]
/-- `ESC = %p1 %' ' %+ %c %p2 %' ' %+ %c` (wy50, wy60) -/
def cupWyse : Bytes := [27,61,37,112,49,37,39,32,39,37,43,37,99,37,112,50,37,39,32,39,37,43,37,99]

/-- the programs the closed forms below cover: ANSI, ANSI with a `$<5>` / `$<10>` padding suffix, HP, VT52, Wyse -/
def knownCup : List Bytes := [cupAnsi, cupAnsi ++ [36,60,53,62], cupAnsi ++ [36,60,49,48,62], cupHp, cupVt52, cupWyse]

/-- the terminal's convention (by name) is the one its SetCursor program implements: after removing padding the
program of every built-in entry is the canonical program of its family -/
def cupOf : CupFamily → Bytes
  | .ansi => cupAnsi | .vt52 => cupVt52 | .wyse => cupWyse | .hp => cupHp

/-- each entry's (SetCursor program, convention of its name) is one of six known pairs -/
def knownCupFam : List (Bytes × CupFamily) :=
  [(cupAnsi, .ansi), (cupAnsi ++ [36,60,53,62], .ansi), (cupAnsi ++ [36,60,49,48,62], .ansi),
   (cupHp, .hp), (cupVt52, .vt52), (cupWyse, .wyse)]

/-- (kernel evaluation over the regenerated database; a new entry with another cup program, or a name of another
convention, re-opens this obligation) -/
theorem db_cursor_known_family : ∀ e ∈ Gen.db, (e.setCursor, familyOfName e.name) ∈ knownCupFam := by
  have h : (Gen.db.all fun e => knownCupFam.contains (e.setCursor, familyOfName e.name)) = true := by decide +kernel
  intro e he
  simpa using List.all_eq_true.mp h e he

/-- Every built-in entry's SetCursor is one of the programs with a proved closed form. -/
theorem db_cursor_known : ∀ e ∈ Gen.db, e.setCursor ∈ knownCup :=
  fun e he => List.mem_map_of_mem (f := Prod.fst) (db_cursor_known_family e he)

theorem db_cursor_family : ∀ e ∈ Gen.db, stripPadding e.setCursor = cupOf (familyOfName e.name) := by
  have h : ∀ p ∈ knownCupFam, stripPadding p.1 = cupOf p.2 := by decide
  exact fun e he => h _ (db_cursor_known_family e he)

/-! closed forms: for ALL rows and columns (64-bit ints), any static variables, pinned and repaired machine.
`TGoto(col,row) = TParm(SetCursor,row,col)` (terminfo.go:648). -/

/-- ANSI: `ESC [ row+1 ; col+1 H` in decimal -/
theorem cup_ansi (v : Variant) (row col : Int) (sv : Vars) :
    tparmV v cupAnsi [.int row, .int col] sv =
      ([27, 91] ++ itoa (wrap64 (row + 1)) ++ [59] ++ itoa (wrap64 (col + 1)) ++ [72], sv) :=
  tparmV_cup v [] (by simp) row col sv

/-- ANSI with the `$<5>` suffix (vt100, vt102): the suffix is returned verbatim (TPuts removes it later) -/
theorem cup_ansi_pad5 (v : Variant) (row col : Int) (sv : Vars) :
    tparmV v (cupAnsi ++ [36,60,53,62]) [.int row, .int col] sv =
      ([27, 91] ++ itoa (wrap64 (row + 1)) ++ [59] ++ itoa (wrap64 (col + 1)) ++ [72] ++ [36,60,53,62], sv) := by
  rw [List.append_assoc _ [72]]
  exact tparmV_cup v [36,60,53,62] (by decide) row col sv

/-- ANSI with the `$<10>` suffix (vt420) -/
theorem cup_ansi_pad10 (v : Variant) (row col : Int) (sv : Vars) :
    tparmV v (cupAnsi ++ [36,60,49,48,62]) [.int row, .int col] sv =
      ([27, 91] ++ itoa (wrap64 (row + 1)) ++ [59] ++ itoa (wrap64 (col + 1)) ++ [72] ++ [36,60,49,48,62], sv) := by
  rw [List.append_assoc _ [72]]
  exact tparmV_cup v [36,60,49,48,62] (by decide) row col sv

/-- HP: `ESC & a row y col C`, 0-based decimal -/
theorem cup_hp (v : Variant) (row col : Int) (sv : Vars) :
    tparmV v cupHp [.int row, .int col] sv =
      ([27, 38, 97] ++ itoa row ++ [121] ++ itoa col ++ [67], sv) :=
  tparmV_dec v [27, 38, 97] [[121], [67]] _ sv

/-- VT52: `ESC Y`, then row+32 and col+32 as single bytes (Go's `byte(ai)` truncation mod 256) -/
theorem cup_vt52 (v : Variant) (row col : Int) (sv : Vars) :
    tparmV v cupVt52 [.int row, .int col] sv =
      ([27, 89, (wrap64 (row + 32) % 256).toNat, (wrap64 (col + 32) % 256).toNat], sv) :=
  tparmV_offset32 v 27 89 (by decide) (by decide) row col sv

/-- Wyse: `ESC =`, then row+32 and col+32 as single bytes -/
theorem cup_wyse (v : Variant) (row col : Int) (sv : Vars) :
    tparmV v cupWyse [.int row, .int col] sv =
      ([27, 61, (wrap64 (row + 32) % 256).toNat, (wrap64 (col + 32) % 256).toNat], sv) :=
  tparmV_offset32 v 27 61 (by decide) (by decide) row col sv

/-- in the range the offset-32 conventions can express the byte is exactly position+32 -/
theorem offset32_byte (n : Nat) (h : n < 224) : (wrap64 ((n : Int) + 32) % 256).toNat = n + 32 := by
  unfold wrap64 two63 two64; omega

/-- and the ANSI parameter is exactly position+1 for every non-negative position a Go int can hold -/
theorem ansi_param (n : Nat) (h : n < 9223372036854775807) : wrap64 ((n : Int) + 1) = ((n + 1 : Nat) : Int) := by
  unfold wrap64 two63 two64; omega

/-- every per-family decoder inverts the convention's encoder, for ALL rows and columns (no bound) -/
theorem decode_encode_all (fam : CupFamily) (row col : Nat) : fam.decode (fam.encode row col) = some (row, col) :=
  decode_encode fam row col

theorem strip_four (a b : Nat) (x y : Nat) (hx : x ≠ 36) (hy : y ≠ 36) : stripPadding [x, y, a, b] = [x, y, a, b] :=
  (strip_append_no36 [x, y] [a, b] (by simp [hx, hy])).trans (congrArg ([x, y] ++ ·) (strip_short [a, b] (Nat.lt_succ_self 2)))

theorem digits_no36 (l₀ l₁ l₂ : Bytes) (m n : Nat) (h : ∀ b ∈ l₀ ++ l₁ ++ l₂, b ≠ 36) :
    ∀ b ∈ l₀ ++ natDigits m ++ l₁ ++ natDigits n ++ l₂, b ≠ 36 := by
  intro b hb
  simp only [List.mem_append] at hb h
  rcases hb with (((hb | hb) | hb) | hb) | hb
  · exact h b (.inl (.inl hb))
  · have := (isDigit_iff b).mp (natDigits_digits m b hb); omega
  · exact h b (.inl (.inr hb))
  · have := (isDigit_iff b).mp (natDigits_digits n b hb); omega
  · exact h b (.inr hb)

/-- **TGoto, general statement.**  For every built-in entry and EVERY position the entry's addressing convention can
express (ANSI and HP: all rows/columns a Go `int` can hold after the 1-based shift, i.e. `< 2^63 - 1`; the offset-32
conventions VT52 / Wyse: `row, col < 224`), the bytes that reach the terminal for `TGoto(col,row)` (capability output
with the padding removed) are exactly the string the convention defines for that position … -/
theorem tgoto_is_encode : ∀ e ∈ Gen.db, ∀ (row col : Nat) (sv : Vars),
    (familyOfName e.name).expressible row col = true → row < 9223372036854775807 → col < 9223372036854775807 →
    stripPadding (tgoto e (col : Int) (row : Int) sv).1 = (familyOfName e.name).encode row col := by
  intro e he row col sv hx hr hc
  have hk := db_cursor_known_family e he
  have hansi := digits_no36 [27, 91] [59] [72] (row + 1) (col + 1) (by decide)
  generalize hfam : familyOfName e.name = fam at hk hx
  simp only [knownCupFam, List.mem_cons, Prod.mk.injEq, List.not_mem_nil, or_false] at hk
  simp only [tgoto, tparm]
  rcases hk with ⟨hp, rfl⟩ | ⟨hp, rfl⟩ | ⟨hp, rfl⟩ | ⟨hp, rfl⟩ | ⟨hp, rfl⟩ | ⟨hp, rfl⟩
  · rw [hp, cup_ansi, ansi_param row hr, ansi_param col hc, itoa_nonneg, itoa_nonneg]
    exact strip_no36 _ hansi
  · rw [hp, cup_ansi_pad5, ansi_param row hr, ansi_param col hc, itoa_nonneg, itoa_nonneg, strip_append_no36 _ _ hansi]
    simp only [CupFamily.encode, show stripPadding [36,60,53,62] = [] by decide, List.append_nil]
  · rw [hp, cup_ansi_pad10, ansi_param row hr, ansi_param col hc, itoa_nonneg, itoa_nonneg, strip_append_no36 _ _ hansi]
    simp only [CupFamily.encode, show stripPadding [36,60,49,48,62] = [] by decide, List.append_nil]
  · rw [hp, cup_hp, itoa_nonneg, itoa_nonneg]
    exact strip_no36 _ (digits_no36 [27, 38, 97] [121] [67] row col (by decide))
  · simp only [CupFamily.expressible, Bool.and_eq_true, decide_eq_true_eq] at hx
    rw [hp, cup_vt52, offset32_byte row hx.1, offset32_byte col hx.2]
    exact strip_four _ _ 27 89 (by decide) (by decide)
  · simp only [CupFamily.expressible, Bool.and_eq_true, decide_eq_true_eq] at hx
    rw [hp, cup_wyse, offset32_byte row hx.1, offset32_byte col hx.2]
    exact strip_four _ _ 27 61 (by decide) (by decide)

/-- … and hence the decoder of the entry's convention reads back exactly `(row, col)` from what TGoto writes, for all
expressible positions of every built-in terminal. -/
theorem tgoto_decode : ∀ e ∈ Gen.db, ∀ (row col : Nat) (sv : Vars),
    (familyOfName e.name).expressible row col = true → row < 9223372036854775807 → col < 9223372036854775807 →
    (familyOfName e.name).decode (stripPadding (tgoto e (col : Int) (row : Int) sv).1) = some (row, col) := by
  intro e he row col sv hx hr hc
  rw [tgoto_is_encode e he row col sv hx hr hc]
  exact decode_encode _ row col

/-- the hypotheses are satisfiable: the database has entries of every convention, and (4, 28) – whose VT52 encoding
`ESC Y $ <` even contains the bytes of a padding marker – is expressible -/
example : ([CupFamily.ansi, .vt52, .wyse, .hp].all fun fam => Gen.db.any fun e => familyOfName e.name == fam) = true
    ∧ CupFamily.vt52.expressible 4 28 = true ∧ CupFamily.vt52.encode 4 28 = [27, 89, 36, 60] := by decide +kernel

/-! ### TColor (terminfo.go:654-675) -/

/-- negative components are elided: nothing is emitted when both are negative -/
theorem tcolor_negative_elided (t : Terminfo) (fi bi : Int) (sv : Vars) (hf : fi < 0) (hb : bi < 0) :
    tcolor t fi bi sv = ([], sv) := by
  have h1 : ¬ (fi > 7) := by omega
  have h2 : ¬ (bi > 7) := by omega
  have h3 : ¬ (fi ≥ 0) := by omega
  have h4 : ¬ (bi ≥ 0) := by omega
  simp [tcolor, h1, h2, h3, h4]

/-- out-of-range components are elided (colour index ≥ the terminal's colour count, for terminals with more than 8
colours or indices ≥ 16) -/
theorem tcolor_out_of_range_elided (t : Terminfo) (fi bi : Int) (sv : Vars)
    (hf : t.colors ≤ fi) (hb : t.colors ≤ bi) (h16f : 16 ≤ fi ∨ t.colors ≠ 8) (h16b : 16 ≤ bi ∨ t.colors ≠ 8) :
    tcolor t fi bi sv = ([], sv) := by
  have e (x : Int) (h16 : 16 ≤ x ∨ t.colors ≠ 8) :
      (if (t.colors == 8 && decide (x > 7) && decide (x < 16)) = true then x - 8 else x) = x := by
    rcases h16 with h | h
    · have : ¬ x < 16 := by omega
      simp [this]
    · simp [h]
  have h3 : ¬ (t.colors > fi) := by omega
  have h4 : ¬ (t.colors > bi) := by omega
  simp only [tcolor, e fi h16f, e bi h16b]
  simp [h3, h4]

/-- bright colours fold onto the basic eight on an 8-colour terminal -/
theorem tcolor_fold8 (t : Terminfo) (fi bi : Int) (sv : Vars) (h8 : t.colors = 8)
    (hf : 8 ≤ fi ∧ fi < 16) (hb : 8 ≤ bi ∧ bi < 16) :
    tcolor t fi bi sv = tcolor t (fi - 8) (bi - 8) sv := by
  have a1 : fi > 7 := by omega
  have a2 : bi > 7 := by omega
  have a3 : ¬ (fi - 8 > 7) := by omega
  have a4 : ¬ (bi - 8 > 7) := by omega
  simp [tcolor, h8, a1, a2, a3, a4, hf.2, hb.2]

/-- closed form of the basic setaf / setab programs `ESC [ 3 %p1 %d m`, `ESC [ 4 %p1 %d m` (16 entries) -/
theorem setaf_basic (v : Variant) (d : Nat) (n : Int) (sv : Vars) :
    tparmV v [27,91,d,37,112,49,37,100,109] [.int n] sv = (([27,91] ++ (if d = 37 then [] else [d])) ++ itoa n ++ [109], sv) ∨ d = 37 := by
  by_cases hd : d = 37
  · exact Or.inr hd
  · rw [if_neg hd]
    exact Or.inl (tparmV_dec v [27, 91, d] [[109]] _ sv (h := by simp [hd]))

/-- closed form of the 256-colour setaf program (14 entries):
`ESC [ %? %p1 %{8} %< %t 3 %p1 %d %e %p1 %{16} %< %t 9 %p1 %{8} %- %d %e 38;5; %p1 %d %; m` -/
theorem setaf_256 (v : Variant) (n : Int) (sv : Vars) :
    (tparmV v [27,91,37,63,37,112,49,37,123,56,125,37,60,37,116,51,37,112,49,37,100,37,101,37,112,49,37,123,49,54,125,
        37,60,37,116,57,37,112,49,37,123,56,125,37,45,37,100,37,101,51,56,59,53,59,37,112,49,37,100,37,59,109] [.int n] sv).1 =
      [27,91] ++ (if n < 8 then 51 :: itoa n else if n < 16 then 57 :: itoa (wrap64 (n - 8))
                  else [51,56,59,53,59] ++ itoa n) ++ [109] :=
  congrArg Prod.fst (tparmV_idx1 v [51] [57] [51,56,59,53,59] n sv)

/-! ### closed forms of every distinct SetFg / SetBg / SetFgBg program of the database, for ALL colour indices -/

/-- `ESC [ %? %p1 %{8} %< %t 3 %p1 %d %e %p1 %{16} %< %t 9 %p1 %{8} %- %d %e 38;5; %p1 %d %; m` -/
def setaf256 : Bytes := [27,91,37,63,37,112,49,37,123,56,125,37,60,37,116,51,37,112,49,37,100,37,101,37,112,49,37,123,49,54,125,37,60,37,116,57,37,112,49,37,123,56,125,37,45,37,100,37,101,51,56,59,53,59,37,112,49,37,100,37,59,109]
/-- the same with `4`, `10`, `48;5;` -/
def setab256 : Bytes := [27,91,37,63,37,112,49,37,123,56,125,37,60,37,116,52,37,112,49,37,100,37,101,37,112,49,37,123,49,54,125,37,60,37,116,49,48,37,112,49,37,123,56,125,37,45,37,100,37,101,52,56,59,53,59,37,112,49,37,100,37,59,109]
/-- foot: `38:5:` / `48:5:` -/
def setafFoot : Bytes := [27,91,37,63,37,112,49,37,123,56,125,37,60,37,116,51,37,112,49,37,100,37,101,37,112,49,37,123,49,54,125,37,60,37,116,57,37,112,49,37,123,56,125,37,45,37,100,37,101,51,56,58,53,58,37,112,49,37,100,37,59,109]
def setabFoot : Bytes := [27,91,37,63,37,112,49,37,123,56,125,37,60,37,116,52,37,112,49,37,100,37,101,37,112,49,37,123,49,54,125,37,60,37,116,49,48,37,112,49,37,123,56,125,37,45,37,100,37,101,52,56,58,53,58,37,112,49,37,100,37,59,109]
/-- eterm-color: `ESC [ %p1 %{30} %+ %d m` and `ESC [ %p1 %'(' %+ %d m` -/
def setafEterm : Bytes := [27,91,37,112,49,37,123,51,48,125,37,43,37,100,109]
def setabEterm : Bytes := [27,91,37,112,49,37,39,40,39,37,43,37,100,109]
/-- rxvt-unicode, sun-color: `ESC [ 38;5; %p1 %d m` / `ESC [ 48;5; %p1 %d m` -/
def setafRxvt : Bytes := [27,91,51,56,59,53,59,37,112,49,37,100,109]
def setabRxvt : Bytes := [27,91,52,56,59,53,59,37,112,49,37,100,109]
/-- `ESC [ 3 %p1 %d m` / `ESC [ 4 %p1 %d m` -/
def setafBasic : Bytes := [27,91,51,37,112,49,37,100,109]
def setabBasic : Bytes := [27,91,52,37,112,49,37,100,109]
/-- SetFgBg programs -/
def fgbgBasic : Bytes := [27,91,51,37,112,49,37,100,59,52,37,112,50,37,100,109]
def fgbg256 : Bytes := [27,91,37,63,37,112,49,37,123,56,125,37,60,37,116,51,37,112,49,37,100,37,101,37,112,49,37,123,49,54,125,37,60,37,116,57,37,112,49,37,123,56,125,37,45,37,100,37,101,51,56,59,53,59,37,112,49,37,100,37,59,59,37,63,37,112,50,37,123,56,125,37,60,37,116,52,37,112,50,37,100,37,101,37,112,50,37,123,49,54,125,37,60,37,116,49,48,37,112,50,37,123,56,125,37,45,37,100,37,101,52,56,59,53,59,37,112,50,37,100,37,59,109]
def fgbgEterm : Bytes := [27,91,37,112,49,37,123,51,48,125,37,43,37,100,59,37,112,50,37,39,40,39,37,43,37,100,109]
def fgbgFoot : Bytes := [27,91,37,63,37,112,49,37,123,56,125,37,60,37,116,51,37,112,49,37,100,37,101,37,112,49,37,123,49,54,125,37,60,37,116,57,37,112,49,37,123,56,125,37,45,37,100,37,101,51,56,58,53,58,37,112,49,37,100,37,59,59,37,63,37,112,50,37,123,56,125,37,60,37,116,52,37,112,50,37,100,37,101,37,112,50,37,123,49,54,125,37,60,37,116,49,48,37,112,50,37,123,56,125,37,45,37,100,37,101,52,56,58,53,58,37,112,50,37,100,37,59,109]
def fgbgRxvt : Bytes := [27,91,51,56,59,53,59,37,112,49,37,100,59,52,56,59,53,59,37,112,50,37,100,109]

def knownSetFg : List Bytes := [[], setafBasic, setaf256, setafFoot, setafEterm, setafRxvt]
def knownSetBg : List Bytes := [[], setabBasic, setab256, setabFoot, setabEterm, setabRxvt]
def knownSetFgBg : List Bytes := [[], fgbgBasic, fgbg256, fgbgFoot, fgbgEterm, fgbgRxvt]

/-- Every built-in entry's SetFg / SetBg / SetFgBg is the empty string or one of the programs with a closed form
below (kernel evaluation over the regenerated database; a new entry with another program re-opens this). -/
theorem db_color_known : ∀ e ∈ Gen.db,
    e.setFg ∈ knownSetFg ∧ e.setBg ∈ knownSetBg ∧ e.setFgBg ∈ knownSetFgBg := by
  have h : (Gen.db.all fun e => knownSetFg.contains e.setFg && knownSetBg.contains e.setBg
      && knownSetFgBg.contains e.setFgBg) = true := by decide +kernel
  intro e he
  have := List.all_eq_true.mp h e he
  simpa [Bool.and_eq_true, and_assoc] using this

/-- the selection a 256-colour program makes: `a n` for the basic eight, `b (n-8)` for the bright eight, else the
extended form `c n` -/
def sgr256 (a b c : Bytes) (n : Int) : Bytes :=
  if n < 8 then a ++ itoa n else if n < 16 then b ++ itoa (wrap64 (n - 8)) else c ++ itoa n

theorem tparm_empty (v : Variant) (ps : List Value) (sv : Vars) : tparmV v [] ps sv = ([], sv) := by
  simp [tparmV, run]

theorem setaf_basic_cf (v : Variant) (n : Int) (sv : Vars) :
    tparmV v setafBasic [.int n] sv = ([27, 91, 51] ++ itoa n ++ [109], sv) :=
  tparmV_dec v [27, 91, 51] [[109]] _ sv

theorem setab_basic_cf (v : Variant) (n : Int) (sv : Vars) :
    tparmV v setabBasic [.int n] sv = ([27, 91, 52] ++ itoa n ++ [109], sv) :=
  tparmV_dec v [27, 91, 52] [[109]] _ sv

theorem setaf_rxvt (v : Variant) (n : Int) (sv : Vars) :
    tparmV v setafRxvt [.int n] sv = ([27, 91, 51, 56, 59, 53, 59] ++ itoa n ++ [109], sv) :=
  tparmV_dec v [27, 91, 51, 56, 59, 53, 59] [[109]] _ sv

theorem setab_rxvt (v : Variant) (n : Int) (sv : Vars) :
    tparmV v setabRxvt [.int n] sv = ([27, 91, 52, 56, 59, 53, 59] ++ itoa n ++ [109], sv) :=
  tparmV_dec v [27, 91, 52, 56, 59, 53, 59] [[109]] _ sv

/-- eterm-color foreground: `30 + n` -/
theorem setaf_eterm (v : Variant) (n : Int) (sv : Vars) :
    tparmV v setafEterm [.int n] sv = ([27, 91] ++ itoa (wrap64 (n + 30)) ++ [109], sv) :=
  tparmV_add1 v (pushes_30 _) n sv

/-- eterm-color background: `40 + n` (`%'('` pushes 40) -/
theorem setab_eterm (v : Variant) (n : Int) (sv : Vars) :
    tparmV v setabEterm [.int n] sv = ([27, 91] ++ itoa (wrap64 (n + 40)) ++ [109], sv) :=
  tparmV_add1 v (pushes_40 _) n sv

theorem setaf_256_cf (v : Variant) (n : Int) (sv : Vars) :
    tparmV v setaf256 [.int n] sv = ([27, 91] ++ sgr256 [51] [57] [51,56,59,53,59] n ++ [109], sv) :=
  tparmV_idx1 v [51] [57] [51,56,59,53,59] n sv

theorem setab_256_cf (v : Variant) (n : Int) (sv : Vars) :
    tparmV v setab256 [.int n] sv = ([27, 91] ++ sgr256 [52] [49,48] [52,56,59,53,59] n ++ [109], sv) :=
  tparmV_idx1 v [52] [49,48] [52,56,59,53,59] n sv

theorem setaf_foot (v : Variant) (n : Int) (sv : Vars) :
    tparmV v setafFoot [.int n] sv = ([27, 91] ++ sgr256 [51] [57] [51,56,58,53,58] n ++ [109], sv) :=
  tparmV_idx1 v [51] [57] [51,56,58,53,58] n sv

theorem setab_foot (v : Variant) (n : Int) (sv : Vars) :
    tparmV v setabFoot [.int n] sv = ([27, 91] ++ sgr256 [52] [49,48] [52,56,58,53,58] n ++ [109], sv) :=
  tparmV_idx1 v [52] [49,48] [52,56,58,53,58] n sv

theorem fgbg_basic (v : Variant) (f b : Int) (sv : Vars) :
    tparmV v fgbgBasic [.int f, .int b] sv = ([27, 91, 51] ++ itoa f ++ [59, 52] ++ itoa b ++ [109], sv) :=
  tparmV_dec v [27, 91, 51] [[59, 52], [109]] _ sv

theorem fgbg_rxvt (v : Variant) (f b : Int) (sv : Vars) :
    tparmV v fgbgRxvt [.int f, .int b] sv =
      ([27, 91, 51, 56, 59, 53, 59] ++ itoa f ++ [59, 52, 56, 59, 53, 59] ++ itoa b ++ [109], sv) :=
  tparmV_dec v [27, 91, 51, 56, 59, 53, 59] [[59, 52, 56, 59, 53, 59], [109]] _ sv

theorem fgbg_eterm (v : Variant) (f b : Int) (sv : Vars) :
    tparmV v fgbgEterm [.int f, .int b] sv =
      ([27, 91] ++ itoa (wrap64 (f + 30)) ++ [59] ++ itoa (wrap64 (b + 40)) ++ [109], sv) :=
  tparmV_add2 v (pushes_30 _) (pushes_40 _) f b sv

theorem fgbg_256 (v : Variant) (f b : Int) (sv : Vars) :
    tparmV v fgbg256 [.int f, .int b] sv =
      ([27, 91] ++ sgr256 [51] [57] [51,56,59,53,59] f ++ [59] ++ sgr256 [52] [49,48] [52,56,59,53,59] b ++ [109], sv) :=
  tparmV_idx2 v [51] [57] [51,56,59,53,59] [52] [49,48] [52,56,59,53,59] f b sv

theorem fgbg_foot (v : Variant) (f b : Int) (sv : Vars) :
    tparmV v fgbgFoot [.int f, .int b] sv =
      ([27, 91] ++ sgr256 [51] [57] [51,56,58,53,58] f ++ [59] ++ sgr256 [52] [49,48] [52,56,58,53,58] b ++ [109], sv) :=
  tparmV_idx2 v [51] [57] [51,56,58,53,58] [52] [49,48] [52,56,58,53,58] f b sv

end Tcell.Props.C15
