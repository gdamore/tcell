/-
C07 — parameterized capability strings evaluate per terminfo(5).
Model: Tcell.Model.TParm (byte machine with the skip register of terminfo.go:340-589; `pinned` mirrors the tree,
`repaired` = with fixes/C07-*.patch).  Reference: Tcell.Spec.Terminfo5 (lexer, parser, AST, structural evaluator).
-/
import Tcell.Lemmas.TParmFmt
import Tcell.Gen.TerminfoDB
namespace Tcell.Props.C07
open Tcell Tcell.TParm Tcell.Spec.Terminfo5

/-! ### the pinned code does not refine terminfo(5): witnesses (each is reproduced on the Go code by the oracle) -/

/-- `%?%p1%t%?%p2%tA%eB%;%eC%;` -/
def nestedProg : Bytes := [37,63,37,112,49,37,116,37,63,37,112,50,37,116,65,37,101,66,37,59,37,101,67,37,59]

/-- A conditional nested inside a skipped branch: the pinned machine answers "B", terminfo(5) says "C"
(the outer test is false, so only the outer else part may run). -/
theorem nested_cond_counterexample :
    (tparmV pinned nestedProg [.int 0, .int 1] noVars).1 = [66] ∧
    (parse nestedProg).map (fun a => (Spec.Terminfo5.tparm a [.int 0, .int 1] noVars).1) = some [67] := by
  decide

/-- … and the repaired machine (nesting counter in the two skip states) answers "C". -/
theorem nested_cond_repaired : (tparmV repaired nestedProg [.int 0, .int 1] noVars).1 = [67] := by decide

/-- `%p1%p2%A%d` with (1,1): the pinned code has no `%A`/`%O` (echoes "%A" and prints the top of stack). -/
theorem logical_and_counterexample :
    (tparmV pinned [37,112,49,37,112,50,37,65,37,100] [.int 1, .int 1] noVars).1 = [37,65,49] ∧
    (parse [37,112,49,37,112,50,37,65,37,100]).map (fun a => (Spec.Terminfo5.tparm a [.int 1, .int 1] noVars).1) = some [49] ∧
    (tparmV repaired [37,112,49,37,112,50,37,65,37,100] [.int 1, .int 1] noVars).1 = [49] := by
  decide

/-- `%p1%#x` with 255: terminfo(5) needs the colon only before `-` and `+`; the pinned code echoes "%#x". -/
theorem format_flag_counterexample :
    (tparmV pinned [37,112,49,37,35,120] [.int 255] noVars).1 = [37,35,120] ∧
    (parse [37,112,49,37,35,120]).map (fun a => (Spec.Terminfo5.tparm a [.int 255] noVars).1) = some [48,120,102,102] ∧
    (tparmV repaired [37,112,49,37,35,120] [.int 255] noVars).1 = [48,120,102,102] := by
  decide

/-! ### never hangs, never panics: the loop is fuelled by the input length and that is always enough -/

/-- Every iteration of the loop consumes at least one byte of the program, whatever the bytes are. -/
theorem step_consumes (v : Variant) (inp : Bytes) (s : St) (k : Skip) (h : inp ≠ []) :
    (step v inp s k).1.length < inp.length := step_length v inp s k h

/-- `TParm` halts on arbitrary bytes: running with the input length as fuel has consumed the whole program, i.e. any
additional fuel changes nothing.  (Every Go operation the model mirrors is total in the model: empty-stack pops,
out-of-range `%p`, division by zero and a premature end of the string have explicit results, so there is no panic
state to reach.) -/
theorem tparm_total (v : Variant) (prog : Bytes) (s : St) (k : Skip) (extra : Nat) :
    run v (prog.length + extra) prog s k = run v prog.length prog s k := run_extra_fuel v prog.length prog s k extra (Nat.le_refl _)

example : run pinned ([37, 112, 37].length + 100) [37, 112, 37] {} .emit = run pinned [37, 112, 37].length [37, 112, 37] {} .emit :=
  tparm_total pinned [37, 112, 37] {} .emit 100

/-! ### refinement of the terminfo(5) reference -/

/-- **tparm_straight_line**: the straight-line case, for BOTH machine variants and without the `specified` side
condition: for every
sequence of valid tokens other than `%{n}`, printf formats, `%A`/`%O` and the conditional markers, any parameters and
any static variables, the pinned and the repaired machine compute exactly what the terminfo(5) reference computes.
(The full statements are `tparm_refines_spec` for the repaired and `tparm_pinned_refines_spec` for the pinned
machine below; the full statement is false for the pinned machine, `nested_cond_counterexample`.) -/
theorem tparm_straight_line (v : Variant) (ts : List Tok)
    (h : ∀ t ∈ ts, simpleTok t = true ∧ t.valid = true) (params : List Value) (sv : Vars) :
    tparmV v (ofToks ts).render params sv = Spec.Terminfo5.tparm (ofToks ts) params sv := by
  have hall (p : Tok → Bool) (hp : ∀ t, simpleTok t = true → p t = true) : (ofToks ts).all p = true := by
    rw [all_ofToks]; exact List.all_eq_true.mpr fun t ht => hp t (h t ht).1
  have hv : (ofToks ts).valid = true := by
    rw [valid_ofToks]; exact List.all_eq_true.mpr fun t ht => (h t ht).2
  -- a simple token is one every variant implements, and not a printf format: every run is specified
  have hok := hall (tokOk v) fun t ht => by cases t <;> first | rfl | (rename_i o; cases o <;> first | rfl | cases ht)
  have hn := hall notFmt fun t ht => by cases t <;> first | rfl | cases ht
  rw [Runs.tparmV (exec_prog v _ hv hok (Or.inr (by rw [depth_ofToks]; decide))),
    evalG_semM_eq _ hv params sv (specified_of_notFmt _ hv hn params sv)]
  rfl

/-- the hypotheses are satisfiable: `ESC [ %i %p1 %d ; %p2 %d H` (the ANSI cursor address program) is such a program -/
example : ∃ ts : List Tok, (∀ t ∈ ts, simpleTok t = true ∧ t.valid = true) ∧
    (ofToks ts).render = [27,91,37,105,37,112,49,37,100,59,37,112,50,37,100,72] :=
  ⟨[.lit 27, .lit 91, .incr, .param 1, .outD, .lit 59, .param 2, .outD, .lit 72], by decide, by decide⟩

/-- `parse` only ever returns an AST whose concrete syntax is the input: well-formedness is `∃ a, render a = s`. -/
theorem parse_sound (s : Bytes) (a : Prog) (h : parse s = some a) : a.render = s ∧ a.valid = true := by
  unfold parse at h
  split at h
  · exact absurd h (by simp)
  · split at h
    · split at h
      · rename_i hv
        simp only [Bool.and_eq_true, beq_iff_eq] at hv
        cases h; exact ⟨hv.2, hv.1⟩
      · exact absurd h (by simp)
    · exact absurd h (by simp)

/-! ### the full refinement (DESIGN.md A.2) -/

/-- the machine state `TParm` starts in -/
def st0 (params : List Value) (sv : Vars) : St := { params := pad9 params, svars := sv }

/-- Refinement with Go's formatter, no side condition: for EVERY well-formed program (`parse s = some a`: balanced
`%? … %t … %e … %;` with else-if chains and arbitrary nesting, every token of terminfo(5) including `%{n}`, `%'c'`,
`%l`, `%P`/`%g`, `%i`, all arithmetic/bit/logical/comparison operators and printf formats
`%[:][flags][width][.prec][doxXsc]`), all parameters and all static variables, the repaired byte-level skip-register
machine (= terminfo.go at /repo HEAD) computes exactly what the *structural* evaluator computes on the parse tree –
output bytes and static variables – where a printf token means "pop, format with Go's `fmt`, append" (`semM`).
The skip register, the nesting counter and the byte-level scanning are gone from the right-hand side. -/
theorem tparm_refines_ast (s : Bytes) (a : Prog) (h : parse s = some a) (params : List Value) (sv : Vars) :
    tparmV repaired s params sv =
      ((a.evalG semM Spec.Terminfo5.test (st0 params sv)).out, (a.evalG semM Spec.Terminfo5.test (st0 params sv)).svars) := by
  obtain ⟨rfl, hv⟩ := parse_sound s a h
  exact Runs.tparmV (exec_prog repaired a hv (Prog.all_true _ tokOk_repaired a) (Or.inl rfl)) params sv

/-- **`tparm_refines_spec`**: for every well-formed program, all parameters and all static variables, the repaired
machine returns exactly what the terminfo(5) reference returns (output bytes AND resulting static variables) on
every run the reference specifies.  `specified a params sv` is the reference's own judgement domain: it is `true`
unless the run executes a printf token in a state where C printf(3) leaves the result undefined or dependent on the
C `int` width (negative or `+`/space-flagged `%o %x %X`, `#` with value 0 or with the `0` flag, `%c` outside 0..127,
`0` flag on `%s`/`%c`, `%+.0d` of 0, non-ASCII `%s` under width/precision) – there Go's `fmt` and C differ or C says
nothing and neither the reference nor the oracle judge.  For programs without printf tokens the hypothesis is always
true (`tparm_refines_spec_noformat`); `tparm_refines_ast` is the statement without it.
Proof: skip lemma + induction on the AST (`Lemmas/TParmRefine`), Go-`fmt` = C-printf on the specified domain for all
flags, widths and precisions (`Lemmas/TParmFmt.semM_eq_sem`). -/
theorem tparm_refines_spec (s : Bytes) (a : Prog) (h : parse s = some a) (params : List Value) (sv : Vars)
    (hs : specified a params sv = true) :
    tparmV repaired s params sv = Spec.Terminfo5.tparm a params sv := by
  rw [tparm_refines_ast s a h params sv]
  have := evalG_semM_eq a (parse_sound s a h).2 params sv hs
  simp only [st0, Spec.Terminfo5.tparm, this]

/-- the hypotheses are satisfiable on a program with an else-if chain, a nested conditional in a skipped branch,
`%{n}`, a comparison and a printf format: `%?%p1%{8}%<%t%?%p2%tA%eB%;%e%p1%{16}%<%tC%e%p1%03d%;` with (20, 1) -/
example : ∃ a, parse [37,63,37,112,49,37,123,56,125,37,60,37,116,37,63,37,112,50,37,116,65,37,101,66,37,59,37,101,
      37,112,49,37,123,49,54,125,37,60,37,116,67,37,101,37,112,49,37,48,51,100,37,59] = some a ∧
    specified a [.int 20, .int 1] noVars = true ∧ (Spec.Terminfo5.tparm a [.int 20, .int 1] noVars).1 = [48,50,48] := by
  decide

/-- … and without any side condition for programs that contain no printf-format token (every other token of
terminfo(5) is allowed, any nesting). -/
theorem tparm_refines_spec_noformat (s : Bytes) (a : Prog) (h : parse s = some a) (hn : a.all notFmt = true)
    (params : List Value) (sv : Vars) :
    tparmV repaired s params sv = Spec.Terminfo5.tparm a params sv :=
  tparm_refines_spec s a h params sv (specified_of_notFmt a (parse_sound s a h).2 hn params sv)

example : ∃ a, parse nestedProg = some a ∧ a.all notFmt = true := by decide

/-- The pinned machine (no nesting counter, no `%A`/`%O`, no `#`/space flag without a colon) refines the reference
on the class the database uses: no conditional nested inside another conditional (`depth ≤ 1`; else-if chains
are fine) and only tokens the pinned code implements.  Outside this class it need not (`nested_cond_counterexample`,
`logical_and_counterexample`, `format_flag_counterexample`). -/
theorem tparm_pinned_refines_spec (s : Bytes) (a : Prog) (h : parse s = some a) (hd : a.depth ≤ 1)
    (hp : a.all Tok.pinnedOk = true) (params : List Value) (sv : Vars) (hs : specified a params sv = true) :
    tparmV pinned s params sv = Spec.Terminfo5.tparm a params sv := by
  obtain ⟨rfl, hv⟩ := parse_sound s a h
  rw [Runs.tparmV (exec_prog pinned a hv (Prog.all_imp _ _ tokOk_pinned a hp) (Or.inr hd)),
    evalG_semM_eq a hv params sv hs]
  rfl

/-! ### database layer (kernel evaluation over the regenerated entries) -/

/-- the capability fields tcell passes to TParm, with the number of parameters it supplies
(tscreen.go:753-800 colours, 820-1043 TGoto, 857/866 underline colour, 903 url, 989 cursor colour, 1969 window size,
2041/2128 title; terminfo.go:648-672) -/
def paramFields (t : Terminfo) : List (Bytes × Nat) :=
  [(t.setFg, 1), (t.setBg, 1), (t.setFgBg, 2), (t.setFgRGB, 3), (t.setBgRGB, 3), (t.setFgBgRGB, 6),
   (t.setCursor, 2), (t.underlineColor, 1), (t.underlineColorRGB, 3), (t.enterUrl, 2), (t.cursorColorRGB, 3),
   (t.setWindowSize, 2), (t.setWindowTitle, 1)]

/-- the parameterized strings tscreen.go hard-codes (prepareUnderlines 391/401, prepareExtendedOSC 424/431/451/458,
prepareCursorStyles 496+501 after the `%p1%s` → `#%p1%02x%p2%02x%p3%02x` replacement) -/
def hardCoded : List (Bytes × Nat) :=
  [([27,91,53,56,58,53,58,37,112,49,37,100,109], 1),                                     -- ESC[58:5:%p1%dm
   ([27,91,53,56,58,50,58,58,37,112,49,37,100,58,37,112,50,37,100,58,37,112,51,37,100,109], 3), -- ESC[58:2::%p1%d:%p2%d:%p3%dm
   ([27,93,56,59,37,112,50,37,115,59,37,112,49,37,115,27,92], 2),                        -- ESC]8;%p2%s;%p1%s ESC\
   ([27,91,56,59,37,112,49,37,112,50,37,100,59,37,100,116], 2),                          -- ESC[8;%p1%p2%d;%dt
   ([27,91,62,50,116,27,93,50,59,37,112,49,37,115,27,92], 1),                            -- ESC[>2t ESC]2;%p1%s ESC\
   ([27,93,53,50,59,99,59,37,112,49,37,115,27,92], 1),                                   -- ESC]52;c;%p1%s ESC\
   ([27,93,49,50,59,35,37,112,49,37,48,50,120,37,112,50,37,48,50,120,37,112,51,37,48,50,120,7], 3)] -- ESC]12;#%p1%02x%p2%02x%p3%02x BEL

/-- well-formed, uses only the parameters tcell supplies, and lies in the class for which the pinned code is proved
to refine the reference (`tparm_pinned_refines_spec`) -/
def okFor (s : Bytes) (arity : Nat) : Bool :=
  match parse s with
  | some a => a.maxParam ≤ arity && a.depth ≤ 1 && a.all Tok.pinnedOk
  | none => false

/-- `okFor`, and no printf-format token -/
def okNoFmt (s : Bytes) (arity : Nat) : Bool :=
  match parse s with
  | some a => a.maxParam ≤ arity && a.depth ≤ 1 && a.all Tok.pinnedOk && a.all notFmt
  | none => false

theorem okNoFmt_spec {s : Bytes} {n : Nat} (h : okNoFmt s n = true) :
    okFor s n = true ∧ ∀ a, parse s = some a → a.all notFmt = true := by
  unfold okNoFmt at h
  unfold okFor
  cases hp : parse s with
  | none => simp [hp] at h
  | some a =>
    simp only [hp, Bool.and_eq_true] at h ⊢
    exact ⟨h.1, fun b hb => Option.some.inj hb ▸ h.2⟩

/-- one kernel evaluation over the regenerated database for `db_strings_wellformed` and `db_strings_noformat` -/
theorem db_strings_ok : ∀ e ∈ Gen.db, ∀ f ∈ paramFields e, okNoFmt f.1 f.2 = true := by
  have h : (Gen.db.all fun e => (paramFields e).all fun f => okNoFmt f.1 f.2) = true := by decide +kernel
  intro e he f hf
  exact List.all_eq_true.mp (List.all_eq_true.mp h e he) f hf

/-- Every parameterized string of every built-in entry is a well-formed terminfo(5) program that uses only `%p`
indices within the arity tcell supplies for that field, with no conditional nested in a conditional. -/
theorem db_strings_wellformed : ∀ e ∈ Gen.db, ∀ f ∈ paramFields e, okFor f.1 f.2 = true :=
  fun e he f hf => (okNoFmt_spec (db_strings_ok e he f hf)).1

/-- … and so is every parameterized string tscreen.go hard-codes. -/
theorem hardcoded_strings_wellformed : ∀ f ∈ hardCoded, okFor f.1 f.2 = true := by
  have h : (hardCoded.all fun f => okFor f.1 f.2) = true := by decide +kernel
  intro f hf
  exact List.all_eq_true.mp h f hf

theorem okFor_refines (s : Bytes) (n : Nat) (h : okFor s n = true) :
    ∃ a, parse s = some a ∧ ∀ (v : Variant), v = pinned ∨ v = repaired → ∀ (params : List Value) (sv : Vars),
      specified a params sv = true → tparmV v s params sv = Spec.Terminfo5.tparm a params sv := by
  unfold okFor at h
  cases hp : parse s with
  | none => simp [hp] at h
  | some a =>
    simp only [hp, Bool.and_eq_true, decide_eq_true_eq] at h
    refine ⟨a, rfl, ?_⟩
    intro v hv params sv hs
    rcases hv with rfl | rfl
    · exact tparm_pinned_refines_spec s a hp h.1.2 h.2 params sv hs
    · exact tparm_refines_spec s a hp params sv hs

/-- **Corollary (every string tcell ever evaluates).**  For every parameterized string of every built-in entry
(`Gen.db`, regenerated from the Go source) and every sequence tscreen.go hard-codes, the string parses and the
refinement applies: for all parameters and static variables, both the pinned and the repaired machine return what
the terminfo(5) reference returns (on every run the reference specifies; only the hard-coded `%02x` cursor-colour
string and no database string contains a printf token). -/
theorem db_strings_refine : ∀ e ∈ Gen.db, ∀ f ∈ paramFields e,
    ∃ a, parse f.1 = some a ∧ ∀ (v : Variant), v = pinned ∨ v = repaired → ∀ (params : List Value) (sv : Vars),
      specified a params sv = true → tparmV v f.1 params sv = Spec.Terminfo5.tparm a params sv :=
  fun e he f hf => okFor_refines f.1 f.2 (db_strings_wellformed e he f hf)

theorem hardcoded_strings_refine : ∀ f ∈ hardCoded,
    ∃ a, parse f.1 = some a ∧ ∀ (v : Variant), v = pinned ∨ v = repaired → ∀ (params : List Value) (sv : Vars),
      specified a params sv = true → tparmV v f.1 params sv = Spec.Terminfo5.tparm a params sv :=
  fun f hf => okFor_refines f.1 f.2 (hardcoded_strings_wellformed f hf)

/-- no database string contains a printf-format token, so for them `specified` holds on every run -/
theorem db_strings_noformat : ∀ e ∈ Gen.db, ∀ f ∈ paramFields e,
    ∀ a, parse f.1 = some a → a.all notFmt = true :=
  fun e he f hf => (okNoFmt_spec (db_strings_ok e he f hf)).2

example : Gen.db ≠ [] ∧ okFor [27,91,37,105,37,112,49,37,100,59,37,112,50,37,100,72] 2 = true := by decide +kernel

end Tcell.Props.C07
