/-
C20 — ViewPort and BoxLayout keep content inside disjoint, correctly sized regions.
Property theorems only (helpers: Tcell.Lemmas.Views).  Integers are unbounded `Int` (Go `int`; the harness stays
inside int64).  ViewPort statements quantify over every ViewPort state (origin, size, offset, content size,
locked or growing, nil or non-nil parent) and every argument; BoxLayout statements over every child list.
-/
import Tcell.Lemmas.Views
import Tcell.Lemmas.ViewsProp
namespace Tcell.Props.C20
open Tcell.Views Tcell.Views.ViewPort

/-- the visible window in content coordinates -/
def InWindow (v : ViewPort) (x y : Int) : Prop :=
  v.viewx ≤ x ∧ x < v.viewx + v.width ∧ v.viewy ≤ y ∧ y < v.viewy + v.height

/-- the rectangle the ViewPort occupies in its parent -/
def InRect (v : ViewPort) (px py : Int) : Prop :=
  v.physx ≤ px ∧ px < v.physx + v.width ∧ v.physy ≤ py ∧ py < v.physy + v.height

instance (v : ViewPort) (x y : Int) : Decidable (InWindow v x y) := by unfold InWindow; infer_instance
instance (v : ViewPort) (x y : Int) : Decidable (InRect v x y) := by unfold InRect; infer_instance

theorem visible_iff (v : ViewPort) (x y : Int) : v.visible x y = true ↔ InWindow v x y := by
  simp only [visible, InWindow, Bool.and_eq_true, Bool.not_eq_true', Bool.or_eq_false_iff, decide_eq_false_iff_not]
  omega

theorem setContent_fst (v : ViewPort) (x y ch : Int) (comb : List Int) (s : Nat) :
    (v.setContent x y ch comb s).1 = if v.hasView then v.grow x y else v := by
  simp only [setContent]
  cases v.hasView
  · rfl
  · simp only [Bool.not_true, Bool.false_eq_true, if_false, if_true]; split <;> rfl

/-- SetContent never moves or resizes the ViewPort (only the content limits can grow). -/
theorem vp_setContent_geometry (v : ViewPort) (x y ch : Int) (comb : List Int) (s : Nat) :
    let v' := (v.setContent x y ch comb s).1
    v'.viewx = v.viewx ∧ v'.viewy = v.viewy ∧ v'.physx = v.physx ∧ v'.physy = v.physy ∧
    v'.width = v.width ∧ v'.height = v.height := by
  simp only [setContent_fst, grow_eq]; split <;> simp

/-- what SetContent forwards: the translated cell when there is a parent and the cell is in the window (auto-grow does
not move the window) -/
theorem setContent_snd (v : ViewPort) (x y ch : Int) (comb : List Int) (s : Nat) :
    (v.setContent x y ch comb s).2 = if v.hasView = true ∧ InWindow v x y then [v.translate x y ch comb s] else [] := by
  have hw : (v.grow x y).visible x y = true ↔ InWindow v x y := by rw [visible_iff]; simp [InWindow, grow_eq]
  simp only [setContent]
  cases v.hasView
  · simp
  · by_cases hv : InWindow v x y
    · simp only [hw.2 hv]; simp [hv, translate, grow_eq]
    · simp [hv, mt hw.1 hv]

/-- **Containment and translation.**  Whatever a SetContent forwards to the parent is a single call, carries
the payload unchanged, lies inside the rectangle the ViewPort occupies, and sits at
parent position = content position − scroll offset + origin; and the content position was inside the window. -/
theorem vp_contain (v : ViewPort) (x y ch : Int) (comb : List Int) (s : Nat) :
    ∀ c ∈ (v.setContent x y ch comb s).2,
      (v.setContent x y ch comb s).2 = [c] ∧
      c.x = x - v.viewx + v.physx ∧ c.y = y - v.viewy + v.physy ∧
      c.ch = ch ∧ c.comb = comb ∧ c.style = s ∧
      InRect v c.x c.y ∧ InWindow v x y := by
  intro c hc
  rw [setContent_snd] at hc ⊢
  split at hc
  · rename_i h
    obtain rfl := List.mem_singleton.1 hc
    refine ⟨if_pos h, rfl, rfl, rfl, rfl, rfl, ?_, h.2⟩
    have hw := h.2
    simp only [translate, InRect, InWindow] at hw ⊢
    omega
  · cases hc

/-- Exactly the content inside the window is forwarded (when the ViewPort has a parent); content outside the
visible window is discarded, and nothing is forwarded by a ViewPort without parent. -/
theorem vp_forward_iff (v : ViewPort) (x y ch : Int) (comb : List Int) (s : Nat) :
    (v.setContent x y ch comb s).2 ≠ [] ↔ (v.hasView = true ∧ InWindow v x y) := by
  rw [setContent_snd]; split <;> simp [*]

/-- **Fill containment**: every cell Fill (and Clear) paints in the parent lies inside the ViewPort's rectangle. -/
theorem vp_fill_contain (v : ViewPort) (ch : Int) (s : Nat) :
    ∀ c ∈ v.fill ch s, InRect v c.x c.y ∧ c.ch = ch ∧ c.style = s := by
  intro c hc
  simp only [fill] at hc
  split at hc
  · simp at hc
  · simp only [List.mem_flatMap, List.mem_map, List.mem_range] at hc
    obtain ⟨j, hj, i, hi, rfl⟩ := hc
    simp only [InRect, and_true]
    omega

/-- Fill paints every cell of the rectangle (so with `vp_fill_contain`: exactly the rectangle). -/
theorem vp_fill_covers (v : ViewPort) (ch : Int) (s : Nat) (hv : v.hasView = true) (px py : Int)
    (h : InRect v px py) : ∃ c ∈ v.fill ch s, c.x = px ∧ c.y = py := by
  simp only [fill, hv, Bool.not_true, Bool.false_eq_true, if_false, List.mem_flatMap, List.mem_map, List.mem_range]
  obtain ⟨h1, h2, h3, h4⟩ := h
  refine ⟨_, ⟨(py - v.physy).toNat, by omega, (px - v.physx).toNat, by omega, rfl⟩, ?_, ?_⟩ <;> simp <;> omega

/-- What ValidateView establishes on one axis: the offset is non-negative, the window ends inside the
content when the content is at least as large as the view, and the offset is exactly 0 when the content is
smaller than the view. -/
def Clamped (off size lim : Int) : Prop :=
  0 ≤ off ∧ (size ≤ lim → off + size ≤ lim) ∧ (lim < size → off = 0)

def ClampedX (v : ViewPort) : Prop := Clamped v.viewx v.width v.limx
def ClampedY (v : ViewPort) : Prop := Clamped v.viewy v.height v.limy

instance (a b c : Int) : Decidable (Clamped a b c) := by unfold Clamped; infer_instance
instance (v : ViewPort) : Decidable (ClampedX v) := by unfold ClampedX; infer_instance
instance (v : ViewPort) : Decidable (ClampedY v) := by unfold ClampedY; infer_instance

theorem clampOff_clamped (off size lim : Int) : Clamped (clampOff off size lim) size lim := by
  simp only [Clamped, clampOff]; split <;> split <;> omega

/-- ValidateView is a projection: a clamped offset is left unchanged. -/
theorem clampOff_fixed {off size lim : Int} (h : Clamped off size lim) : clampOff off size lim = off := by
  simp only [Clamped] at h; simp only [clampOff]; split <;> split <;> omega

theorem validateViewX_clamped (v : ViewPort) : ClampedX v.validateViewX := by
  rw [validateViewX_eq]; exact clampOff_clamped ..

theorem validateViewY_clamped (v : ViewPort) : ClampedY v.validateViewY := by
  rw [validateViewY_eq]; exact clampOff_clamped ..

theorem validateView_fixed (v : ViewPort) (hx : ClampedX v) (hy : ClampedY v) : v.validateView = v := by
  simp only [validateView, validateViewX_eq, validateViewY_eq, clampOff_fixed hx, clampOff_fixed hy]

theorem validateView_clamped (v : ViewPort) : ClampedX v.validateView ∧ ClampedY v.validateView := by
  rw [validateView, validateViewX_eq, validateViewY_eq]; exact ⟨clampOff_clamped .., clampOff_clamped ..⟩

/-- **Clamping.**  After ScrollLeft/ScrollRight the x axis, after ScrollUp/ScrollDown the y axis, and after
MakeVisible, SetSize, SetContentSize and an effective Center both axes are clamped — from *every* prior
state and for every argument (negative and huge scroll amounts included). -/
theorem vp_clamp (v : ViewPort) (n x y w h : Int) (l : Bool) :
    ClampedX (v.scrollLeft n) ∧ ClampedX (v.scrollRight n) ∧
    ClampedY (v.scrollUp n) ∧ ClampedY (v.scrollDown n) ∧
    (ClampedX (v.makeVisible x y) ∧ ClampedY (v.makeVisible x y)) ∧
    (ClampedX (v.setSize w h) ∧ ClampedY (v.setSize w h)) ∧
    (ClampedX (v.setContentSize w h l) ∧ ClampedY (v.setContentSize w h l)) ∧
    (v.centerSkips x y = false → ClampedX (v.center x y) ∧ ClampedY (v.center x y)) ∧
    (v.centerSkips x y = true → v.center x y = v) := by
  refine ⟨validateViewX_clamped _, validateViewX_clamped _, validateViewY_clamped _, validateViewY_clamped _,
    validateView_clamped _, validateView_clamped _, validateView_clamped _, ?_, ?_⟩
  · intro hs; simp only [center, hs, Bool.false_eq_true, if_false]; exact validateView_clamped _
  · intro hs; simp [center, hs]

/-- A scroll never touches the other axis, the placement, the size or the content size. -/
theorem vp_scroll_frame (v : ViewPort) (n : Int) :
    (v.scrollLeft n).viewy = v.viewy ∧ (v.scrollRight n).viewy = v.viewy ∧
    (v.scrollUp n).viewx = v.viewx ∧ (v.scrollDown n).viewx = v.viewx ∧
    (v.scrollLeft n).limx = v.limx ∧ (v.scrollLeft n).width = v.width ∧
    (v.scrollUp n).limy = v.limy ∧ (v.scrollUp n).height = v.height := by
  simp [scrollLeft, scrollRight, scrollUp, scrollDown, validateViewX_eq, validateViewY_eq]

/-- `Resize` does **not** re-validate the offsets (view.go:257-277 has no ValidateView): a clamped ViewPort can
be left with its window hanging over the end of the content.  Resize is not among the operations the
property names (scrolling, centring, make-visible), so this is outside the statement; the next
scroll/centre/make-visible re-clamps by `vp_clamp`. -/
theorem vp_resize_not_clamped :
    ∃ v : ViewPort, ClampedX v ∧ ¬ ClampedX (v.resize 20 10 0 0 8 5) :=
  ⟨{ viewx := 6, limx := 10, width := 4, height := 5, limy := 5 }, by decide, by decide⟩

/-- What Resize does guarantee: offsets and content size are untouched (so `0 ≤ offset` is preserved). -/
theorem vp_resize_frame (v : ViewPort) (px py x y w h : Int) :
    (v.resize px py x y w h).viewx = v.viewx ∧ (v.resize px py x y w h).viewy = v.viewy ∧
    (v.resize px py x y w h).limx = v.limx ∧ (v.resize px py x y w h).limy = v.limy := by
  simp only [resize]; split <;> simp

/-- Resize with an in-range origin and non-negative parent size keeps the ViewPort inside its parent:
`0 ≤ physx`, `physx + width ≤ px` (and y).  (With an out-of-range origin `physx` keeps its old value while the
width is computed from the requested one: outside the statement, see DESIGN.md.) -/
theorem vp_resize_inside (v : ViewPort) (px py x y w h : Int) (hv : v.hasView = true)
    (hx : 0 ≤ x ∧ x < px) (hy : 0 ≤ y ∧ y < py) :
    let v' := v.resize px py x y w h
    v'.physx = x ∧ v'.physy = y ∧ 0 ≤ v'.width ∧ v'.physx + v'.width ≤ px ∧ 0 ≤ v'.height ∧ v'.physy + v'.height ≤ py ∧
    (0 ≤ w → w ≤ px - x → v'.width = w) ∧ (0 ≤ h → h ≤ py - y → v'.height = h) := by
  have ax : ∀ {p o : Int} (old len : Int), 0 ≤ o ∧ o < p →
      resizeOrg p o old = o ∧ 0 ≤ resizeLen p o len ∧ o + resizeLen p o len ≤ p ∧
      (0 ≤ len → len ≤ p - o → resizeLen p o len = len) := by
    intro p o old len h; simp only [resizeOrg, resizeLen, h, and_self, if_true, true_and]; split <;> omega
  obtain ⟨x1, x2, x3, x4⟩ := ax v.physx w hx
  obtain ⟨y1, y2, y3, y4⟩ := ax v.physy h hy
  simp only [resize_eq v hv, x1, y1]
  exact ⟨trivial, trivial, x2, x3, y2, y3, x4, y4⟩

/-- **Auto-grow is monotone**: SetContent never shrinks the content limits; a locked ViewPort (or one without
parent) keeps them; an unlocked one ends with `limx ≥ x` … note the Go code sets the limit to `x` itself
(not `x+1`), so the cell just drawn is *not* inside the limits it created (quirk, mirrored). -/
theorem vp_autogrow_monotone (v : ViewPort) (x y ch : Int) (comb : List Int) (s : Nat) :
    let v' := (v.setContent x y ch comb s).1
    v.limx ≤ v'.limx ∧ v.limy ≤ v'.limy ∧ v'.locked = v.locked ∧
    ((v.locked = true ∨ v.hasView = false) → v'.limx = v.limx ∧ v'.limy = v.limy) ∧
    (v.locked = false → v.hasView = true → x ≤ v'.limx ∧ y ≤ v'.limy ∧
       v'.limx = (if x > v.limx then x else v.limx) ∧ v'.limy = (if y > v.limy then y else v.limy)) := by
  have ax : ∀ (lim a : Int), let g := if a > lim ∧ !v.locked then a else lim
      lim ≤ g ∧ (v.locked = true → g = lim) ∧ (v.locked = false → a ≤ g ∧ g = if a > lim then a else lim) := by
    intro lim a; cases v.locked <;> simp <;> split <;> omega
  obtain ⟨x1, x2, x3⟩ := ax v.limx x
  obtain ⟨y1, y2, y3⟩ := ax v.limy y
  simp only [setContent_fst, grow_eq]
  cases v.hasView
  · simp
  · exact ⟨x1, y1, rfl, fun h => h.elim (fun h => ⟨x2 h, y2 h⟩) (fun h => nomatch h),
      fun hl _ => ⟨(x3 hl).1, (y3 hl).1, (x3 hl).2, (y3 hl).2⟩⟩

/-- MakeVisible brings a cell inside the content into the window … -/
theorem mvOff_visible {off size lim x : Int} (h0 : 0 ≤ x) (hl : x < lim) (hs : 0 < size) :
    mvOff off size lim x ≤ x ∧ x < mvOff off size lim x + size := by
  simp only [mvOff]; split <;> split <;> omega

/-- … and ValidateView does not push it out again. -/
theorem clampOff_visible {off size lim x : Int} (h0 : 0 ≤ x) (hl : x < lim) (h : off ≤ x ∧ x < off + size) :
    clampOff off size lim ≤ x ∧ x < clampOff off size lim + size := by
  simp only [clampOff]; split <;> split <;> omega

theorem mvOff_noop {off size lim x : Int} (h1 : off ≤ x) (h2 : x < off + size) : mvOff off size lim x = off := by
  simp only [mvOff]; split <;> split <;> omega

/-- **MakeVisible makes the cell visible**: for every prior state, a cell inside the content limits
(`0 ≤ x < limx`, `0 ≤ y < limy`) lies in the window afterwards, provided the view has positive size. -/
theorem vp_makeVisible_visible (v : ViewPort) (x y : Int)
    (hx : 0 ≤ x ∧ x < v.limx) (hy : 0 ≤ y ∧ y < v.limy) (hw : 0 < v.width) (hh : 0 < v.height) :
    InWindow (v.makeVisible x y) x y := by
  have kx := clampOff_visible hx.1 hx.2 (mvOff_visible (off := v.viewx) hx.1 hx.2 hw)
  have ky := clampOff_visible hy.1 hy.2 (mvOff_visible (off := v.viewy) hy.1 hy.2 hh)
  simp only [InWindow, makeVisible, validateView, mvX_eq, mvY_eq, validateViewX_eq, validateViewY_eq]
  exact ⟨kx.1, kx.2, ky.1, ky.2⟩

/-- MakeVisible of a cell that is already visible in a clamped ViewPort changes nothing ("the minimum
necessary"). -/
theorem vp_makeVisible_noop (v : ViewPort) (x y : Int) (hin : InWindow v x y)
    (cx : ClampedX v) (cy : ClampedY v) : v.makeVisible x y = v := by
  simp only [makeVisible, mvX_eq, mvY_eq, mvOff_noop hin.1 hin.2.1, mvOff_noop hin.2.2.1 hin.2.2.2]
  exact validateView_fixed v cx cy

/-! hypotheses are satisfiable / concrete instances -/
example : (({ physx := 2, physy := 1, viewx := 3, viewy := 0, limx := 20, limy := 5, width := 4, height := 2 } : ViewPort).setContent
    5 1 65 [] 0).2 = [{ x := 4, y := 2, ch := 65, comb := [], style := 0 }] := by decide
example : (({ physx := 2, physy := 1, viewx := 3, viewy := 0, limx := 20, limy := 5, width := 4, height := 2 } : ViewPort).setContent
    7 1 65 [] 0).2 = [] := by decide
example : InWindow (({ viewx := 0, limx := 20, limy := 5, width := 4, height := 2 } : ViewPort).makeVisible 9 4) 9 4 := by
  decide
example : (({ viewx := 0, limx := 20, limy := 5, width := 4, height := 2 } : ViewPort).scrollRight 100).viewx = 16 := by decide
example : (({ viewx := 0, limx := 3, limy := 5, width := 4, height := 2 } : ViewPort).scrollRight 100).viewx = 0 := by decide

/-! ## BoxLayout: geometry of the children rectangles

`layoutPlaces` gives the `Resize` arguments of every child; `childRects` what the children's ViewPorts become
(for arbitrary previous ViewPorts `olds`, all of which have the layout's view as parent).  "Along the axis" is x
for a horizontal and y for a vertical layout (`aStart`, `aLen`); `cStart`, `cLen` are the cross axis.
A rectangle is non-empty when both extents are positive; empty rectangles can keep a stale origin
(ViewPort.Resize ignores an origin outside the parent) and are excluded from order/containment statements —
nothing can be drawn through them (`vp_contain`). -/

section geometry
variable {F : Type} [LayoutNum F]

/-- extents handed to the children: preferred extent + padding -/
def extents (hz : Bool) (avail : Int) (cs : List (Child F)) : List Int :=
  List.zipWith (· + ·) (cs.map (Child.ext hz)) (pads avail (sumInt (cs.map (Child.ext hz))) (cs.map (·.fill)))

def childRects (hz : Bool) (vw vh : Int) (olds : List ViewPort) (cs : List (Child F)) : List ViewPort :=
  List.zipWith (applyPlace vw vh) olds (layoutPlaces hz vw vh cs)

theorem layoutPlaces_eq (hz : Bool) (vw vh : Int) (cs : List (Child F)) :
    layoutPlaces hz vw vh cs = placeAlong hz vw vh 0 (extents hz (if hz then vw else vh) cs) := rfl

/-- Hypotheses under which the geometry theorems hold: the view has non-negative size, the children report
non-negative preferred extents, the paddings are non-negative (proved for exact arithmetic: `pads_nonneg`),
and the children's ViewPorts have a parent. -/
structure GeoOK (hz : Bool) (vw vh : Int) (olds : List ViewPort) (cs : List (Child F)) : Prop where
  vw0 : 0 ≤ vw
  vh0 : 0 ≤ vh
  ext0 : ∀ c ∈ cs, 0 ≤ c.ext hz
  pad0 : ∀ p ∈ pads (if hz then vw else vh) (sumInt (cs.map (Child.ext hz))) (cs.map (·.fill)), 0 ≤ p
  par : ∀ o ∈ olds, o.hasView = true

theorem extents_nonneg {hz : Bool} {vw vh : Int} {olds : List ViewPort} {cs : List (Child F)}
    (g : GeoOK hz vw vh olds cs) : ∀ e ∈ extents hz (if hz then vw else vh) cs, 0 ≤ e := by
  intro e he
  obtain ⟨i, hi⟩ := List.getElem?_of_mem he
  obtain ⟨a, b, h1, h2, rfl⟩ := List.getElem?_zipWith_eq_some.1 hi
  obtain ⟨c, hc, rfl⟩ := List.mem_map.1 (List.mem_of_getElem? h1)
  have := g.ext0 c hc
  have := g.pad0 b (List.mem_of_getElem? h2)
  omega

theorem childRect_slot {hz : Bool} {vw vh : Int} {olds : List ViewPort} {cs : List (Child F)}
    (g : GeoOK hz vw vh olds cs) (i : Nat) (r : ViewPort) (hr : (childRects hz vw vh olds cs)[i]? = some r) :
    ∃ e, (extents hz (if hz then vw else vh) cs)[i]? = some e ∧ 0 ≤ e ∧
      let s := sumInt ((extents hz (if hz then vw else vh) cs).take i)
      let avail := if hz then vw else vh
      let cross := if hz then vh else vw
      0 ≤ s ∧ aLen hz r = (if e > avail - s then avail - s else e) ∧ (s < avail → aStart hz r = s) ∧
      cLen hz r = cross ∧ (0 < cross → cStart hz r = 0) := by
  obtain ⟨o, p, ho, hp, rfl⟩ := List.getElem?_zipWith_eq_some.1 hr
  rw [layoutPlaces_eq, placeAlong_get, Int.zero_add] at hp
  obtain ⟨e, he, rfl⟩ := Option.map_eq_some_iff.1 hp
  have hnn := extents_nonneg g
  have he0 := hnn e (List.mem_of_getElem? he)
  have hs0 := sum_take_nonneg _ i hnn
  exact ⟨e, he, he0, hs0, applyPlace_slot hz vw vh _ e o (g.par o (List.mem_of_getElem? ho)) hs0 he0⟩

theorem childRect_nonempty {hz : Bool} {vw vh : Int} {olds : List ViewPort} {cs : List (Child F)}
    (g : GeoOK hz vw vh olds cs) (i : Nat) (r : ViewPort) (hr : (childRects hz vw vh olds cs)[i]? = some r)
    (ne : 0 < aLen hz r) :
    ∃ e, (extents hz (if hz then vw else vh) cs)[i]? = some e ∧
      0 ≤ sumInt ((extents hz (if hz then vw else vh) cs).take i) ∧
      aStart hz r = sumInt ((extents hz (if hz then vw else vh) cs).take i) ∧ aLen hz r ≤ e ∧
      aStart hz r + aLen hz r ≤ (if hz then vw else vh) := by
  obtain ⟨e, he, _, hs, hl, hst, _⟩ := childRect_slot g i r hr
  -- a non-empty clipped extent starts inside the view
  have clip : ∀ {l e avail s : Int}, l = (if e > avail - s then avail - s else e) → 0 < l → s < avail ∧ l ≤ e ∧ s + l ≤ avail := by
    intro l e avail s hl; split at hl <;> omega
  obtain ⟨h1, h2, h3⟩ := clip hl ne
  exact ⟨e, he, hs, hst h1, h2, hst h1 ▸ h3⟩

/-- **Order and disjointness.**  Children are placed in list order along the axis and never overlap: the end of
an earlier non-empty child rectangle is at or before the start of every later non-empty one. -/
theorem box_order_disjoint {hz : Bool} {vw vh : Int} {olds : List ViewPort} {cs : List (Child F)}
    (g : GeoOK hz vw vh olds cs) (i j : Nat) (ri rj : ViewPort) (hij : i < j)
    (hi : (childRects hz vw vh olds cs)[i]? = some ri) (hj : (childRects hz vw vh olds cs)[j]? = some rj)
    (ni : 0 < aLen hz ri) (nj : 0 < aLen hz rj) :
    aStart hz ri + aLen hz ri ≤ aStart hz rj := by
  obtain ⟨ei, hei, _, hsi, hli, _⟩ := childRect_nonempty g i ri hi ni
  obtain ⟨_, _, _, hsj, _⟩ := childRect_nonempty g j rj hj nj
  have hstep := sum_take_step _ i j ei (extents_nonneg g) hij hei
  omega

/-- **Inside the layout's own view.**  Every non-empty child rectangle lies inside `[0,vw) × [0,vh)` of the
layout's view (children that do not fit are clipped or become empty), and spans the whole cross axis. -/
theorem box_inside {hz : Bool} {vw vh : Int} {olds : List ViewPort} {cs : List (Child F)}
    (g : GeoOK hz vw vh olds cs) (i : Nat) (r : ViewPort) (hi : (childRects hz vw vh olds cs)[i]? = some r)
    (ne : 0 < aLen hz r) (nc : 0 < cLen hz r) :
    0 ≤ aStart hz r ∧ aStart hz r + aLen hz r ≤ (if hz then vw else vh) ∧
    cStart hz r = 0 ∧ cLen hz r = (if hz then vh else vw) := by
  obtain ⟨_, _, _, _, _, _, hc, hcs⟩ := childRect_slot g i r hi
  obtain ⟨_, _, hs, hst, _, hin⟩ := childRect_nonempty g i r hi ne
  exact ⟨hst ▸ hs, hin, hcs (hc ▸ nc), hc⟩

/-- **At least the preferred extent when space suffices.**  If the extents handed out fit the view (which is the
case when the preferred extents fit and the paddings add up to at most the surplus — `pads_total`), child i
gets exactly preferred + padding ≥ preferred, and its origin is where the running sum puts it. -/
theorem box_pref_when_fits {hz : Bool} {vw vh : Int} {olds : List ViewPort} {cs : List (Child F)}
    (g : GeoOK hz vw vh olds cs) (hfit : sumInt (extents hz (if hz then vw else vh) cs) ≤ (if hz then vw else vh))
    (i : Nat) (r : ViewPort) (c : Child F) (hi : (childRects hz vw vh olds cs)[i]? = some r) (hc : cs[i]? = some c) :
    ∃ p, (pads (if hz then vw else vh) (sumInt (cs.map (Child.ext hz))) (cs.map (·.fill)))[i]? = some p ∧
      aLen hz r = c.ext hz + p ∧ c.ext hz ≤ aLen hz r ∧
      (0 < aLen hz r → aStart hz r = sumInt ((extents hz (if hz then vw else vh) cs).take i)) := by
  obtain ⟨e, he, he0, hs, hl, hst, _⟩ := childRect_slot g i r hi
  have htot := sum_take_le_total _ i e (extents_nonneg g) he
  obtain ⟨a, p, ha, hp, rfl⟩ := List.getElem?_zipWith_eq_some.1 he
  obtain rfl : c.ext hz = a := by simpa [hc] using ha
  have hp0 := g.pad0 p (List.mem_of_getElem? hp)
  generalize (if hz = true then vw else vh) = avail at *
  rw [if_neg (by omega)] at hl
  exact ⟨p, hp, by omega, by omega, fun h => hst (by omega)⟩

end geometry

/-! ## BoxLayout: distribution of the surplus (exact arithmetic)

The share computation instantiated with `Rat`.  The one property of the number type that is used is the floor
property `ratTrunc_floor_prop` (`trunc q ≤ q < trunc q + 1` for `q ≥ 0`), proved in Tcell.Lemmas.Views; for
float64 the corresponding facts are monitored on the real code by the `box` oracle (exact sum, share ± 1). -/

section shares
open LayoutNum

/-- the surplus: view extent minus the sum of the preferred extents, at least 0 (boxlayout.go:58-61) -/
def surplus (avail used : Int) : Int := if avail - used < 0 then 0 else avail - used

theorem pads_eq (avail used : Int) (fills : List Rat) (ht : 0 < totFill fills) :
    pads avail used fills =
      (distribute (surplus avail used - psum (fills.map (shareCell (surplus avail used) (totFill fills)))).toNat
        (fills.map (shareCell (surplus avail used) (totFill fills)))).map (·.pad) := by
  have heq : LayoutNum.eq (totFill fills) (LayoutNum.zero : Rat) = false := (eqz_false_iff _).2 (by grind)
  simp only [pads, psum, surplus, heq, Bool.false_eq_true, if_false]

theorem surplus_nonneg (avail used : Int) : 0 ≤ surplus avail used := by unfold surplus; split <;> omega

theorem near_floor (q : Rat) (p : Int) (h : p = q.floor ∨ (p = q.floor + 1 ∧ 0 < q - (q.floor : Rat))) :
    q.floor ≤ p ∧ p ≤ q.floor + 1 ∧ q - 1 < (p : Rat) ∧ (p : Rat) < q + 1 := by
  have h1 := Rat.floor_le q
  have h2 := Rat.lt_floor_add_one q
  rcases h with rfl | ⟨rfl, h3⟩
  · exact ⟨Int.le_refl _, by omega, by grind, by grind⟩
  · rw [Rat.intCast_add]; exact ⟨by omega, Int.le_refl _, by grind, by grind⟩

/-- **pads_proportional**.
"In proportion to the fill factors", cell for cell: with non-negative fill factors of which at least one is positive,
every child's padding is the integer part of its exact share `surplus · fill_i / Σ fill` or that plus one —
`⌊share_i⌋ ≤ pad_i ≤ ⌊share_i⌋ + 1` — and it differs from the exact share by strictly less than one cell,
`|pad_i − share_i| < 1`.  Together with `pads_total` (the paddings add up to the surplus exactly) this is the
largest-remainder apportionment.  The upper half is the comment of boxlayout.go:76-78 ("no single cell gets more than
one more cell") made a theorem: the pass never picks a cell twice, because `Σ frac` exceeds the number of cells still
to hand out minus one, so the maximal `frac` is positive, and a picked cell's `frac` is 0 afterwards
(`Tcell.Views.pass_on_shares`, Lemmas/ViewsProp.lean). -/
theorem pads_proportional (avail used : Int) (fills : List Rat) (hf : ∀ f ∈ fills, 0 ≤ f)
    (hpos : ∃ f ∈ fills, 0 < f) (i : Nat) (p : Int) (hi : (pads avail used fills)[i]? = some p) :
    ∃ f, fills[i]? = some f ∧
      ((share (surplus avail used) (totFill fills) f).floor : Int) ≤ p ∧
      p ≤ (share (surplus avail used) (totFill fills) f).floor + 1 ∧
      share (surplus avail used) (totFill fills) f - 1 < (p : Rat) ∧
      (p : Rat) < share (surplus avail used) (totFill fills) f + 1 := by
  have hex := surplus_nonneg avail used
  have ht : 0 < totFill fills := by rw [totFill_eq_sum]; exact sum_pos_rat fills hf hpos
  rw [pads_eq avail used fills ht] at hi
  generalize surplus avail used = extra at *
  obtain ⟨_, _, hinv⟩ := pass_on_shares extra fills hex hf ht
  rw [List.getElem?_map] at hi
  obtain ⟨c', hc', rfl⟩ := Option.map_eq_some_iff.1 hi
  obtain ⟨c0, hc0, _, hcase⟩ := hinv i c' hc'
  rw [List.getElem?_map] at hc0
  obtain ⟨f, hfi, rfl⟩ := Option.map_eq_some_iff.1 hc0
  rw [shareCell_eq extra _ f hex ht (hf f (List.mem_of_getElem? hfi))] at hcase
  refine ⟨f, hfi, near_floor _ _ ?_⟩
  rcases hcase with ⟨hp, _⟩ | ⟨hp, _, hpos0⟩
  · exact .inl hp
  · exact .inr ⟨hp, hpos0⟩

/-- **Exact distribution.**  With non-negative fill factors of which at least one is positive, the paddings
add up to the surplus exactly — cell for cell —, every padding is non-negative and at least the integer part of
the proportional share `surplus · fill_i / Σ fill` (both bounds: `pads_proportional`).
(The `best == nil` dereference of boxlayout.go:89 is never reached: `best_some`.) -/
theorem pads_total (avail used : Int) (fills : List Rat) (hf : ∀ f ∈ fills, 0 ≤ f) (hpos : ∃ f ∈ fills, 0 < f) :
    (pads avail used fills).length = fills.length ∧
    sumInt (pads avail used fills) = surplus avail used ∧
    ∀ (i : Nat) (p : Int), (pads avail used fills)[i]? = some p →
      ∃ f, fills[i]? = some f ∧ (share (surplus avail used) (totFill fills) f).floor ≤ p ∧ 0 ≤ p := by
  have hex := surplus_nonneg avail used
  have ht : 0 < totFill fills := by rw [totFill_eq_sum]; exact sum_pos_rat fills hf hpos
  have hcells : ∃ c ∈ fills.map (shareCell (surplus avail used) (totFill fills)),
      LayoutNum.eq c.fill (LayoutNum.zero : Rat) = false := by
    obtain ⟨f, hm, h0⟩ := hpos
    refine ⟨_, List.mem_map_of_mem hm, (eqz_false_iff _).2 ?_⟩
    rw [shareCell_eq _ _ f hex ht (hf f hm)]; show f ≠ 0; grind
  obtain ⟨dl, dp, _⟩ := distribute_spec
    (surplus avail used - psum (fills.map (shareCell (surplus avail used) (totFill fills)))).toNat _ hcells
  have hle := (pass_on_shares _ fills hex hf ht).1
  refine ⟨?_, ?_, fun i p hi => ?_⟩
  · rw [pads_eq avail used fills ht, List.length_map, dl, List.length_map]
  · rw [pads_eq avail used fills ht]
    show psum _ = _
    rw [dp]; omega
  · obtain ⟨f, hfi, hlo, _⟩ := pads_proportional avail used fills hf hpos i p hi
    have hs0 := share_nonneg (surplus avail used) (totFill fills) f hex ht (hf f (List.mem_of_getElem? hfi))
    have hfl : 0 ≤ (share (surplus avail used) (totFill fills) f).floor := Rat.le_floor_iff.2 (by simpa using hs0)
    exact ⟨f, hfi, hlo, by omega⟩

/-- Without any positive fill factor nothing is distributed: every padding is 0 (children keep exactly their
preferred extent, boxlayout.go:63-65). -/
theorem pads_no_fill (avail used : Int) (fills : List Rat) (h0 : ∀ f ∈ fills, f = 0) :
    ∀ p ∈ pads avail used fills, p = 0 := by
  have hcell : ∀ c ∈ fills.map (shareCell (surplus avail used) (totFill fills)), c.pad = 0 := by
    intro c hc; obtain ⟨f, hm, rfl⟩ := List.mem_map.1 hc; rw [h0 f hm]; exact (shareCell_zero _ _).1
  -- nothing is left to hand out: the integer parts add up to 0 or more and the residue starts at 0
  have hn : (0 - psum (fills.map (shareCell (surplus avail used) (totFill fills)))).toNat = 0 := by
    have := sumInt_nonneg ((fills.map (shareCell (surplus avail used) (totFill fills))).map (·.pad))
      (fun e he => by obtain ⟨c, hc, rfl⟩ := List.mem_map.1 he; rw [hcell c hc]; exact Int.le_refl 0)
    unfold psum; omega
  intro p hp
  simp only [pads, (eqz_true_iff _).2 ((totFill_eq_sum fills).trans (sum_zero_rat fills h0)), if_true] at hp
  rw [show (if avail - used < 0 then 0 else avail - used) = surplus avail used from rfl, ← psum, hn, distribute_zero] at hp
  obtain ⟨c, hc, rfl⟩ := List.mem_map.1 hp
  exact hcell c hc

/-- Consequence used by the geometry theorems: with non-negative fill factors every padding is non-negative. -/
theorem pads_nonneg (avail used : Int) (fills : List Rat) (hf : ∀ f ∈ fills, 0 ≤ f) :
    ∀ p ∈ pads avail used fills, 0 ≤ p := by
  intro p hp
  by_cases hpos : ∃ f ∈ fills, 0 < f
  · obtain ⟨i, hi⟩ := List.getElem?_of_mem hp
    exact ((pads_total avail used fills hf hpos).2.2 i p hi).choose_spec.2.2
  · have h0 : ∀ f ∈ fills, f = 0 := fun f hm => by
      have h1 := hf f hm
      have h2 : ¬ 0 < f := fun h => hpos ⟨f, hm, h⟩
      grind
    rw [pads_no_fill avail used fills h0 p hp]; exact Int.le_refl 0

/-- the hypotheses are satisfiable and both cases occur: surplus 6 over fills 1,1,2 has exact shares 3/2, 3/2, 3 and
paddings 2, 1, 3 — the first cell is rounded up, the second down, the third is exact -/
example : pads 10 4 [(1 : Rat), 1, 2] = [2, 1, 3] ∧ share (surplus 10 4) (totFill [(1 : Rat), 1, 2]) 1 = 3 / 2 ∧
    share (surplus 10 4) (totFill [(1 : Rat), 1, 2]) 2 = 3 := by decide +kernel

example : pads 10 4 [(1 : Rat), 1, 2] = [2, 1, 3] := by decide +kernel
example : pads 10 4 [(0 : Rat), 0] = [0, 0] := by decide +kernel
example : pads 3 9 [(1 : Rat), 2] = [0, 0] := by decide +kernel

end shares

section together

/-- For exact arithmetic the geometry hypotheses reduce to the domain of the property: non-negative view size,
non-negative preferred extents, non-negative fill factors, children ViewPorts attached to the layout's view. -/
theorem geoOK_rat (hz : Bool) (vw vh : Int) (olds : List ViewPort) (cs : List (Child Rat))
    (h1 : 0 ≤ vw) (h2 : 0 ≤ vh) (h3 : ∀ c ∈ cs, 0 ≤ c.ext hz) (h4 : ∀ c ∈ cs, 0 ≤ c.fill)
    (h5 : ∀ o ∈ olds, o.hasView = true) : GeoOK hz vw vh olds cs :=
  ⟨h1, h2, h3, pads_nonneg _ _ _ (List.forall_mem_map.2 h4), h5⟩

theorem sum_zipWith_add : ∀ (a b : List Int), a.length = b.length →
    sumInt (List.zipWith (· + ·) a b) = sumInt a + sumInt b
  | [], [], _ => by simp
  | x :: a, y :: b, h => by
    have := sum_zipWith_add a b (by simpa using h)
    simp [this]; omega
  | [], _ :: _, h => by simp at h
  | _ :: _, [], h => by simp at h

/-- **When space suffices the children fill the view exactly.**  If the preferred extents fit and some fill factor
is positive, the extents handed out (preferred + padding) add up to exactly the extent of the view — so
`box_pref_when_fits` applies: every child gets its preferred extent plus its padding, nothing is clipped. -/
theorem extents_fill_view (hz : Bool) (avail : Int) (cs : List (Child Rat)) (h4 : ∀ c ∈ cs, 0 ≤ c.fill)
    (hpos : ∃ c ∈ cs, 0 < c.fill) (hfit : sumInt (cs.map (Child.ext hz)) ≤ avail) :
    sumInt (extents hz avail cs) = avail := by
  obtain ⟨hl, hs, _⟩ := pads_total avail (sumInt (cs.map (Child.ext hz))) (cs.map (·.fill))
    (List.forall_mem_map.2 h4) (hpos.imp' (·.fill) fun _ h => ⟨List.mem_map_of_mem h.1, h.2⟩)
  unfold extents
  rw [sum_zipWith_add _ _ (by simp [hl]), hs]
  unfold surplus; split <;> omega

/-- **Re-layout is stable**: laying out again with unchanged inputs (same view size, same children) leaves every
child ViewPort as it is — the result of a layout depends only on the orientation, the view size and the
current child list (`layoutPlaces` is a function of exactly these), not on the history of
AddWidget/InsertWidget/RemoveWidget/Resize/SetOrientation calls that produced the list.  In the heap model
(Tcell.Model.ViewsTree) every one of these operations ends in `Heap.layout`, which applies `layoutPlaces` to
the new child list; the `box` engine compares that model with boxlayout.go after every operation. -/
theorem layout_functional (vw vh : Int) (o : ViewPort) (p : Place) :
    applyPlace vw vh (applyPlace vw vh o p) p = applyPlace vw vh o p := by
  simp only [applyPlace, ViewPort.resize]
  cases hv : o.hasView
  · simp [hv]
  · simp only [Bool.not_true, Bool.false_eq_true, if_false]
    congr 1 <;> (split <;> simp_all)

example : GeoOK true 10 3 [({} : ViewPort), {}]
    [({ w := 3, h := 1, fill := (1 : Rat) } : Child Rat), { w := 2, h := 1, fill := 0 }] := by
  apply geoOK_rat
  · decide
  · decide
  · intro c hc; simp at hc; rcases hc with rfl | rfl <;> decide
  · intro c hc; simp at hc; rcases hc with rfl | rfl <;> decide
  · intro o ho; simp at ho; subst ho; rfl

example : extents true 10 [({ w := 3, h := 1, fill := (1 : Rat) } : Child Rat), { w := 2, h := 1, fill := 0 }] = [8, 2] := by
  decide +kernel

end together

end Tcell.Props.C20
