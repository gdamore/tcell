/-
C19 – WebAssembly backend: property theorems.

* lock skeletons (`Tcell.Gen.wLockFacts`, regenerated from wscreen.go): what the checker `WLock.balanced`
  means (`lock_balanced`), the kernel's verdict on the current tree, and `lifecycle_no_self_deadlock`;
* key / mouse translation over the regenerated `Tcell.Gen.webKeys`;
* the page (`page_frame`, `page_faithful`) is in Props/C19Page.lean.
-/
import Tcell.Model.WScreen
import Tcell.Model.WLock
import Tcell.Lemmas.WLock
import Tcell.Lemmas.Cell
import Tcell.Lemmas.Color
import Tcell.Props.C08
import Tcell.Gen.WebKeys
import Tcell.Gen.WLockFacts
import Tcell.Gen.Consts
namespace Tcell.Props.C19
open Tcell Tcell.WScreen Tcell.WLock

/-- **lock_balanced** (meaning of the checker).  If `balanced sk` evaluates to true then *every* execution of the
method – whatever its conditions evaluate to – entered with the mutex free never locks it twice, never unlocks a
free mutex, and has released it when the function exits (deferred unlocks included). -/
theorem lock_balanced {E : Type} (sem : Sem E) (sk : Sk) (hb : balanced sk = true) (e : E) :
    ∃ s', ((run sem sk {} e).1 = Out.fall s' ∨ (run sem sk {} e).1 = Out.returned s') ∧ exitHeld s' = some false :=
  balanced_sound sem sk hb e

/-- **lock_balanced_tree** (full strength, current tree).  Kernel verdict on the skeletons regenerated from the current
wscreen.go: EVERY method with receiver `*wScreen` – `Suspend` and `Resume` included – is balanced, so by `lock_balanced`
every execution of every method entered with the mutex free returns with it free.  Holds since /repo 2cbae24 ("Suspend and
Resume release the screen lock on every path"); on the pinned tree only the statement with those two methods excepted held
(`pinned_not_balanced` below is the hand copy of the pinned bodies; finding `lock-leak`).  On a tree where some method
leaks, this declaration fails to check and the `wasm locks` case reports the method and the failing path. -/
theorem lock_balanced_tree : ∀ p ∈ Gen.wLockFacts, balanced p.2 = true := by decide +kernel

/-- the names of the receiver methods a skeleton calls while they take the mutex themselves -/
def callees : Sk → List String
  | .nil | .ret => []
  | .lock k | .unlock k | .deferUnlock k | .setRunning _ k | .post k => callees k
  | .callLocking n k => n :: callees k
  | .ite _ t f k => callees t ++ callees f ++ callees k
  | .loop b k => callees b ++ callees k

/-- `run`/`post` treat a `callLocking` step as "returns with the mutex as it found it"; that is justified on the current
tree: every such callee is itself a method of the regenerated list, hence balanced by `lock_balanced_tree`. -/
theorem callees_balanced : ∀ p ∈ Gen.wLockFacts, ∀ n ∈ callees p.2, ∃ sk, Gen.wLockFacts.lookup n = some sk ∧ balanced sk = true := by
  have h : (Gen.wLockFacts.all fun p => (callees p.2).all fun n =>
      match Gen.wLockFacts.lookup n with | some sk => balanced sk | none => false) = true := by decide +kernel
  intro p hp n hn
  have := List.all_eq_true.mp (List.all_eq_true.mp h p hp) n hn
  cases hl : Gen.wLockFacts.lookup n with
  | none => rw [hl] at this; cases this
  | some sk => rw [hl] at this; exact ⟨sk, rfl, this⟩

/-- non-vacuity: the list is the 47-odd methods of the source, `Suspend`/`Resume`/`Init` really take and release the mutex
(their skeletons contain `lock`), and `HideCursor` has a locking callee -/
example : 40 ≤ Gen.wLockFacts.length ∧ (Gen.wLockFacts.lookup "Suspend").isSome = true ∧ (Gen.wLockFacts.lookup "Resume").isSome = true ∧
    Gen.wLockFacts.lookup "Suspend" ≠ some .nil ∧ callees ((Gen.wLockFacts.lookup "HideCursor").getD .nil) = ["ShowCursor"] := by
  decide +kernel

/-- wscreen.go:479-508 as pinned (hand copy, independent of the regenerated module) -/
def pinnedSuspend : Sk := .lock (.ite "!t.running" (.unlock .ret) .nil (.setRunning false .ret))
def pinnedResume : Sk := .lock (.ite "t.running" .ret .nil (.setRunning true (.unlock .ret)))
/-- the same two methods with fixes/C19-suspend-unlock.patch applied -/
def repairedSuspend : Sk := .lock (.ite "!t.running" (.unlock .ret) .nil (.setRunning false (.unlock .ret)))
def repairedResume : Sk := .lock (.ite "t.running" (.unlock .ret) .nil (.setRunning true (.unlock .ret)))

/-- witness paths of the defect: `Suspend` on a running screen and `Resume` on a running screen return with the
mutex held -/
theorem pinned_suspend_leaks : (run lsem pinnedSuspend {} { running := true }).1 = Out.returned { held := true } := by decide
theorem pinned_resume_leaks : (run lsem pinnedResume {} { running := true }).1 = Out.returned { held := true } := by decide
theorem pinned_not_balanced : balanced pinnedSuspend = false ∧ balanced pinnedResume = false := by decide
theorem repaired_balanced : balanced repairedSuspend = true ∧ balanced repairedResume = true := by decide

def pinnedFacts : List (String × Sk) := [("Fini", .nil), ("Resume", pinnedResume), ("SetSize", .ite "w == t.w && h == t.h" .ret .nil (.post .nil)), ("Suspend", pinnedSuspend)]
def repairedFacts : List (String × Sk) := [("Fini", .nil), ("Resume", repairedResume), ("SetSize", .ite "w == t.w && h == t.h" .ret .nil (.post .nil)), ("Suspend", repairedSuspend)]

/-- on the pinned skeleton `Suspend(); Resume()` never returns -/
theorem pinned_suspend_resume_deadlocks : lifeRun pinnedFacts {} [.suspend, .resume] = none := by decide

def lifecycleMethods : List String := ["Suspend", "Resume", "SetSize", "Fini"]

/-- **lifecycle_no_self_deadlock.**  If the skeletons of the four lifecycle methods are balanced, then every
sequence of Suspend / Resume / SetSize / Fini calls – any order, any length, any sizes – started with the mutex
free returns from every call, and the mutex is free again at the end. -/
theorem lifecycle_no_self_deadlock (facts : List (String × Sk))
    (hb : ∀ name ∈ lifecycleMethods, balancedAt facts name = true)
    (ops : List LifeOp) : ∀ st : LState, st.held = false → ∃ st', lifeRun facts st ops = some st' ∧ st'.held = false := by
  induction ops with
  | nil => intro st h; exact ⟨st, rfl, h⟩
  | cons op ops ih =>
    intro st h
    have hm : op.method ∈ lifecycleMethods := by cases op <;> simp [LifeOp.method, lifecycleMethods]
    have hstep : ∃ st', lifeStep facts st op = some st' ∧ st'.held = false := by
      cases op with
      | setSize w hh =>
        obtain ⟨r, hr⟩ := callM_balanced facts "SetSize" st.running (decide (w = st.w) && decide (hh = st.h)) (hb _ hm)
        exact ⟨{ st with held := false, running := r, w := w, h := hh }, by simp only [lifeStep, h, hr, Option.map], rfl⟩
      | _ =>
        obtain ⟨r, hr⟩ := callM_balanced facts _ st.running false (hb _ hm)
        exact ⟨{ st with held := false, running := r }, by simp only [lifeStep, h, hr, Option.map], rfl⟩
    obtain ⟨st1, h1, hh1⟩ := hstep
    obtain ⟨st2, h2, hh2⟩ := ih st1 hh1
    exact ⟨st2, by simp [lifeRun, h1, h2], hh2⟩

/-- the hypothesis of `lifecycle_no_self_deadlock` is satisfiable: the repaired skeleton meets it -/
example : ∀ name ∈ lifecycleMethods, balancedAt repairedFacts name = true := by decide

/-- and the conclusion then holds, e.g. for `Suspend(); Resume()` which wedges the pinned code -/
example : ∃ st', lifeRun repairedFacts {} [.suspend, .resume] = some st' ∧ st'.held = false :=
  lifecycle_no_self_deadlock repairedFacts (by decide) _ {} rfl

/-- the four lifecycle methods of the current tree are balanced (kernel evaluation over the regenerated skeleton; holds
since /repo 2cbae24 – before it only `SetSize` and `Fini` were) -/
theorem lifecycle_tree : ∀ name ∈ lifecycleMethods, balancedAt Gen.wLockFacts name = true := by decide +kernel

/-- **lifecycle_no_self_deadlock_tree** (full strength, current tree): for the skeleton regenerated from the current
wscreen.go, every sequence of Suspend / Resume / SetSize / Fini calls – any order, any length, any sizes – started with
the mutex free returns from every call and ends with the mutex free.  (`Suspend(); Resume()` wedged the pinned code:
`pinned_suspend_resume_deadlocks`.) -/
theorem lifecycle_no_self_deadlock_tree (ops : List LifeOp) (st : LState) (h : st.held = false) :
    ∃ st', lifeRun Gen.wLockFacts st ops = some st' ∧ st'.held = false :=
  lifecycle_no_self_deadlock Gen.wLockFacts lifecycle_tree ops st h

/-- non-vacuity on the regenerated skeleton: the sequence that wedged the pinned code runs to completion, and the
methods are present (a missing method would count as "does not touch the mutex") -/
example : (lifeRun Gen.wLockFacts {} [.suspend, .resume, .setSize 100 40, .suspend, .suspend, .resume, .resume, .fini]).map (·.held) = some false ∧
    lifecycleMethods.all (fun n => (Gen.wLockFacts.lookup n).isSome) = true := by decide +kernel

/-- the names of the table, as character lists (the kernel converts each name once) -/
def keyNames : List (List Char) := Gen.webKeys.map (·.1.toList)

/-- the table is sorted by name; a name that starts with `Ctrl-` has exactly one more character, and no name is a single
character -/
theorem keyNames_shape : Color.chainB (fun a b => decide (a < b)) keyNames = true ∧
    (keyNames.all fun n => n.length != 1 && (n.take 5 != ['C', 't', 'r', 'l', '-'] || n.length == 6)) = true := by
  decide +kernel

theorem webKeys_nodup : Gen.webKeys.Pairwise (fun p q => p.1 ≠ q.1) :=
  (List.pairwise_map.1 (Color.pairwise_ne_of_sorted List.lt_trans List.lt_irrefl id keyNames_shape.1)).imp
    fun h e => h (congrArg String.toList e)

theorem webKeys_wf : ∀ p ∈ Gen.webKeys,
    p.1 ≠ "Control" ∧ p.1 ≠ "Alt" ∧ p.1 ≠ "Meta" ∧ p.1 ≠ "Shift" ∧ p.2 ≠ 256 := by decide +kernel

/-- no name of the table is shadowed by the Ctrl-<key> special case of onKeyEvent: `Ctrl-` followed by the lower-cased
name `n` could only be one of the names `Ctrl-c`, and then `n` would be a single character -/
theorem webKeys_ctrl_free : ∀ p ∈ Gen.webKeys, Gen.webKeys.lookup ("Ctrl-" ++ lowerAscii p.1) = none := by
  intro p hp
  have shape (q : String × Nat) (hq : q ∈ Gen.webKeys) := List.all_eq_true.1 keyNames_shape.2 _ (List.mem_map_of_mem hq)
  rw [List.lookup_eq_none_iff]
  intro q hq
  rw [bne_iff_ne]
  intro e
  have hl : q.1.toList = ['C', 't', 'r', 'l', '-'] ++ (lowerAscii p.1).toList := by
    rw [← e, String.toList_append]; rfl
  have hlen : (lowerAscii p.1).toList.length = p.1.toList.length := by
    rw [lowerAscii, String.toList_ofList, List.length_map]
  have hq := shape q hq
  have hp := shape p hp
  simp [hl, hlen] at hq hp
  exact hp.1 hq

/-- **key_table.**  For every `KeyboardEvent.key` name of the regenerated table and every combination of the four
modifiers, `onKeyEvent` posts exactly the key the table gives, rune 0, with exactly those modifiers. -/
theorem key_table : ∀ p ∈ Gen.webKeys, ∀ sh al ct me : Bool,
    onKey Gen.webKeys p.1 sh al ct me = some (Ev.key p.2 0 (keyMods sh al ct me)) := by
  intro p hp sh al ct me
  obtain ⟨h1, h2, h3, h4, h5⟩ := webKeys_wf p hp
  have hl : Gen.webKeys.lookup p.1 = some p.2 := Color.lookup_of_mem webKeys_nodup hp
  have hc := webKeys_ctrl_free p hp
  unfold onKey
  rw [if_neg (by simp [h1, h2, h3, h4])]
  have : (if keyMods sh al ct me = modCtrl then Gen.webKeys.lookup ("Ctrl-" ++ lowerAscii p.1) else none) = none := by
    split <;> simp [hc]
  simp only [this, hl, newEventKey, keyRune, h5, false_and, if_false]

/-- spelling of a table name in key.go's `KeyNames` (DOM spells the arrows and Escape differently, and the
Ctrl-<letter> helper names are lower case) -/
def canonName (n : String) : String :=
  if n = "ArrowUp" then "Up" else if n = "ArrowDown" then "Down" else if n = "ArrowLeft" then "Left"
  else if n = "ArrowRight" then "Right" else if n = "Escape" then "Esc" else if n = "Ctrl- " then "Ctrl-Space"
  else match n.toList with
    | ['C', 't', 'r', 'l', '-', c] => String.ofList ['C', 't', 'r', 'l', '-', if 'a' ≤ c ∧ c ≤ 'z' then Char.ofNat (c.toNat - 32) else c]
    | _ => n

/-- **key_table_names.**  Independent cross-check of the table itself: every entry of `WebKeyNames` (wscreen.go)
maps its name to the key that key.go's `KeyNames` calls by that name – two tables of the source, both regenerated,
compared by the kernel. -/
theorem key_table_names : ∀ p ∈ Gen.webKeys, Gen.wKeyNames.lookup p.2 = some (canonName p.1) := by decide +kernel

/-- **ctrl_letter.**  Ctrl alone with a key whose `Ctrl-<lowercase>` name is in the table gives that control key. -/
theorem ctrl_letter (name : String) (k : Nat) (hk : Gen.webKeys.lookup ("Ctrl-" ++ lowerAscii name) = some k)
    (hn : name ≠ "Control" ∧ name ≠ "Alt" ∧ name ≠ "Meta" ∧ name ≠ "Shift") (hk' : k ≠ 256) :
    onKey Gen.webKeys name false false true false = some (Ev.key k 0 modCtrl) := by
  unfold onKey
  rw [if_neg (by simp [hn.1, hn.2.1, hn.2.2.1, hn.2.2.2])]
  simp [keyMods, modCtrl, hk, newEventKey, keyRune, hk']

example : onKey Gen.webKeys "c" false false true false = some (Ev.key 3 0 modCtrl) := by decide +kernel
example : onKey Gen.webKeys "C" false false true false = some (Ev.key 3 0 modCtrl) := by decide +kernel

/-- **rune_key.**  A key string that is not a modifier name and not in the table (directly or through the Ctrl
special case) is reported as a rune key carrying its first code point and exactly the pressed modifiers
(printable: ≥ 0x20 and not DEL, so `NewEventKey` does not reinterpret it). -/
theorem rune_key (name : String) (sh al ct me : Bool)
    (hn : name ≠ "Control" ∧ name ≠ "Alt" ∧ name ≠ "Meta" ∧ name ≠ "Shift")
    (h1 : Gen.webKeys.lookup name = none)
    (h2 : keyMods sh al ct me = modCtrl → Gen.webKeys.lookup ("Ctrl-" ++ lowerAscii name) = none)
    (hp : 32 ≤ firstRune name ∧ firstRune name ≠ 0x7f) :
    onKey Gen.webKeys name sh al ct me = some (Ev.key keyRune (firstRune name) (keyMods sh al ct me)) := by
  unfold onKey
  rw [if_neg (by simp [hn.1, hn.2.1, hn.2.2.1, hn.2.2.2])]
  have : (if keyMods sh al ct me = modCtrl then Gen.webKeys.lookup ("Ctrl-" ++ lowerAscii name) else none) = none := by
    split
    · exact h2 ‹_›
    · rfl
  simp only [this, h1, newEventKey]
  rw [if_neg]
  intro h; omega

example : onKey Gen.webKeys "é" true false false false = some (Ev.key keyRune 233 modShift) := by decide +kernel

/-- **mouse_honoured_only_if_enabled.**  A callback produces an event only if the global it arrives on is bound
to the handler – which `enableMouse` does only for the enabled flag bits – and a pure motion report
(`which = 0`) additionally needs MouseMotionEvents. -/
theorem mouse_honoured_only_if_enabled (flags : Nat) (x y which : Int) (sh al ct : Bool) :
    -- click: onMouseClick is bound iff MouseButtonEvents (bit 0) is set
    ((mouseHandlers flags).1 = Handler.active ↔ flags % 2 = 1) ∧
    -- move: onMouseMove is bound iff MouseDragEvents (bit 1) or MouseMotionEvents (bit 2) is set
    ((mouseHandlers flags).2 = Handler.active ↔ (flags / 2 % 2 = 1 ∨ flags / 4 % 2 = 1)) ∧
    -- motion without a button is dropped unless MouseMotionEvents is set
    (which = 0 → flags / 4 % 2 = 0 → onMouse flags x y which sh al ct = none) := by
  refine ⟨?_, ?_, ?_⟩
  · unfold mouseHandlers; simp only; split <;> simp_all
  · unfold mouseHandlers; simp only; split <;> simp_all
  · intro h1 h2; simp [onMouse, h1, h2]

/-- **mouse_table.**  A delivered report carries the position, the DOM button (`which` 1 = primary → Button1,
2 = middle → Button3, 3 = secondary → Button2, 0 = none) and exactly the Shift/Alt/Ctrl modifiers. -/
theorem mouse_table (flags : Nat) (x y which : Int) (sh al ct : Bool) (hw : which = 0 → flags / 4 % 2 = 1) :
    onMouse flags x y which sh al ct =
      some (Ev.mouse x y (if which = 1 then Gen.button1 else if which = 2 then Gen.button3 else if which = 3 then Gen.button2 else 0)
        ((if sh then Gen.modShift else 0) + (if al then Gen.modAlt else 0) + (if ct then Gen.modCtrl else 0))) := by
  unfold onMouse
  rw [if_neg]
  · simp [mouseMods, modShift, modAlt, modCtrl, Gen.button1, Gen.button2, Gen.button3, Gen.modShift, Gen.modAlt, Gen.modCtrl]
  · intro h; have := hw h.1; omega

/-- the model's constants are the ones of the current source -/
example : modShift = Gen.modShift ∧ modCtrl = Gen.modCtrl ∧ modAlt = Gen.modAlt ∧ modMeta = Gen.modMeta ∧ keyRune = Gen.keyRune
    ∧ WScreen.colorValid = Gen.colorValid ∧ WScreen.colorIsRGB = Gen.colorIsRGB ∧ WScreen.colorBlack = Gen.colorBlack ∧ WScreen.colorWhite = Gen.colorWhite := by decide

/-- **palette_xterm.**  The regenerated `palette` of wscreen.go maps the 16 basic colours to the xterm default
RGB values (the values the property names), and `paletteColor` uses it for exactly those colours. -/
theorem palette_xterm : Gen.wPalette = (List.range 16).map (fun i => (2^32 + i,
    ([0x000000, 0xcd0000, 0x00cd00, 0xcdcd00, 0x0000ee, 0xcd00cd, 0x00cdcd, 0xe5e5e5,
      0x7f7f7f, 0xff0000, 0x00ff00, 0xffff00, 0x5c5cff, 0xff00ff, 0x00ffff, 0xffffff] : List Int).getD i 0)) := by decide

theorem paletteColor_rgb (p : Pal) (c : Nat) (h : isRGB c = true) : paletteColor p c = ((c % 2^24 : Nat) : Int) := by
  simp [paletteColor, h]

/-! ### callbacks become events: they wait for room, they are not dropped -/

/-- **post_event_waits_tree** (kernel verdict on the regenerated facts `Gen.wSelects`: per *wScreen method the number of `select`
statements and how many of them have a `default` clause).  `postEvent` — the one place where a JavaScript callback hands its event
to the application (wscreen.go) — is a single `select` WITHOUT a `default`: with the event queue full the callback waits for room
(or for Fini); it never discards the event.  "Key, mouse, paste and focus callbacks from JavaScript become the corresponding
events": none is lost, however many arrive in one JS task. -/
theorem post_event_waits_tree : Gen.wSelects.lookup "postEvent" = some (1, 0) := by decide

/-- the callbacks themselves contain no `select`: whatever they post goes through `postEvent` -/
theorem callbacks_have_no_select_tree :
    (["onKeyEvent", "onMouseEvent", "onPaste", "onFocus"].all fun n => (Gen.wSelects.lookup n).isNone) = true := by decide

end Tcell.Props.C19
