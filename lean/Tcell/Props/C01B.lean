/-
C01 / C13 / C09, Layer B: from abstract commands to bytes.

The byte-level reference emulator (`Spec.Ecma48`), fed exactly the bytes `Render.renderAll rc cmds` the byte-exact model writes
for every operation of any history, shows after Show in every unlocked visited cell the payload last set there with the SGR state
`LayerB.penOf rc style`, two columns wide for a wide rune, the cursor at the requested cell and visible
(`show_faithful_bytes_partial`); the same after Sync from arbitrary display contents (`sync_faithful_bytes_partial`); the strict
tokenizer has accepted every byte and is in the ground state (`output_wellformed_partial`, C09).  These follow from Layer A
(`Props.C01`) by the simulation `LayerB.rep_reach`.  No bound on sizes, histories, runes, colours or styles.

The `_partial` theorems are relative to `CfgB` (the effect of every capability string on the emulator, `CapsFx`, and of `ich1`
where the corner trick is in use, `IchFx`).  `cfgB_of_class` proves `CfgB` for the configuration the driver builds from any
description in one of two classes (`Lemmas/LayerBCaps.lean`):
* `XtermLike` — every string the draw path uses is, once TPuts has removed its padding, one of the listed ECMA-48 / xterm forms
  (sgr0 in nine, `cnorm` in five, `civis` in two, `op` in five, `clear` in three), or absent where the library tolerates that, and
  the draw path does not use the bottom-right insert-character trick: 41 of the 49 database entries (`db_layerB`);
* `CornerLike` — the same strings, the trick in use, `ich1` = ICH: beterm, cygwin, sun, sun-color (`db_cornerLike`).
`db_outside`: the other four entries (hpterm, vt52, wy50, wy60) do not speak ECMA-48; no entry is in both classes; the entries on
which drawCell uses the trick are exactly those of `CornerLike`.  The `db_…` / `cl_…` theorems are the `_partial` statements with
`CfgB` discharged.  `rwClip_ok`: the regenerated go-runewidth table on Go's `rune` range satisfies `RwOk` and `LayerB.RwB`;
`cup_accepted_all` (C09): `cup` is accepted by the strict tokenizer for all rows and columns.

What the `cl_` / `db_` theorems still assume or leave out:
  (1) `FitOk rc` — the colour-fitting function (go-colorful's nearest-colour search, parameter `RenderCfg.fit`) returns an entry of
      the screen's palette, if there is one.  The theorems hold for whatever entry it picks, and `penOf` names that entry.
      tcell's own `FindColor` scan over the screen's palette satisfies it for any colour distance (`xl_fitOk_findColor`).
  (2) hyperlinks (`Style.url ≠ ""`) and cursor-colour requests are outside the domain (`OpB`).  On the `CornerLike` entries the
      histories satisfy `World.SafeRun` (at every draw at least two columns and no locked cell in the last row — Layer A's side
      condition, needed there: `Props.C01.corner_trick_lock_desync`); it is vacuous without the trick (`xl_safeRun`).
  (3) the bytes written by Init are not modelled: the start state `e0` is any emulator state that is `Good` (parser in the ground
      state, UTF-8, no alternate character set, replace mode, no complaint) and `Quiet`: no hyperlink active where the screen has no
      hyperlink strings, the cursor visible where there is no `civis`/`cnorm`, FF clears where `clear` is FF (`Quiet.ff`; a Sun
      console).  The library writes nothing that could re-establish these, so the environment move `corrupt` leaves them alone
      (`LayerB.corruptFor`).  `quiet_init`: `Term.init` is such a state.
  (4) `XtermLike` also asks that the direct-colour strings come all three or not at all, the indexed / direct underline-colour
      strings together, and `civis` / `cnorm` together (true of every entry and of what tcell synthesises).
  (5) on a terminal without `civis` an off-screen cursor is parked in the bottom-right cell (`DisplaysBytes.parked`);
      `DisplaysBytes.hidden` speaks only about terminals with `civis`.
The examples at the end evaluate the emulator on concrete histories for one entry of each kind of string form.
-/
import Tcell.Lemmas.LayerBWorld
import Tcell.Lemmas.LayerBXterm
import Tcell.Lemmas.LayerBXtermFx
import Tcell.Lemmas.LayerBCorner
import Tcell.Props.C01
import Tcell.Props.C09
namespace Tcell.Props.C01B
open Tcell Tcell.LayerB Tcell.Spec.Ecma48

/-- the 41 entries of the built-in database Layer B is proved for without side condition (no corner trick) -/
def layerBNames : List String :=
  ["aixterm", "alacritty", "alacritty-direct", "ansi", "dtterm", "eterm", "eterm-color", "foot", "gnome", "gnome-256color", "konsole",
   "konsole-256color", "kterm", "linux", "pcansi", "rxvt", "rxvt-256color", "rxvt-88color", "rxvt-unicode", "rxvt-unicode-256color",
   "screen", "screen-256color", "st", "st-256color", "tmux", "tmux-256color", "vt100", "vt102", "vt220", "vt320", "vt400",
   "vt420", "wy99-ansi", "wy99a-ansi", "xfce", "xterm", "xterm-256color", "xterm-88color", "xterm-direct", "xterm-ghostty",
   "xterm-kitty"]

/-- the entries of the class `CornerLike` (auto-margin terminals with `ich1` and no way to switch auto-margin off) -/
def cornerNames : List String := ["beterm", "cygwin", "sun", "sun-color"]

/-- the entries on which drawCell uses the corner trick; those of them outside `CornerLike`; the entries that do not speak ECMA-48 -/
def cornerTrickNames : List String := ["beterm", "cygwin", "sun", "sun-color"]
def cornerOutsideNames : List String := []
def nonEcmaNames : List String := ["hpterm", "vt52", "wy50", "wy60"]

/-- The classification of the built-in database, evaluated once: which entries have every draw-path string in the class
(`CapsOk`), which use the corner trick — those have ICH as `ich1` —, and how the three lists of names divide the database. -/
theorem db_classes : (Gen.db.all fun e =>
    (CapsOk e == (layerBNames.contains e.name || cornerNames.contains e.name)) &&
    (usesCornerTrick e == cornerNames.contains e.name) &&
    (!usesCornerTrick e || Tcell.Spec.TermCaps.stripPadding e.insertChar == ichStd) &&
    (nonEcmaNames.contains e.name != (layerBNames.contains e.name || cornerNames.contains e.name)) &&
    !(layerBNames.contains e.name && cornerNames.contains e.name)) = true := by decide +kernel

theorem xtermLike_eq (ti : Terminfo) : XtermLike ti = (CapsOk ti && !usesCornerTrick ti) :=
  Bool.and_right_comm ..

theorem db_class {e : Terminfo} (he : e ∈ Gen.db) :
    XtermLike e = layerBNames.contains e.name ∧ CornerLike e = cornerNames.contains e.name ∧
    usesCornerTrick e = cornerNames.contains e.name ∧ nonEcmaNames.contains e.name = !(XtermLike e || CornerLike e) := by
  have h := List.all_eq_true.mp db_classes e he
  simp only [Bool.and_eq_true, beq_iff_eq, bne_iff_ne, ne_eq] at h
  obtain ⟨⟨⟨⟨hK, hU⟩, hI⟩, hN⟩, hD⟩ := h
  rw [xtermLike_eq, CornerLike, hK, hU]
  rw [hU] at hI
  revert hI hN hD
  cases layerBNames.contains e.name <;> cases cornerNames.contains e.name <;>
    cases nonEcmaNames.contains e.name <;> simp

/-- Exactly these 41 of the 49 entries of the built-in database are in the class `XtermLike`.  Beyond the 22 entries of
the xterm family it holds descriptions for which the library derives no hyperlink strings
(no mouse / xterm flag: dtterm, ansi, eterm(-color), vt100…vt420, wy99(a)-ansi; the linux console), no `civis`/`cnorm`
(ansi, eterm(-color), kterm, vt100, vt102: the cursor is parked at the bottom-right corner instead), no colours at all
(eterm, vt100…vt420, wy99(a)-ansi: nothing is written for a colour, a dark foreground flips reverse video), `$<n>` padding
after `cup` / `sgr0` / `clear` / `smul` / `bold` / `rev` / `blink` (vt100, vt102, vt400, vt420, wy99(a)-ansi: TPuts strips it),
`civis`/`cnorm` with the linux console's `CSI ? n c`, `sgr0` with `CSI " q` (wy99) or `;10 … ESC ( B`, and the palette
strings `%p1%{30}%+%d` (eterm-color), always-`38;5;n` (rxvt-unicode(-256color)) and `38:5:n` (foot); aixterm and pcansi, whose
`op` does not restore the default colours but SETS colours (`CSI 32 m CSI 40 m`, `CSI 37;40 m`): a style with `ColorReset`
is shown green / white on black there, and that is what `penOf` says (`opSel`, `fgSel`, `bgSel`). -/
theorem db_layerB : (Gen.db.all fun e => XtermLike e == layerBNames.contains e.name) = true :=
  List.all_eq_true.mpr fun _ he => beq_iff_eq.mpr (db_class he).1

theorem db_cornerLike : (Gen.db.all fun e => CornerLike e == cornerNames.contains e.name) = true :=
  List.all_eq_true.mpr fun _ he => beq_iff_eq.mpr (db_class he).2.1

/-- the entries outside both classes are exactly `nonEcmaNames`; `cornerTrickNames` are exactly the entries on which drawCell uses
the trick, and all of them are in `CornerLike`; no entry is in both classes -/
theorem db_outside : (Gen.db.all fun e => (XtermLike e || CornerLike e) !=
    (cornerOutsideNames ++ nonEcmaNames).contains e.name) = true ∧
    (Gen.db.all fun e => cornerTrickNames.contains e.name == usesCornerTrick e) = true ∧
    (Gen.db.all fun e => !(XtermLike e && CornerLike e)) = true ∧
    (Gen.db.all fun e => cornerTrickNames.contains e.name == (cornerNames ++ cornerOutsideNames).contains e.name) = true := by
  refine ⟨List.all_eq_true.mpr fun e he => ?_, List.all_eq_true.mpr fun e he => beq_iff_eq.mpr (db_class he).2.2.1.symm,
    List.all_eq_true.mpr fun e he => ?_, List.all_eq_true.mpr fun e _ => beq_self_eq_true _⟩
  · show ((XtermLike e || CornerLike e) != nonEcmaNames.contains e.name) = true
    rw [(db_class he).2.2.2]; cases XtermLike e || CornerLike e <;> rfl
  · rw [xtermLike_eq, CornerLike]; cases CapsOk e <;> cases usesCornerTrick e <;> rfl

theorem db_cornerLike' : ∀ e ∈ Gen.db, e.name ∈ cornerNames → CornerLike e = true := fun e he hn => by
  rw [(db_class he).2.1]; simpa using hn

theorem db_layerB' : ∀ e ∈ Gen.db, e.name ∈ layerBNames → XtermLike e = true := fun e he hn => by
  rw [(db_class he).1]; simpa using hn

open Tcell.Props.C09 (rwTable)

/-- go-runewidth on Go's `rune` (int32) range; values a `rune` cannot hold have no width -/
def rwClip (r : Int) : Int := if -2147483648 ≤ r ∧ r ≤ 2147483647 then rwTable r else 0

/-- linear certificate for `rwTable` being `v` on [lo, hi]: every listed range that meets the interval has width `v`, and
    one listed range covers it — unless `v` is the width of unlisted runes -/
def widthCert (v lo hi : Int) : Bool :=
  Gen.rwRanges.all (fun p => decide (p.2.1 < lo) || decide (hi < p.1) || decide (p.2.2 = v)) &&
  (decide (v = 1) || Gen.rwRanges.any (fun p => decide (p.1 ≤ lo) && decide (hi ≤ p.2.1)))

theorem rwTable_of_cert {v lo hi : Int} (hc : widthCert v lo hi = true) (r : Int) (h1 : lo ≤ r) (h2 : r ≤ hi) : rwTable r = v := by
  simp only [widthCert, Bool.and_eq_true, List.all_eq_true, List.any_eq_true, Bool.or_eq_true, decide_eq_true_eq] at hc
  obtain ⟨hall, hcov⟩ := hc
  unfold rwTable
  cases hf : Gen.rwRanges.find? (fun p => p.1 ≤ r ∧ r ≤ p.2.1) with
  | none =>
    rcases hcov with hv | ⟨q, hq, hq1, hq2⟩
    · exact hv.symm
    · have := List.find?_eq_none.mp hf q hq
      simp at this; omega
  | some p =>
    have hpr := List.find?_some hf
    simp only [decide_eq_true_eq] at hpr
    rcases hall p (List.mem_of_find?_eq_some hf) with (h | h) | h
    · omega
    · omega
    · exact h

theorem cert_neg : widthCert 0 (-2147483648) (-1) = true := by decide +kernel
theorem cert_c1 : widthCert 0 127 159 = true := by decide +kernel
theorem cert_sur : widthCert 0 0xD800 0xDFFF = true := by decide +kernel
theorem cert_hi : widthCert 0 0x110000 2147483647 = true := by decide +kernel
theorem cert_ascii : widthCert 1 32 126 = true := by decide +kernel

theorem rwClip_ok : RwOk rwClip ∧ RwB rwClip := by
  have tk := Tcell.Props.C09.table_rwOk
  have hasc : ∀ b : Int, 32 ≤ b → b < 127 → rwClip b = 1 := fun b h1 h2 => by
    unfold rwClip; rw [if_pos (by omega)]; exact rwTable_of_cert cert_ascii b h1 (by omega)
  have hb : ∀ r, 0 ≤ rwClip r ∧ rwClip r ≤ 2 := fun r => by
    unfold rwClip; split
    · exact ⟨tk.nonneg r, tk.le2 r⟩
    · omega
  refine ⟨⟨?_, hasc 32 (by decide) (by decide), fun r => (hb r).1, fun r => (hb r).2⟩, ⟨hasc, ?_, fun r => (hb r).1, fun r => (hb r).2⟩⟩
  · unfold rwClip; rw [if_pos (by decide)]; exact tk.zero
  · intro r hr
    unfold rwClip at hr
    split at hr
    · rename_i hin
      have n1 : ¬ (r ≤ -1) := fun h => hr (rwTable_of_cert cert_neg r hin.1 h)
      have n2 : ¬ (127 ≤ r ∧ r ≤ 159) := fun h => hr (rwTable_of_cert cert_c1 r h.1 h.2)
      have n3 : ¬ (0xD800 ≤ r ∧ r ≤ 0xDFFF) := fun h => hr (rwTable_of_cert cert_sur r h.1 h.2)
      have n4 : ¬ (0x110000 ≤ r) := fun h => hr (rwTable_of_cert cert_hi r h hin.2)
      refine ⟨?_, n2⟩
      simp only [Utf8.validRune, decide_eq_true_eq]
      omega
    · exact absurd rfl hr

variable {c : DrawCfg} {rc : RenderCfg}

theorem init_bwinv (w h : Int) (hs : SizeOk w h) : BWInv c (World.init w h) :=
  { b := { buf := BufB.resize (fun _ _ => (cellB_closed c.rw).fresh) w h, style := rfl, size := hs, ccol := ⟨(by decide : Color.valid 0 = false), (by decide : (0 : Nat) ≠ colorReset)⟩ },
    tty := hs }

theorem init_rep (w h : Int) (e0 : Term) (he : Good c.rw e0) (hq : Quiet rc e0) (hw : (e0.grid.w : Int) = w)
    (hh : (e0.grid.h : Int) = h) : Rep c rc e0 (World.init w h).t :=
  { good := he, quiet := hq, w := hw, h := hh, cells := fun _ _ _ _ => trivial, conts := fun _ _ _ => Or.inr rfl,
    cur := fun _ _ h => (nomatch h), pen := fun _ h => (nomatch h), vis := fun _ h => (nomatch h), shape := fun _ _ h => (nomatch h) }

/-- the byte-level world after a history, started on an emulator in any good state of the right size -/
def after (c : DrawCfg) (rc : RenderCfg) (w h : Int) (e0 : Term) (ops : List ScrOp) : BWorld :=
  (BWorld.mk (World.init w h) e0).run c rc ops

theorem after_wd (w h : Int) (e0 : Term) (ops : List ScrOp) : (after c rc w h e0 ops).wd = (World.init w h).run c ops :=
  run_wd c rc ops _

/-- `hsafe`: Layer A's side condition for the bottom-right corner trick held at every draw (vacuous on terminals that do not use the
trick, `World.SafeRun.of_plain`) -/
theorem after_inv (hc : CfgB c rc) (w h : Int) (hs : SizeOk w h) (e0 : Term) (he : Good c.rw e0) (hq : Quiet rc e0)
    (hw : (e0.grid.w : Int) = w) (hh : (e0.grid.h : Int) = h) (ops : List ScrOp) (hv : ∀ op ∈ ops, op.Valid c ∧ OpB c op)
    (hsafe : World.SafeRun c (World.init w h) ops) :
    WInv c (after c rc w h e0 ops).wd ∧ BWInv c (after c rc w h e0 ops).wd ∧
      Rep c rc (after c rc w h e0 ops).e (after c rc w h e0 ops).wd.t :=
  reach_b hc ops _ (init_inv hc.rwOk w h) (init_bwinv w h hs) (init_rep w h e0 he hq hw hh) hv hsafe

/-- **C09, draw histories**: whatever the history, the strict tokenizer of the reference emulator has accepted every
byte the model wrote (no complaint) and the stream ends in the ground state (every control sequence is complete). -/
theorem output_wellformed_partial (hc : CfgB c rc) (w h : Int) (hs : SizeOk w h) (e0 : Term) (he : Good c.rw e0) (hq : Quiet rc e0)
    (hw : (e0.grid.w : Int) = w) (hh : (e0.grid.h : Int) = h) (ops : List ScrOp) (hv : ∀ op ∈ ops, op.Valid c ∧ OpB c op)
    (hsafe : World.SafeRun c (World.init w h) ops) :
    (after c rc w h e0 ops).e.malformed = [] ∧ (after c rc w h e0 ops).e.st = .ground :=
  let R := (after_inv hc w h hs e0 he hq hw hh ops hv hsafe).2.2
  ⟨R.good.mal, R.good.st⟩

/-- what the emulator grid shows for the cells Layer A's `Displays` speaks about: every clean unlocked cell (every cell the
draw loop visited is one, `Displays.cleaned`); `nl` = the repaired drawCell painted a wide rune as a blank of width 1 because
the next column is locked -/
structure DisplaysBytes (c : DrawCfg) (rc : RenderCfg) (b : BWorld) : Prop where
  cells : ∀ x y : Nat, b.wd.sw.s.cells.inRange x y → (b.wd.sw.s.cells.cells x y).lock = false →
    b.wd.sw.s.cells.dirty x y = false →
      ∃ st' nl, (b.e.grid.get x y).garbage = false ∧ (b.e.grid.get x y).cont = false ∧
        (b.e.grid.get x y).runes.flatMap Utf8.encode =
          (Scr.cellTextG c b.wd.sw.s.w x (obsMain c.rw (b.wd.sw.s.cells.cells x y).currMain) (b.wd.sw.s.cells.cells x y).currComb
            (obsWidth c.rw (b.wd.sw.s.cells.cells x y).currMain) nl).1 ∧
        (b.e.grid.get x y).pen = penOf rc st' ∧
        ((b.wd.sw.s.cells.cells x y).currStyle ≠ {} → st' = (b.wd.sw.s.cells.cells x y).currStyle) ∧
        ((b.wd.sw.s.cells.cells x y).currStyle = {} → ∀ d', b.wd.d = some d' → st' = d') ∧
        (nl = true → obsWidth c.rw (b.wd.sw.s.cells.cells x y).currMain > 1 →
          c.guardLocked = true ∧ b.wd.sw.s.cells.locked ((x : Int) + 1) y = true) ∧
        ((Scr.cellTextG c b.wd.sw.s.w x (obsMain c.rw (b.wd.sw.s.cells.cells x y).currMain) (b.wd.sw.s.cells.cells x y).currComb
            (obsWidth c.rw (b.wd.sw.s.cells.cells x y).currMain) nl).2 > 1 →
          (x : Int) + 1 < b.wd.sw.s.w → (b.e.grid.get (x + 1) y).cont = true ∧ (b.e.grid.get (x + 1) y).garbage = false)
  cursor : b.wd.sw.s.cells.inRange b.wd.sw.s.cursorx b.wd.sw.s.cursory →
    b.e.cursorKnown = true ∧ (b.e.cx : Int) = b.wd.sw.s.cursorx ∧ (b.e.cy : Int) = b.wd.sw.s.cursory ∧
    b.e.pendingWrap = false ∧ b.e.modes.cursorVisible = true
  hidden : ¬ b.wd.sw.s.cells.inRange b.wd.sw.s.cursorx b.wd.sw.s.cursory → c.hasHide = true → b.e.modes.cursorVisible = false
  /-- a terminal without a hide-cursor string: the cursor is parked in the bottom-right cell (tscreen.go:1041) -/
  parked : ¬ b.wd.sw.s.cells.inRange b.wd.sw.s.cursorx b.wd.sw.s.cursory → c.hasHide = false →
    0 < b.wd.sw.s.w → 0 < b.wd.sw.s.h →
    b.e.cursorKnown = true ∧ (b.e.cx : Int) = b.wd.sw.s.w - 1 ∧ (b.e.cy : Int) = b.wd.sw.s.h - 1 ∧ b.e.pendingWrap = false

theorem displaysBytes_of {b : BWorld} {pre : Buf} (inv : WInv c b.wd) (R : Rep c rc b.e b.wd.t)
    (D : Displays c pre b.wd)
    (hsz : b.wd.sw.s.w = b.wd.sw.ttyw ∧ b.wd.sw.s.h = b.wd.sw.ttyh) : DisplaysBytes c rc b := by
  have hw : b.wd.t.w = b.wd.sw.s.w := inv.tdim.1.trans hsz.1.symm
  have hh : b.wd.t.h = b.wd.sw.s.h := inv.tdim.2.trans hsz.2.symm
  have hin : ∀ x y, b.wd.sw.s.cells.inRange x y → b.wd.t.inGrid x y := fun x y hr => by
    rw [Buf.inRange_iff, inv.buf.cw, inv.buf.ch] at hr
    exact ⟨hr.1, hw ▸ hr.2.2.1, hr.2.1, hh ▸ hr.2.2.2⟩
  refine { cells := ?_, cursor := ?_, hidden := ?_, parked := ?_ }
  · intro x y hr hl hdy
    obtain ⟨st', nl, hg, h1, h2, h4, h3⟩ := D.cells x y hr hl hdy
    have cr := R.cell (hin _ _ hr)
    rw [hg, Int.toNat_natCast, Int.toNat_natCast] at cr
    refine ⟨st', nl, cr.2.1, cr.1, cr.2.2.1, cr.2.2.2, h1, h2, h4, fun hwide hlt => ?_⟩
    have cr2 := R.cell (x := (x : Int) + 1) (y := y) ⟨by omega, hw ▸ hlt, (hin _ _ hr).2.2⟩
    rwa [h3 _ st' (by rw [hg]; simp only [shownOfG]; rw [decide_eq_true hwide]) hlt, Int.toNat_natCast,
      show ((x : Int) + 1).toNat = x + 1 by omega] at cr2
  · intro hr
    obtain ⟨hcur, hvis, _⟩ := D.cursor.1 hr
    obtain ⟨ck, cx, cy, pw⟩ := R.cursor hcur (hin _ _ hr)
    exact ⟨ck, cx, cy, pw, R.vis true hvis⟩
  · intro hr hh
    exact R.vis false ((D.cursor.2 hr).1 hh)
  · intro hr hhide hw0 hh0
    have hcur := (D.cursor.2 hr).2 hhide
    have ex : b.wd.t.clampX b.wd.sw.s.w = b.wd.sw.s.w - 1 := by unfold ATerm.clampX; split <;> (try split) <;> omega
    have ey : b.wd.t.clampY b.wd.sw.s.h = b.wd.sw.s.h - 1 := by unfold ATerm.clampY; split <;> (try split) <;> omega
    rw [ex, ey] at hcur
    exact R.cursor hcur ⟨by omega, by omega, by omega, by omega⟩

theorem draw_size (s : Scr) : (s.draw c).1.w = s.w ∧ (s.draw c).1.h = s.h :=
  ⟨(draw_rel c s).1.w, (draw_rel c s).1.h⟩

theorem show_size (hrw : RwOk c.rw) {wd : World} (inv : WInv c wd) :
    (wd.step c .show).sw.s.w = (wd.step c .show).sw.ttyw ∧ (wd.step c .show).sw.s.h = (wd.step c .show).sw.ttyh := by
  rw [(show_eq inv.fini).1]
  exact ⟨(draw_size _).1.trans (resize_ok hrw inv.buf _ _).2.1, (draw_size _).2.trans (resize_ok hrw inv.buf _ _).2.2.1⟩

theorem sync_size (hrw : RwOk c.rw) {wd : World} (inv : WInv c wd) :
    (wd.step c .sync).sw.s.w = (wd.step c .sync).sw.ttyw ∧ (wd.step c .sync).sw.s.h = (wd.step c .sync).sw.ttyh := by
  obtain ⟨_, _, e1, e2, _⟩ := (prep_ok hrw wd.sw.s wd.sw.ttyw wd.sw.ttyh inv.buf inv.fini inv.clear).1
  rw [(sync_eq inv.fini).1]
  exact ⟨(draw_size _).1.trans e1, (draw_size _).2.trans e2⟩

/-- **Show is faithful, at the level of bytes.**  After any valid history, if nothing outside the library has disturbed
the display since it was last completely repainted, or the window size changed and this Show notices it: the reference
emulator, having interpreted every byte the model wrote, shows in every unlocked visited cell exactly the payload last set
there with the SGR state its style denotes (wide runes with their continuation cell, a blank for a wide rune in the last
column), the cursor is at the requested cell and visible — or invisible if that cell is off-screen.  On a terminal that needs
the bottom-right corner trick this includes the bottom-right cell (written one column early and pushed into place with `ich1`);
`hsafe` is Layer A's side condition along the history and for this Show (at least two columns, no locked cell in the last row
whenever the library draws; vacuous on terminals that do not use the trick). -/
theorem show_faithful_bytes_partial (hc : CfgB c rc) (w h : Int) (hs : SizeOk w h) (e0 : Term) (he : Good c.rw e0) (hq : Quiet rc e0)
    (hw : (e0.grid.w : Int) = w) (hh : (e0.grid.h : Int) = h) (ops : List ScrOp) (hv : ∀ op ∈ ops, op.Valid c ∧ OpB c op)
    (hsafe : World.SafeRun c (World.init w h) (ops ++ [.show])) :
    let b := after c rc w h e0 ops
    (b.wd.trusted = true ∨ ¬ (b.wd.sw.ttyw = b.wd.sw.s.w ∧ b.wd.sw.ttyh = b.wd.sw.s.h)) →
      DisplaysBytes c rc (b.step c rc .show) := by
  intro b htr
  obtain ⟨hs1, hs2⟩ := safeRun_split ops _ .show hsafe
  rw [← after_wd (c := c) (rc := rc) w h e0 ops] at hs2
  obtain ⟨inv, bi, R⟩ := after_inv hc w h hs e0 he hq hw hh ops hv hs1
  have st := show_step_c hc.rwOk hc.walk inv hs2
  exact displaysBytes_of st.1 (rep_step hc inv bi R .show trivial hs2) (st.2 htr) (show_size hc.rwOk inv)

/-- **Sync is faithful at the level of bytes, from arbitrary display contents** (no trust hypothesis). -/
theorem sync_faithful_bytes_partial (hc : CfgB c rc) (w h : Int) (hs : SizeOk w h) (e0 : Term) (he : Good c.rw e0) (hq : Quiet rc e0)
    (hw : (e0.grid.w : Int) = w) (hh : (e0.grid.h : Int) = h) (ops : List ScrOp) (hv : ∀ op ∈ ops, op.Valid c ∧ OpB c op)
    (hsafe : World.SafeRun c (World.init w h) (ops ++ [.sync])) :
    DisplaysBytes c rc ((after c rc w h e0 ops).step c rc .sync) := by
  obtain ⟨hs1, hs2⟩ := safeRun_split ops _ .sync hsafe
  rw [← after_wd (c := c) (rc := rc) w h e0 ops] at hs2
  obtain ⟨inv, bi, R⟩ := after_inv hc w h hs e0 he hq hw hh ops hv hs1
  have st := sync_step_c hc.rwOk hc.walk inv hs2
  exact displaysBytes_of st.1 (rep_step hc inv bi R .sync trivial hs2) st.2.1 (sync_size hc.rwOk inv)

/-- the draw configuration of a terminal description in a UTF-8 locale with the regenerated width table, as the driver
builds it (Driver/Draw.lean `mkCfgs`); `lg`/`wg`/`fz` = which repairs of drawCell / Fill the tree under test has -/
def drawCfgOf (ti : Terminfo) (lg wg fz : Bool) : DrawCfg :=
  { rw := rwClip, payload := fun m comb => Utf8.encode m ++ comb.flatMap Utf8.encode, hasHide := !ti.hideCursor.isEmpty,
    hasCursorStyle := fun cs => match (derive ti).cursorStyles with | some l => cs < l.length | none => false,
    hasCursorRGB := !(derive ti).cursorRGB.isEmpty,
    cornerTrick := ti.autoMargin && ti.disableAutoMargin.isEmpty && !ti.insertChar.isEmpty,
    guardLocked := lg, walkGuard := wg, fillZW := fz }

/-- the render configuration of a terminal description (`mkCfgs`): `tc` = the application did not disable direct colour -/
def renderCfgOf (ti : Terminfo) (tc : Bool) (fit fit0 : Nat → Nat) : RenderCfg :=
  { ti := ti, d := derive ti, truecolor := tc && !(ti.setFgBgRGB.isEmpty && ti.setFgRGB.isEmpty && ti.setBgRGB.isEmpty),
    fit := fit, fit0 := fit0 }

/-- **`CfgB` for every terminal description in `XtermLike` or `CornerLike`**, for the configuration the driver builds: the
rune-width function is the regenerated table (`rwClip_ok`), the locale is UTF-8, every string of the draw path is in the class
(`xl_capsFx`), and where the draw path uses the bottom-right insert-character trick — `CornerLike` — `ich1` is ICH.  What is left
to assume is about the configuration, not the terminal: the walk repair presupposes the locked-neighbour guard, and the external
colour-fitting function returns palette entries. -/
theorem cfgB_of_class (ti : Terminfo) (hx : XtermLike ti = true ∨ CornerLike ti = true) (lg wg fz tc : Bool) (fit fit0 : Nat → Nat)
    (hwg : wg = true → lg = true) (hfit : FitOk (renderCfgOf ti tc fit fit0)) :
    CfgB (drawCfgOf ti lg wg fz) (renderCfgOf ti tc fit fit0) :=
  { rwOk := rwClip_ok.1, rwB := rwClip_ok.2, pay := fun _ _ => rfl, walk := ⟨hwg⟩,
    fx := xl_capsFx (drawCfgOf ti lg wg fz) (rc := renderCfgOf ti tc fit fit0) (hx.elim capsOk_of_xl capsOk_of_cl) rfl hfit rfl,
    ich := fun h => hx.elim (fun hx => absurd ((xl_noCorner hx).symm.trans h) Bool.false_ne_true)
      fun hx => ichFx_of (drawCfgOf ti lg wg fz) (renderCfgOf ti tc fit fit0) (cl_ich hx) }

theorem xl_safeRun (ti : Terminfo) (hx : XtermLike ti = true) (lg wg fz : Bool) (hwg : wg = true → lg = true)
    (ops : List ScrOp) (wd : World) : World.SafeRun (drawCfgOf ti lg wg fz) wd ops :=
  .of_plain ⟨xl_noCorner hx, hwg⟩ ops wd

/-- `FitOk` for the configuration of an `XtermLike` entry whose colour fit is tcell's `FindColor` over the screen's palette
(any colour distance): not an assumption about the library -/
theorem xl_fitOk_findColor {α : Type} (m : Color.Metric α) (ti : Terminfo) (tc : Bool) (fit0 : Nat → Nat) :
    FitOk (renderCfgOf ti tc (fun c => Color.findColor m c (screenPalette (renderCfgOf ti tc (fun _ => 0) fit0))) fit0) := by
  apply fitOk_findColor m
  intro c; rfl

section
variable (ti : Terminfo) (hx : XtermLike ti = true) (lg wg fz tc : Bool) (fit fit0 : Nat → Nat)
  (hwg : wg = true → lg = true) (hfit : FitOk (renderCfgOf ti tc fit fit0))
include hx hwg hfit

theorem xl_rep_after (w h : Int) (hs : SizeOk w h) (e0 : Term) (he : Good rwClip e0) (hq : Quiet (renderCfgOf ti tc fit fit0) e0)
    (hw : (e0.grid.w : Int) = w) (hh : (e0.grid.h : Int) = h) (ops : List ScrOp)
    (hv : ∀ op ∈ ops, op.Valid (drawCfgOf ti lg wg fz) ∧ OpB (drawCfgOf ti lg wg fz) op) :
    Rep (drawCfgOf ti lg wg fz) (renderCfgOf ti tc fit fit0)
      (after (drawCfgOf ti lg wg fz) (renderCfgOf ti tc fit fit0) w h e0 ops).e
      (after (drawCfgOf ti lg wg fz) (renderCfgOf ti tc fit fit0) w h e0 ops).wd.t :=
  (after_inv (cfgB_of_class ti (.inl hx) lg wg fz tc fit fit0 hwg hfit) w h hs e0 he hq hw hh ops hv
    (xl_safeRun ti hx lg wg fz hwg _ _)).2.2
end

/-- **Show is faithful at the level of bytes on each of the 41 entries `layerBNames`**, with no hypothesis on the terminal
description left.  For every variant of the draw path (`lg`, `wg`, `fz`), direct colour on or off, every window size, every start
state of the emulator with the parser in the ground state, and every history of valid operations in the Layer-B domain (`OpB`: no
hyperlink, no cursor colour): the reference emulator fed exactly the bytes the byte-exact model writes shows after Show, in every
unlocked visited cell, the payload last set there with the SGR state `penOf` (colours, all attributes, underline style and colour)
its style denotes, wide runes with their continuation cell, the cursor where requested and visible. -/
theorem db_show_faithful_bytes : ∀ e ∈ Gen.db, e.name ∈ layerBNames →
    ∀ (lg wg fz tc : Bool) (fit fit0 : Nat → Nat), (wg = true → lg = true) → FitOk (renderCfgOf e tc fit fit0) →
    ∀ (w h : Int), SizeOk w h → ∀ (e0 : Term), Good rwClip e0 → Quiet (renderCfgOf e tc fit fit0) e0 → (e0.grid.w : Int) = w → (e0.grid.h : Int) = h →
    ∀ (ops : List ScrOp), (∀ op ∈ ops, op.Valid (drawCfgOf e lg wg fz) ∧ OpB (drawCfgOf e lg wg fz) op) →
      let b := after (drawCfgOf e lg wg fz) (renderCfgOf e tc fit fit0) w h e0 ops
      (b.wd.trusted = true ∨ ¬ (b.wd.sw.ttyw = b.wd.sw.s.w ∧ b.wd.sw.ttyh = b.wd.sw.s.h)) →
        DisplaysBytes (drawCfgOf e lg wg fz) (renderCfgOf e tc fit fit0)
          (b.step (drawCfgOf e lg wg fz) (renderCfgOf e tc fit fit0) .show) :=
  fun e he hn lg wg fz tc fit fit0 hwg hfit w h hs e0 hg hq hw hh ops hv =>
    show_faithful_bytes_partial (cfgB_of_class e (.inl (db_layerB' e he hn)) lg wg fz tc fit fit0 hwg hfit) w h hs e0 hg hq hw hh ops hv
      (xl_safeRun e (db_layerB' e he hn) lg wg fz hwg _ _)

/-- **Sync is faithful at the level of bytes on these entries, from arbitrary display contents** -/
theorem db_sync_faithful_bytes : ∀ e ∈ Gen.db, e.name ∈ layerBNames →
    ∀ (lg wg fz tc : Bool) (fit fit0 : Nat → Nat), (wg = true → lg = true) → FitOk (renderCfgOf e tc fit fit0) →
    ∀ (w h : Int), SizeOk w h → ∀ (e0 : Term), Good rwClip e0 → Quiet (renderCfgOf e tc fit fit0) e0 → (e0.grid.w : Int) = w → (e0.grid.h : Int) = h →
    ∀ (ops : List ScrOp), (∀ op ∈ ops, op.Valid (drawCfgOf e lg wg fz) ∧ OpB (drawCfgOf e lg wg fz) op) →
      DisplaysBytes (drawCfgOf e lg wg fz) (renderCfgOf e tc fit fit0)
        ((after (drawCfgOf e lg wg fz) (renderCfgOf e tc fit fit0) w h e0 ops).step (drawCfgOf e lg wg fz)
          (renderCfgOf e tc fit fit0) .sync) :=
  fun e he hn lg wg fz tc fit fit0 hwg hfit w h hs e0 hg hq hw hh ops hv =>
    sync_faithful_bytes_partial (cfgB_of_class e (.inl (db_layerB' e he hn)) lg wg fz tc fit fit0 hwg hfit) w h hs e0 hg hq hw hh ops hv
      (xl_safeRun e (db_layerB' e he hn) lg wg fz hwg _ _)

/-- **C09 on these entries**: over every draw history the strict tokenizer accepts every byte and the stream ends in the ground
state -/
theorem db_output_wellformed : ∀ e ∈ Gen.db, e.name ∈ layerBNames →
    ∀ (lg wg fz tc : Bool) (fit fit0 : Nat → Nat), (wg = true → lg = true) → FitOk (renderCfgOf e tc fit fit0) →
    ∀ (w h : Int), SizeOk w h → ∀ (e0 : Term), Good rwClip e0 → Quiet (renderCfgOf e tc fit fit0) e0 → (e0.grid.w : Int) = w → (e0.grid.h : Int) = h →
    ∀ (ops : List ScrOp), (∀ op ∈ ops, op.Valid (drawCfgOf e lg wg fz) ∧ OpB (drawCfgOf e lg wg fz) op) →
      (after (drawCfgOf e lg wg fz) (renderCfgOf e tc fit fit0) w h e0 ops).e.malformed = [] ∧
        (after (drawCfgOf e lg wg fz) (renderCfgOf e tc fit fit0) w h e0 ops).e.st = .ground :=
  fun e he hn lg wg fz tc fit fit0 hwg hfit w h hs e0 hg hq hw hh ops hv =>
    output_wellformed_partial (cfgB_of_class e (.inl (db_layerB' e he hn)) lg wg fz tc fit fit0 hwg hfit) w h hs e0 hg hq hw hh ops hv
      (xl_safeRun e (db_layerB' e he hn) lg wg fz hwg _ _)

theorem cl_cornerTrick (ti : Terminfo) (hx : CornerLike ti = true) (lg wg fz : Bool) : (drawCfgOf ti lg wg fz).cornerTrick = true :=
  cl_corner hx

section
variable (ti : Terminfo) (hx : CornerLike ti = true) (lg wg fz tc : Bool) (fit fit0 : Nat → Nat)
  (hwg : wg = true → lg = true) (hfit : FitOk (renderCfgOf ti tc fit fit0))
include hx hwg hfit

/-- **Show is faithful at the level of bytes on every `CornerLike` terminal, the bottom-right cell included.**  Along every history
of valid operations in the Layer-B domain that satisfies Layer A's side condition (`World.SafeRun`: whenever the library draws, the
screen has at least two columns and no cell of its last row is locked) the reference emulator, fed exactly the bytes the byte-exact
model writes — among them, for the bottom-right cell, `cup (w-2, h-1)`, the style block, the glyph, `cup (w-2, h-1)`, `ich1`, and the
repaint of the cell that covers column `w-2` —, shows after Show in every unlocked visited cell the payload last set there with the
SGR state `penOf` of its style; the cursor is where requested and visible (or parked / hidden).  Nothing has scrolled: the cells of
every other row are covered by the same statement. -/
theorem cl_show_faithful_bytes (w h : Int) (hs : SizeOk w h) (e0 : Term) (he : Good rwClip e0) (hq : Quiet (renderCfgOf ti tc fit fit0) e0)
    (hw : (e0.grid.w : Int) = w) (hh : (e0.grid.h : Int) = h) (ops : List ScrOp)
    (hv : ∀ op ∈ ops, op.Valid (drawCfgOf ti lg wg fz) ∧ OpB (drawCfgOf ti lg wg fz) op)
    (hsafe : World.SafeRun (drawCfgOf ti lg wg fz) (World.init w h) (ops ++ [.show])) :
    let b := after (drawCfgOf ti lg wg fz) (renderCfgOf ti tc fit fit0) w h e0 ops
    (b.wd.trusted = true ∨ ¬ (b.wd.sw.ttyw = b.wd.sw.s.w ∧ b.wd.sw.ttyh = b.wd.sw.s.h)) →
      DisplaysBytes (drawCfgOf ti lg wg fz) (renderCfgOf ti tc fit fit0)
        (b.step (drawCfgOf ti lg wg fz) (renderCfgOf ti tc fit fit0) .show) :=
  show_faithful_bytes_partial (cfgB_of_class ti (.inr hx) lg wg fz tc fit fit0 hwg hfit) w h hs e0 he hq hw hh ops hv hsafe

/-- **Sync is faithful at the level of bytes on every `CornerLike` terminal, from arbitrary display contents** -/
theorem cl_sync_faithful_bytes (w h : Int) (hs : SizeOk w h) (e0 : Term) (he : Good rwClip e0) (hq : Quiet (renderCfgOf ti tc fit fit0) e0)
    (hw : (e0.grid.w : Int) = w) (hh : (e0.grid.h : Int) = h) (ops : List ScrOp)
    (hv : ∀ op ∈ ops, op.Valid (drawCfgOf ti lg wg fz) ∧ OpB (drawCfgOf ti lg wg fz) op)
    (hsafe : World.SafeRun (drawCfgOf ti lg wg fz) (World.init w h) (ops ++ [.sync])) :
    DisplaysBytes (drawCfgOf ti lg wg fz) (renderCfgOf ti tc fit fit0)
      ((after (drawCfgOf ti lg wg fz) (renderCfgOf ti tc fit fit0) w h e0 ops).step (drawCfgOf ti lg wg fz)
        (renderCfgOf ti tc fit fit0) .sync) :=
  sync_faithful_bytes_partial (cfgB_of_class ti (.inr hx) lg wg fz tc fit fit0 hwg hfit) w h hs e0 he hq hw hh ops hv hsafe

/-- **C09 on every `CornerLike` terminal**: over every draw history (side condition as above) the strict tokenizer accepts every
byte — the `ich1` of the corner trick included — and the stream ends in the ground state -/
theorem cl_output_wellformed (w h : Int) (hs : SizeOk w h) (e0 : Term) (he : Good rwClip e0) (hq : Quiet (renderCfgOf ti tc fit fit0) e0)
    (hw : (e0.grid.w : Int) = w) (hh : (e0.grid.h : Int) = h) (ops : List ScrOp)
    (hv : ∀ op ∈ ops, op.Valid (drawCfgOf ti lg wg fz) ∧ OpB (drawCfgOf ti lg wg fz) op)
    (hsafe : World.SafeRun (drawCfgOf ti lg wg fz) (World.init w h) ops) :
    (after (drawCfgOf ti lg wg fz) (renderCfgOf ti tc fit fit0) w h e0 ops).e.malformed = [] ∧
      (after (drawCfgOf ti lg wg fz) (renderCfgOf ti tc fit fit0) w h e0 ops).e.st = .ground :=
  output_wellformed_partial (cfgB_of_class ti (.inr hx) lg wg fz tc fit fit0 hwg hfit) w h hs e0 he hq hw hh ops hv hsafe

theorem cl_rep_after (w h : Int) (hs : SizeOk w h) (e0 : Term) (he : Good rwClip e0) (hq : Quiet (renderCfgOf ti tc fit fit0) e0)
    (hw : (e0.grid.w : Int) = w) (hh : (e0.grid.h : Int) = h) (ops : List ScrOp)
    (hv : ∀ op ∈ ops, op.Valid (drawCfgOf ti lg wg fz) ∧ OpB (drawCfgOf ti lg wg fz) op)
    (hsafe : World.SafeRun (drawCfgOf ti lg wg fz) (World.init w h) ops) :
    Rep (drawCfgOf ti lg wg fz) (renderCfgOf ti tc fit fit0)
      (after (drawCfgOf ti lg wg fz) (renderCfgOf ti tc fit fit0) w h e0 ops).e
      (after (drawCfgOf ti lg wg fz) (renderCfgOf ti tc fit fit0) w h e0 ops).wd.t :=
  (after_inv (cfgB_of_class ti (.inr hx) lg wg fz tc fit fit0 hwg hfit) w h hs e0 he hq hw hh ops hv hsafe).2.2
end

/-- **Show is faithful at the level of bytes on the corner-trick entries `cornerNames`**, the bottom-right cell included, with no
hypothesis on the terminal description; what is assumed of the history is Layer A's side condition `World.SafeRun` (decidable,
`cornerSafeB`) -/
theorem db_show_faithful_bytes_corner : ∀ e ∈ Gen.db, e.name ∈ cornerNames →
    ∀ (lg wg fz tc : Bool) (fit fit0 : Nat → Nat), (wg = true → lg = true) → FitOk (renderCfgOf e tc fit fit0) →
    ∀ (w h : Int), SizeOk w h → ∀ (e0 : Term), Good rwClip e0 → Quiet (renderCfgOf e tc fit fit0) e0 → (e0.grid.w : Int) = w → (e0.grid.h : Int) = h →
    ∀ (ops : List ScrOp), (∀ op ∈ ops, op.Valid (drawCfgOf e lg wg fz) ∧ OpB (drawCfgOf e lg wg fz) op) →
      World.SafeRun (drawCfgOf e lg wg fz) (World.init w h) (ops ++ [.show]) →
      let b := after (drawCfgOf e lg wg fz) (renderCfgOf e tc fit fit0) w h e0 ops
      (b.wd.trusted = true ∨ ¬ (b.wd.sw.ttyw = b.wd.sw.s.w ∧ b.wd.sw.ttyh = b.wd.sw.s.h)) →
        DisplaysBytes (drawCfgOf e lg wg fz) (renderCfgOf e tc fit fit0)
          (b.step (drawCfgOf e lg wg fz) (renderCfgOf e tc fit fit0) .show) :=
  fun e he hn lg wg fz tc fit fit0 hwg hfit => cl_show_faithful_bytes e (db_cornerLike' e he hn) lg wg fz tc fit fit0 hwg hfit

theorem db_sync_faithful_bytes_corner : ∀ e ∈ Gen.db, e.name ∈ cornerNames →
    ∀ (lg wg fz tc : Bool) (fit fit0 : Nat → Nat), (wg = true → lg = true) → FitOk (renderCfgOf e tc fit fit0) →
    ∀ (w h : Int), SizeOk w h → ∀ (e0 : Term), Good rwClip e0 → Quiet (renderCfgOf e tc fit fit0) e0 → (e0.grid.w : Int) = w → (e0.grid.h : Int) = h →
    ∀ (ops : List ScrOp), (∀ op ∈ ops, op.Valid (drawCfgOf e lg wg fz) ∧ OpB (drawCfgOf e lg wg fz) op) →
      World.SafeRun (drawCfgOf e lg wg fz) (World.init w h) (ops ++ [.sync]) →
      DisplaysBytes (drawCfgOf e lg wg fz) (renderCfgOf e tc fit fit0)
        ((after (drawCfgOf e lg wg fz) (renderCfgOf e tc fit fit0) w h e0 ops).step (drawCfgOf e lg wg fz)
          (renderCfgOf e tc fit fit0) .sync) :=
  fun e he hn lg wg fz tc fit fit0 hwg hfit => cl_sync_faithful_bytes e (db_cornerLike' e he hn) lg wg fz tc fit fit0 hwg hfit

theorem db_output_wellformed_corner : ∀ e ∈ Gen.db, e.name ∈ cornerNames →
    ∀ (lg wg fz tc : Bool) (fit fit0 : Nat → Nat), (wg = true → lg = true) → FitOk (renderCfgOf e tc fit fit0) →
    ∀ (w h : Int), SizeOk w h → ∀ (e0 : Term), Good rwClip e0 → Quiet (renderCfgOf e tc fit fit0) e0 → (e0.grid.w : Int) = w → (e0.grid.h : Int) = h →
    ∀ (ops : List ScrOp), (∀ op ∈ ops, op.Valid (drawCfgOf e lg wg fz) ∧ OpB (drawCfgOf e lg wg fz) op) →
      World.SafeRun (drawCfgOf e lg wg fz) (World.init w h) ops →
      (after (drawCfgOf e lg wg fz) (renderCfgOf e tc fit fit0) w h e0 ops).e.malformed = [] ∧
        (after (drawCfgOf e lg wg fz) (renderCfgOf e tc fit fit0) w h e0 ops).e.st = .ground :=
  fun e he hn lg wg fz tc fit fit0 hwg hfit => cl_output_wellformed e (db_cornerLike' e he hn) lg wg fz tc fit fit0 hwg hfit

theorem good_init {rw : Int → Int} {cfg : Config} (hu : cfg.utf8 = true) (hr : cfg.rw = rw) : Good rw (Term.init cfg) :=
  ⟨rfl, hu, rfl, rfl, rfl, rfl, rfl, hr⟩

/-- **C09, `cup`**: for every terminal whose strings are in the class (`CapsOk`: `XtermLike` and `CornerLike`) and every row and column a
Go int can hold, the bytes `TPuts(TGoto(col,row))` writes are accepted by the strict tokenizer (no complaint, complete sequence);
`C09.param_caps_accepted_samples` samples positions. -/
theorem cup_accepted_all_caps (hx : CapsOk rc.ti = true) (ff : Bool) (x y : Nat)
    (hx1 : (x : Int) + 1 < TParm.maxInt64) (hy1 : (y : Int) + 1 < TParm.maxInt64) :
    Tcell.Props.C09.accepts ff (Render.render rc (.goto x y)) = true := by
  unfold Tcell.Props.C09.accepts
  rw [xl_goto_effect hx (good_init (cfg := { w := 4, h := 2, ffClears := ff }) rfl rfl) x y hx1 hy1]
  rfl

theorem cup_accepted_all (hx : XtermLike rc.ti = true) (ff : Bool) (x y : Nat)
    (hx1 : (x : Int) + 1 < TParm.maxInt64) (hy1 : (y : Int) + 1 < TParm.maxInt64) :
    Tcell.Props.C09.accepts ff (Render.render rc (.goto x y)) = true :=
  cup_accepted_all_caps (capsOk_of_xl hx) ff x y hx1 hy1

theorem cup_accepted_all_corner (hx : CornerLike rc.ti = true) (ff : Bool) (x y : Nat)
    (hx1 : (x : Int) + 1 < TParm.maxInt64) (hy1 : (y : Int) + 1 < TParm.maxInt64) :
    Tcell.Props.C09.accepts ff (Render.render rc (.goto x y)) = true :=
  cup_accepted_all_caps (capsOk_of_cl hx) ff x y hx1 hy1

example : CornerLike Gen.e27 = true := by decide +kernel

theorem quiet_init (rc : RenderCfg) (cfg : Config)
    (hff : Tcell.Spec.TermCaps.stripPadding rc.ti.clear = [12] → cfg.ffClears = true) : Quiet rc (Term.init cfg) :=
  ⟨fun _ => ⟨rfl, rfl⟩, fun _ => rfl, hff⟩

example : SizeOk 80 24 := by unfold SizeOk TParm.maxInt64; omega
example : Good rwClip (Term.init { w := 80, h := 24, rw := rwClip }) := good_init rfl rfl
example : OpB { rw := rwClip, payload := fun m comb => Utf8.encode m ++ comb.flatMap Utf8.encode, hasHide := true, cornerTrick := false, guardLocked := false }
    (.setContent 2 0 0x61 [0x301] {}) := ⟨by
      intro k hk; simp only [List.mem_singleton] at hk; subst hk
      exact ⟨by decide +kernel, by decide, by decide⟩, rfl⟩

/-! ### non-vacuity of the `XtermLike` theorems: xterm-256color, a coloured, underlined wide rune -/

/-- the regenerated `xterm-256color` entry, direct colour off, a (dummy) fitting function that always answers palette
entry 17, the tree as it is (locked-neighbour guard and Fill repair compiled in) -/
def rcDemo : RenderCfg := renderCfgOf Gen.e44 false (fun _ => 2^32 + 17) (fun _ => 2^32)
def dcDemo : DrawCfg := drawCfgOf Gen.e44 true false true
def e0Demo : Term := Term.init { w := 4, h := 2, rw := rwClip }
theorem size42 : SizeOk 4 2 := by unfold SizeOk TParm.maxInt64; omega
/-- palette red 196 on an RGB background (fitted: no direct colour here), bold, curly underline in palette colour 33 -/
def stDemo : Style := { fg := 2^32 + 196, bg := 2^33 + 2^32 + 0x102030, ulStyle := 3, ulColor := 2^32 + 33, attrs := 1 }
def opsDemo : List ScrOp := [.setContent 0 0 0x4e16 [] stDemo, .setContent 2 0 0x61 [0x301] {}, .showCursor 2 0]
def bDemo : BWorld := (after dcDemo rcDemo 4 2 e0Demo opsDemo).step dcDemo rcDemo .show

theorem e44_mem : Gen.e44 ∈ Gen.db := List.mem_of_getElem? (i := 44) rfl
theorem e44_name : Gen.e44.name ∈ layerBNames := by simp [layerBNames, Gen.e44]

theorem fitOk_const (rc : RenderCfg) (k : Nat) (hf : ∀ col, rc.fit col = 2^32 + k) (hk : k < Render.nColors rc) : FitOk rc :=
  fun _ col => by rw [hf]; omega

theorem fitDemo : FitOk rcDemo := fitOk_const _ 17 (fun _ => rfl) (by decide)

theorem opsDemo_ok : ∀ op ∈ opsDemo, op.Valid dcDemo ∧ OpB dcDemo op := by
  intro op hop
  simp only [opsDemo, List.mem_cons, List.not_mem_nil, or_false] at hop
  rcases hop with rfl | rfl | rfl
  · exact ⟨by simp [ScrOp.Valid, attrInvalid, stDemo], by simp, rfl⟩
  · refine ⟨by simp [ScrOp.Valid, attrInvalid], ?_, rfl⟩
    intro k hk; simp only [List.mem_singleton] at hk; subst hk
    exact ⟨by decide +kernel, by decide, by decide⟩
  · exact ⟨by simp [ScrOp.Valid], trivial⟩

/-- every hypothesis of `db_show_faithful_bytes` holds for this world -/
example : DisplaysBytes dcDemo rcDemo bDemo :=
  db_show_faithful_bytes Gen.e44 e44_mem e44_name true false true false _ _ nofun fitDemo 4 2
    size42 e0Demo (good_init rfl rfl) (quiet_init _ _ (by decide +kernel)) rfl rfl opsDemo
    opsDemo_ok (Or.inl (by decide +kernel))

set_option maxRecDepth 100000 in
/-- … and this is what the emulator grid shows (kernel evaluation of the emulator on the bytes of the model): the wide rune
with `SGR 0 ; 38;5;196 ; 48;5;17 ; 1 ; 58:5:33 ; 4 ; 4:3`, its continuation cell, the combining mark on `a`, the cursor -/
example : (bDemo.e.grid.get 0 0).runes = [0x4e16] ∧
    (bDemo.e.grid.get 0 0).pen = { fg := .idx 196, bg := .idx 17, bold := true, ul := 3, ulColor := .idx 33 } ∧
    (bDemo.e.grid.get 0 0).pen = penOf rcDemo stDemo ∧
    (bDemo.e.grid.get 0 0).garbage = false ∧ (bDemo.e.grid.get 1 0).cont = true ∧
    (bDemo.e.grid.get 2 0).runes = [0x61, 0x301] ∧ (bDemo.e.grid.get 2 0).pen = {} ∧
    (bDemo.e.cx, bDemo.e.cy) = (2, 0) ∧ bDemo.e.modes.cursorVisible = true ∧ bDemo.e.malformed = [] := by decide +kernel

/-- direct colour: the same entry after `terminfo.LookupTerminfo` has added the three RGB strings (COLORTERM=truecolor,
terminfo.go:799-816) is still in the class, and the RGB background reaches the emulator exactly -/
def tiDirect : Terminfo := { Gen.e44 with setFgRGB := setfRGB, setBgRGB := setbRGB, setFgBgRGB := setfbRGB }
theorem tiDirect_xl : XtermLike tiDirect = true := by decide +kernel
def rcDirect : RenderCfg := renderCfgOf tiDirect true (fun _ => 2^32 + 17) (fun _ => 2^32)
def dcDirect : DrawCfg := drawCfgOf tiDirect true false true
def bDirect : BWorld := (after dcDirect rcDirect 4 2 e0Demo opsDemo).step dcDirect rcDirect .show

set_option maxRecDepth 100000 in
example : (bDirect.e.grid.get 0 0).pen =
      { fg := .idx 196, bg := .rgb 0x10 0x20 0x30, bold := true, ul := 3, ulColor := .idx 33 } ∧
    (bDirect.e.grid.get 0 0).pen = penOf rcDirect stDemo ∧ bDirect.e.malformed = [] := by decide +kernel

/-! ### non-vacuity beyond the xterm family: vt100 — monochrome, `$<n>` padding, no `civis`/`cnorm`, no hyperlink strings -/

def rcVt : RenderCfg := renderCfgOf Gen.e31 false (fun _ => 0) (fun c => if c = 2^32 + 4 then Render.colorBlack else Render.colorWhite)
def dcVt : DrawCfg := drawCfgOf Gen.e31 true false true
/-- navy (dark: `fit0` answers black, so reverse video is flipped) on red, bold, underlined -/
def stVt : Style := { fg := 2^32 + 4, bg := 2^32 + 1, ulStyle := 1, attrs := 1 }
/-- the requested cursor position is off-screen: on this terminal the cursor is parked bottom-right -/
def opsVt : List ScrOp := [.setContent 0 0 0x4e16 [] stVt, .setContent 2 0 0x61 [0x301] {}, .showCursor 9 9]
def bVt : BWorld := (after dcVt rcVt 4 2 e0Demo opsVt).step dcVt rcVt .show

theorem e31_mem : Gen.e31 ∈ Gen.db := List.mem_of_getElem? (i := 31) rfl
theorem e31_name : Gen.e31.name ∈ layerBNames := by simp [layerBNames, Gen.e31]

/-- a monochrome screen has no palette: `FitOk` asks nothing -/
theorem fitVt : FitOk rcVt := fun h => absurd (by decide) h

theorem opsVt_ok : ∀ op ∈ opsVt, op.Valid dcVt ∧ OpB dcVt op := by
  intro op hop
  simp only [opsVt, List.mem_cons, List.not_mem_nil, or_false] at hop
  rcases hop with rfl | rfl | rfl
  · exact ⟨by simp [ScrOp.Valid, attrInvalid, stVt], by simp, rfl⟩
  · refine ⟨by simp [ScrOp.Valid, attrInvalid], ?_, rfl⟩
    intro k hk; simp only [List.mem_singleton] at hk; subst hk
    exact ⟨by decide +kernel, by decide, by decide⟩
  · exact ⟨by simp [ScrOp.Valid], trivial⟩

example : DisplaysBytes dcVt rcVt bVt :=
  db_show_faithful_bytes Gen.e31 e31_mem e31_name true false true false _ _ nofun fitVt 4 2
    size42 e0Demo (good_init rfl rfl) (quiet_init _ _ (by decide +kernel)) rfl rfl opsVt
    opsVt_ok (Or.inl (by decide +kernel))

set_option maxRecDepth 100000 in
/-- … and what the emulator shows: no colours, bold + underline + reverse video (flipped by the dark foreground), the cursor
parked in the bottom-right cell and still visible, not a byte of padding or of an OSC 8 in the stream (`malformed = []`) -/
example : (bVt.e.grid.get 0 0).runes = [0x4e16] ∧
    (bVt.e.grid.get 0 0).pen = { bold := true, ul := 1, reverse := true } ∧
    (bVt.e.grid.get 0 0).pen = penOf rcVt stVt ∧
    (bVt.e.grid.get 0 0).garbage = false ∧ (bVt.e.grid.get 1 0).cont = true ∧
    (bVt.e.grid.get 2 0).runes = [0x61, 0x301] ∧ (bVt.e.grid.get 2 0).pen = {} ∧
    (bVt.e.cx, bVt.e.cy) = (3, 1) ∧ bVt.e.modes.cursorVisible = true ∧ bVt.e.malformed = [] ∧
    Render.renderAll rcVt [.goto 0 0, .setPen stVt] = [27,91,49,59,49,72, 27,91,109,15, 27,91,49,109, 27,91,52,109, 27,91,55,109] := by
  decide +kernel

/-- the first half of the trick, for the configuration the driver builds from any description in `CornerLike` -/
theorem cl_corner_trick_bytes (ti : Terminfo) (hx : CornerLike ti = true) (lg wg fz tc : Bool) (fit fit0 : Nat → Nat)
    (hfit : FitOk (renderCfgOf ti tc fit fit0)) : CornerTrickFx (drawCfgOf ti lg wg fz) (renderCfgOf ti tc fit fit0) :=
  corner_trick_bytes (dc := drawCfgOf ti lg wg fz) (rc := renderCfgOf ti tc fit fit0) rwClip_ok.2
    (xl_capsFx (drawCfgOf ti lg wg fz) (rc := renderCfgOf ti tc fit fit0) (capsOk_of_cl hx) rfl hfit rfl)
    (ichFx_of (drawCfgOf ti lg wg fz) (renderCfgOf ti tc fit fit0) (cl_ich hx))

theorem e05_mem : Gen.e05 ∈ Gen.db := List.mem_of_getElem? (i := 5) rfl
theorem e05_name : Gen.e05.name ∈ cornerNames := by decide

/-- **the first half of the bottom-right corner trick on cygwin, at the level of bytes**, with no hypothesis about the terminal
description: from any emulator state that represents the abstract terminal, `goto (w-2, y); setPen s; put glyph; goto (w-2, y);
ich1` puts the glyph with its rendition into the last column; the cursor never enters the last column (no pending wrap) -/
theorem cygwin_corner_bytes (lg wg fz tc : Bool) (fit fit0 : Nat → Nat) (hfit : FitOk (renderCfgOf Gen.e05 tc fit fit0)) :
    CornerTrickFx (drawCfgOf Gen.e05 lg wg fz) (renderCfgOf Gen.e05 tc fit fit0) :=
  cl_corner_trick_bytes Gen.e05 (db_cornerLike' Gen.e05 e05_mem e05_name) lg wg fz tc fit fit0 hfit

/-! ### non-vacuity of the `CornerLike` history theorems: cygwin, an actual write to the bottom-right cell -/

def rcCyg : RenderCfg := renderCfgOf Gen.e05 false (fun _ => 2^32) (fun _ => 2^32)
def dcCyg : DrawCfg := drawCfgOf Gen.e05 true false true
/-- `a` in column 2 of the last row, a bold `x` in the bottom-right cell of a 4×2 screen -/
def opsCyg : List ScrOp := [.setContent 2 1 0x61 [] {}, .setContent 3 1 0x78 [] { attrs := 1 }]
def bCyg : BWorld := (after dcCyg rcCyg 4 2 e0Demo opsCyg).step dcCyg rcCyg .show

theorem fitCyg : FitOk rcCyg := fitOk_const _ 0 (fun _ => rfl) (by decide)

theorem opsCyg_ok : ∀ op ∈ opsCyg, op.Valid dcCyg ∧ OpB dcCyg op := by
  intro op hop
  simp only [opsCyg, List.mem_cons, List.not_mem_nil, or_false] at hop
  rcases hop with rfl | rfl
  · exact ⟨by simp [ScrOp.Valid, attrInvalid], by simp, rfl⟩
  · exact ⟨by simp [ScrOp.Valid, attrInvalid], by simp, rfl⟩

/-- Layer A's side condition along this history: two columns at least, no locked cell in the last row at the Show -/
theorem opsCyg_safe : World.SafeRun dcCyg (World.init 4 2) (opsCyg ++ [.show]) :=
  ⟨trivial, trivial, cornerSafe_of_B (by decide +kernel), trivial⟩

/-- every hypothesis of `db_show_faithful_bytes_corner` holds for this world -/
example : DisplaysBytes dcCyg rcCyg bCyg :=
  db_show_faithful_bytes_corner Gen.e05 e05_mem e05_name true false true false _ _ nofun fitCyg 4 2
    size42 e0Demo (good_init rfl rfl) (quiet_init _ _ (by decide +kernel)) rfl rfl opsCyg
    opsCyg_ok opsCyg_safe (Or.inl (by decide +kernel))

set_option maxRecDepth 100000 in
/-- … and what the emulator shows (kernel evaluation of the emulator on the bytes of the model): the trick is in use, the bold `x`
is in the bottom-right cell, `a` left of it, the cursor ended at home, nothing scrolled (row 0 still blank), no complaint -/
example : dcCyg.cornerTrick = true ∧
    (bCyg.e.grid.get 3 1).runes = [0x78] ∧ (bCyg.e.grid.get 3 1).pen = { bold := true } ∧ (bCyg.e.grid.get 3 1).garbage = false ∧
    (bCyg.e.grid.get 2 1).runes = [0x61] ∧ (bCyg.e.grid.get 2 1).pen = {} ∧ (bCyg.e.grid.get 2 1).garbage = false ∧
    (bCyg.e.grid.get 0 0).runes = [32] ∧ bCyg.e.pendingWrap = false ∧ bCyg.e.malformed = [] := by decide +kernel

/-- a later Show that repaints ONLY the bottom-right cell, next to a wide rune that covers column `w-2`: the trick writes `y` over
the right half of `世`, pushes it right with `ich1` and repaints the wide rune from its start column (`cornerPx`) -/
def opsCyg2 : List ScrOp :=
  [.setContent 1 1 0x4e16 [] {}, .setContent 3 1 0x78 [] { attrs := 1 }, .show, .setContent 3 1 0x79 [] { attrs := 4 }]
def bCyg2 : BWorld := (after dcCyg rcCyg 4 2 e0Demo opsCyg2).step dcCyg rcCyg .show

theorem opsCyg2_ok : ∀ op ∈ opsCyg2, op.Valid dcCyg ∧ OpB dcCyg op := by
  intro op hop
  simp only [opsCyg2, List.mem_cons, List.not_mem_nil, or_false] at hop
  rcases hop with rfl | rfl | rfl | rfl
  · exact ⟨by simp [ScrOp.Valid, attrInvalid], by simp, rfl⟩
  · exact ⟨by simp [ScrOp.Valid, attrInvalid], by simp, rfl⟩
  · exact ⟨trivial, trivial⟩
  · exact ⟨by simp [ScrOp.Valid, attrInvalid], by simp, rfl⟩

theorem opsCyg2_safe : World.SafeRun dcCyg (World.init 4 2) (opsCyg2 ++ [.show]) :=
  ⟨trivial, trivial, cornerSafe_of_B (by decide +kernel), trivial, cornerSafe_of_B (by decide +kernel), trivial⟩

example : DisplaysBytes dcCyg rcCyg bCyg2 :=
  db_show_faithful_bytes_corner Gen.e05 e05_mem e05_name true false true false _ _ nofun fitCyg 4 2
    size42 e0Demo (good_init rfl rfl) (quiet_init _ _ (by decide +kernel)) rfl rfl opsCyg2
    opsCyg2_ok opsCyg2_safe (Or.inl (by decide +kernel))

set_option maxRecDepth 100000 in
/-- the second Show wrote the corner trick and nothing else (between the two cursor parkings of a terminal without `civis`: `cup 2;3`,
style, `y`, `cup 2;3`, `CSI @`, `cup 2;2`, style, `世`, `cup 1;1`), and the emulator shows the reverse-video `y` bottom-right, the wide
rune intact, the cursor parked in the bottom-right cell with no wrap pending -/
example : (bCyg2.e.grid.get 3 1).runes = [0x79] ∧ (bCyg2.e.grid.get 3 1).pen = { reverse := true } ∧
    (bCyg2.e.grid.get 3 1).garbage = false ∧
    (bCyg2.e.grid.get 1 1).runes = [0x4e16] ∧ (bCyg2.e.grid.get 2 1).cont = true ∧ (bCyg2.e.grid.get 1 1).garbage = false ∧
    (bCyg2.e.grid.get 0 1).runes = [32] ∧ (bCyg2.e.grid.get 0 0).runes = [32] ∧
    (bCyg2.e.cx, bCyg2.e.cy) = (3, 1) ∧ bCyg2.e.pendingWrap = false ∧ bCyg2.e.malformed = [] ∧
    ((after dcCyg rcCyg 4 2 e0Demo opsCyg2).wd.sw.step dcCyg .show).2 =
      [.goto 4 2, .goto 2 1, .setPen { attrs := 4 }, .put [0x79] 1, .goto 2 1, .insertChar,
       .goto 1 1, .setPen {}, .put [0xe4, 0xb8, 0x96] 2, .goto 0 0, .goto 4 2] := by decide +kernel

/-- C09 on the same history (both Shows included): every hypothesis of `db_output_wellformed_corner` holds -/
def opsCyg3 : List ScrOp := opsCyg2 ++ [.show]

theorem opsCyg3_ok : ∀ op ∈ opsCyg3, op.Valid dcCyg ∧ OpB dcCyg op := by
  intro op hop
  rcases List.mem_append.1 hop with h | h
  · exact opsCyg2_ok op h
  · simp only [List.mem_singleton] at h; subst h; exact ⟨trivial, trivial⟩

example : (after dcCyg rcCyg 4 2 e0Demo opsCyg3).e.malformed = [] ∧ (after dcCyg rcCyg 4 2 e0Demo opsCyg3).e.st = .ground :=
  db_output_wellformed_corner Gen.e05 e05_mem e05_name true false true false (fun _ => 2^32) (fun _ => 2^32)
    nofun fitCyg 4 2
    size42 e0Demo (good_init rfl rfl) (quiet_init _ _ (by decide +kernel)) rfl rfl
    opsCyg3 opsCyg3_ok opsCyg2_safe

/-- `cup` for all positions on a corner-trick entry: the hypothesis of `cup_accepted_all_corner` holds for cygwin -/
example : Tcell.Props.C09.accepts false (Render.render rcCyg (.goto 100000 70000)) = true :=
  cup_accepted_all_corner (rc := rcCyg) (db_cornerLike' Gen.e05 e05_mem e05_name) false 100000 70000
    (by unfold TParm.maxInt64; omega) (by unfold TParm.maxInt64; omega)

/-- the state sendFgBg finds: right after SGR reset the pen is `PenReset` -/
example (t : Term) : PenReset (reset t) := ⟨rfl, rfl⟩

/-- Sync on the same history: every hypothesis of `db_sync_faithful_bytes_corner` holds -/
example : DisplaysBytes dcCyg rcCyg ((after dcCyg rcCyg 4 2 e0Demo opsCyg2).step dcCyg rcCyg .sync) :=
  db_sync_faithful_bytes_corner Gen.e05 e05_mem e05_name true false true false _ _ nofun fitCyg 4 2
    size42 e0Demo (good_init rfl rfl) (quiet_init _ _ (by decide +kernel)) rfl rfl opsCyg2
    opsCyg2_ok ⟨trivial, trivial, cornerSafe_of_B (by decide +kernel), trivial, cornerSafe_of_B (by decide +kernel), trivial⟩

/-! ### non-vacuity for the forms admitted for the other corner-trick entries: sun (`clear` = FF, monochrome, no `smul`),
sun-color (`op` = `CSI 0 m`, `38;5;n` palette strings, no `setfgbg`), beterm (`op` = `CSI m`) -/

def rcSun : RenderCfg := renderCfgOf Gen.e27 false (fun _ => 0) (fun _ => Render.colorWhite)
def dcSun : DrawCfg := drawCfgOf Gen.e27 true false true
/-- an emulator that clears on FF, as a Sun console does -/
def e0Sun : Term := Term.init { w := 4, h := 2, rw := rwClip, ffClears := true }
/-- reverse video, underlined: the description has no `smul`, so no underline is shown (`ulStyleOf`) -/
def stSun : Style := { ulStyle := 1, attrs := 4 }
def opsSun : List ScrOp := [.setContent 0 0 0x61 [] {}, .setContent 3 1 0x78 [] stSun]
/-- Sync: clearScreen writes FF -/
def bSun : BWorld := (after dcSun rcSun 4 2 e0Sun opsSun).step dcSun rcSun .sync

theorem e27_mem : Gen.e27 ∈ Gen.db := List.mem_of_getElem? (i := 27) rfl
theorem e27_name : Gen.e27.name ∈ cornerNames := by decide
theorem fitSun : FitOk rcSun := fun h => absurd (by decide) h

theorem opsSun_ok : ∀ op ∈ opsSun, op.Valid dcSun ∧ OpB dcSun op := by
  intro op hop
  simp only [opsSun, List.mem_cons, List.not_mem_nil, or_false] at hop
  rcases hop with rfl | rfl
  · exact ⟨by simp [ScrOp.Valid, attrInvalid], by simp, rfl⟩
  · exact ⟨by simp [ScrOp.Valid, attrInvalid, stSun], by simp, rfl⟩

example : DisplaysBytes dcSun rcSun bSun :=
  db_sync_faithful_bytes_corner Gen.e27 e27_mem e27_name true false true false _ _ nofun fitSun 4 2
    size42 e0Sun (good_init rfl rfl) (quiet_init _ _ (fun _ => rfl)) rfl rfl opsSun
    opsSun_ok ⟨trivial, trivial, cornerSafe_of_B (by decide +kernel), trivial⟩

set_option maxRecDepth 100000 in
/-- … the grid after the FF and the repaint: reverse video without underline in the bottom-right cell, `a` at home, blanks elsewhere, no
complaint; `clearScreen` wrote `CSI m` and FF and nothing else.  On an emulator that does NOT clear on FF the same bytes are rejected (the
hypothesis `Quiet.ff` is needed). -/
example : dcSun.cornerTrick = true ∧
    (bSun.e.grid.get 3 1).runes = [0x78] ∧ (bSun.e.grid.get 3 1).pen = { reverse := true } ∧
    (bSun.e.grid.get 3 1).pen = penOf rcSun stSun ∧ (bSun.e.grid.get 3 1).garbage = false ∧
    (bSun.e.grid.get 0 0).runes = [0x61] ∧ (bSun.e.grid.get 1 0).runes = [32] ∧ (bSun.e.grid.get 1 0).garbage = false ∧
    bSun.e.pendingWrap = false ∧ bSun.e.malformed = [] ∧
    Render.render rcSun (.clear {}) = [27, 91, 109, 12] ∧
    ((after dcSun rcSun 4 2 e0Demo opsSun).step dcSun rcSun .sync).e.malformed ≠ [] := by decide +kernel

def rcSunC : RenderCfg := renderCfgOf Gen.e28 false (fun _ => 2^32 + 17) (fun _ => 2^32)
def dcSunC : DrawCfg := drawCfgOf Gen.e28 true false true
/-- `ColorReset` foreground (so `op` = `CSI 0 m` is written) on palette colour 200, bold -/
def stSunC : Style := { fg := colorReset, bg := 2^32 + 200, attrs := 1 }
def opsSunC : List ScrOp := [.setContent 3 1 0x78 [] stSunC]
def bSunC : BWorld := (after dcSunC rcSunC 4 2 e0Sun opsSunC).step dcSunC rcSunC .show

theorem e28_mem : Gen.e28 ∈ Gen.db := List.mem_of_getElem? (i := 28) rfl
theorem e28_name : Gen.e28.name ∈ cornerNames := by decide
theorem fitSunC : FitOk rcSunC := fitOk_const _ 17 (fun _ => rfl) (by decide)

theorem opsSunC_ok : ∀ op ∈ opsSunC, op.Valid dcSunC ∧ OpB dcSunC op := by
  intro op hop
  simp only [opsSunC, List.mem_cons, List.not_mem_nil, or_false] at hop
  subst hop
  exact ⟨by simp [ScrOp.Valid, attrInvalid, stSunC], by simp, rfl⟩

example : DisplaysBytes dcSunC rcSunC bSunC :=
  db_show_faithful_bytes_corner Gen.e28 e28_mem e28_name true false true false _ _ nofun fitSunC 4 2
    size42 e0Sun (good_init rfl rfl) (quiet_init _ _ (fun _ => rfl)) rfl rfl opsSunC
    opsSunC_ok ⟨trivial, cornerSafe_of_B (by decide +kernel), trivial⟩ (Or.inl (by decide +kernel))

set_option maxRecDepth 100000 in
example : (bSunC.e.grid.get 3 1).runes = [0x78] ∧ (bSunC.e.grid.get 3 1).pen = { bg := .idx 200, bold := true } ∧
    (bSunC.e.grid.get 3 1).pen = penOf rcSunC stSunC ∧ (bSunC.e.grid.get 3 1).garbage = false ∧ bSunC.e.malformed = [] ∧
    Render.render rcSunC (.setPen stSunC) = [27,91,109, 27,91,48,109, 27,91,52,56,59,53,59,50,48,48,109, 27,91,49,109] := by
  decide +kernel

def rcBe : RenderCfg := renderCfgOf Gen.e04 false (fun _ => 2^32) (fun _ => 2^32)
def dcBe : DrawCfg := drawCfgOf Gen.e04 true false true
/-- red on `ColorReset` (so `op` = `CSI m` is written), bold, reverse -/
def stBe : Style := { fg := 2^32 + 1, bg := colorReset, attrs := 5 }
def opsBe : List ScrOp := [.setContent 3 1 0x78 [] stBe]
def bBe : BWorld := (after dcBe rcBe 4 2 e0Demo opsBe).step dcBe rcBe .show

theorem e04_mem : Gen.e04 ∈ Gen.db := List.mem_of_getElem? (i := 4) rfl
theorem e04_name : Gen.e04.name ∈ cornerNames := by decide
theorem fitBe : FitOk rcBe := fitOk_const _ 0 (fun _ => rfl) (by decide)

theorem opsBe_ok : ∀ op ∈ opsBe, op.Valid dcBe ∧ OpB dcBe op := by
  intro op hop
  simp only [opsBe, List.mem_cons, List.not_mem_nil, or_false] at hop
  subst hop
  exact ⟨by simp [ScrOp.Valid, attrInvalid, stBe], by simp, rfl⟩

example : DisplaysBytes dcBe rcBe bBe :=
  db_show_faithful_bytes_corner Gen.e04 e04_mem e04_name true false true false _ _ nofun fitBe 4 2
    size42 e0Demo (good_init rfl rfl) (quiet_init _ _ (by decide +kernel)) rfl rfl opsBe
    opsBe_ok ⟨trivial, cornerSafe_of_B (by decide +kernel), trivial⟩ (Or.inl (by decide +kernel))

set_option maxRecDepth 100000 in
example : (bBe.e.grid.get 3 1).runes = [0x78] ∧ (bBe.e.grid.get 3 1).pen = { fg := .idx 1, bold := true, reverse := true } ∧
    (bBe.e.grid.get 3 1).pen = penOf rcBe stBe ∧ (bBe.e.grid.get 3 1).garbage = false ∧ bBe.e.malformed = [] := by
  decide +kernel

/-- aixterm: `op` (`CSI 32 m CSI 40 m`) sets green on black, and `penOf` says so: a style with `ColorReset` as foreground -/
def rcAix : RenderCfg := renderCfgOf Gen.e00 false (fun _ => 2^32) (fun _ => 2^32)
example : Gen.e00.name = "aixterm" ∧ penOf rcAix { fg := colorReset } = { fg := .idx 2, bg := .idx 0 } ∧
    (e0Demo.feed (Render.render rcAix (.setPen { fg := colorReset }))).pen = penOf rcAix { fg := colorReset } ∧
    (e0Demo.feed (Render.render rcAix (.setPen { fg := colorReset, bg := 2^32 + 1 }))).pen = { fg := .idx 2, bg := .idx 1 } := by
  decide +kernel

end Tcell.Props.C01B
