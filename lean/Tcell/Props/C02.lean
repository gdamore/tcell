import Tcell.Lemmas.ChunkStable
import Tcell.Lemmas.ChunkUtf8
import Tcell.Props.C03
import Tcell.Gen.ParserMode
/-
C02 — "Input decoding is independent of read chunking and consumes every byte".

Model: `Tcell.Model.Parser` (`collect` = `collectEventsFromInput`, tscreen.go:1722-1812, with its six parsers).
One `Feed` of the screen's main loop is `collect cfg st (buffered ++ chunk) expire` (tscreen.go:1852-1905: `buf.Write(chunk)`,
`scanInput(buf, false)`; the timer path calls `scanInput(buf, true)`).

Hypothesis `Stable cfg` (Tcell.Lemmas.ChunkStable): prefix-free key table (`pf`), the decidable table guard `keyGuard`
(`guard`), the decoder laws `DecLaws` (`dec`), and — because the pinned `parseClipboard` is **not** prefix-monotone — the
repaired clipboard parser of fixes/C02-clipboard.patch wherever that parser is active (`clip`).

The statement is `collect_append` (one read of `a ++ b` = read `a`, then read `b` on top of what was left over) and its
fold over any partition into reads, `feed_chunks_eq_feed_concat`; `db_chunk_independent` instantiates it at the screen
of every database entry (`db_stable`: one kernel-evaluated sweep `db_seq_guard` of the guard in its syntactic form, full
strength since /repo 7758baa and 6c7d26f; `rxvt_focus_clash` shows why the rxvt entries had to be excepted before).
"Consumes every byte" is `no_swallow`, `no_swallow_collect`, `never_stalls`, `expire_drains`.  The pinned parsers fail
it: `pinned_clipboard_*` (findings `chunk-dependent`, `swallow`; the same inputs are fixed cases of the `parsechunk`
engine) and `sgr_junk_swallowed`, `sgr_pinned_esc_waits` (finding `swallow-into-mouse-report`); for the repaired SGR
parser (fixes/C02-sgr-strict.patch, `Cfg.sgrStrict`) `sgr_no_junk` / `sgr_strict_exact` say that it consumes exactly
the bytes of one report of the independent grammar `Spec.SgrGrammar.isSgrReport`.  `Stable` does not mention the SGR
variant, so everything else holds for both.
-/
namespace Tcell.Props.C02
open Tcell Tcell.Model Tcell.Lemmas.Collect Tcell.Lemmas.PrefixFree Tcell.Lemmas.Chunk

/-- **collect_append.**  For every configuration satisfying `Stable`, all byte strings `a b` (no length bound), every
parser state and either value of the timeout flag of the second read: decoding `a ++ b` in one read gives the events of
reading `a` first (no timeout in between) followed by the events of reading `b` on top of what the first read left
buffered; final state and leftover agree too. -/
theorem collect_append (cfg : Cfg) (hs : Stable cfg) (st : PState) (a b : Bytes) (e : Bool) :
    collect cfg st (a ++ b) e =
      (let r1 := collect cfg st a false
       let r2 := collect cfg r1.st (r1.rest ++ b) e
       ⟨r1.evs ++ r2.evs, r2.st, r2.rest, r2.amb⟩) :=
  collect_append_stable cfg hs st a b e

/-- the main loop over a list of reads: all but the last without timeout; the last read `last` carries `e`.
Result: all events, final parser state, bytes still buffered. -/
def feeds (cfg : Cfg) (st : PState) (buf : Bytes) : List Bytes → Bytes → Bool → List Event × PState × Bytes
  | [], last, e =>
    let r := collect cfg st (buf ++ last) e
    (r.evs, r.st, r.rest)
  | c :: cs, last, e =>
    let r := collect cfg st (buf ++ c) false
    let t := feeds cfg r.st r.rest cs last e
    (r.evs ++ t.1, t.2)

/-- **every partition.**  Folding the reads over any list of chunks equals one read of their concatenation (any number of
chunks, any chunk sizes incl. empty and single bytes, any bytes already buffered, any state). -/
theorem feed_chunks_eq_feed_concat (cfg : Cfg) (hs : Stable cfg) (last : Bytes) (e : Bool) :
    ∀ (cs : List Bytes) (st : PState) (buf : Bytes),
      feeds cfg st buf cs last e = feeds cfg st buf [] (cs.flatten ++ last) e := by
  intro cs
  induction cs with
  | nil => intro st buf; simp
  | cons c cs ih =>
    intro st buf
    have h := collect_append_stable cfg hs st (buf ++ c) (cs.flatten ++ last) e
    simp only [feeds, ih, List.flatten_cons, List.append_assoc] at h ⊢
    rw [h]
    simp [feed2]

/-- every parser the loop tries is prefix-monotone: a `complete n evs st'` or `reject` verdict on `a` is the verdict on
every `a ++ b`, and `1 ≤ n ≤ |a|` -/
theorem parser_monotone (cfg : Cfg) (hs : Stable cfg) : ∀ p ∈ parsers cfg, Mono p := parsers_mono cfg hs

theorem parseRune_monotone (dec : Bytes → DecResult) (hd : DecBound dec) : Mono (parseRune dec) := mono_parseRune dec hd
theorem parseFunctionKey_monotone (T : KeyTable) (hT : PrefixFree T) (hne : NoEmptySeq T) : Mono (parseFunctionKey T) :=
  mono_parseFunctionKey T hT hne
theorem parseFocus_monotone : Mono parseFocus := mono_parseFocus
theorem parseXtermMouse_monotone (cfg : Cfg) : Mono (parseXtermMouse cfg) := mono_parseXtermMouse cfg
theorem parseSgrMouse_monotone (cfg : Cfg) : Mono (parseSgrMouse cfg) := mono_parseSgrMouse cfg
/-- the repaired clipboard parser (fixes/C02-clipboard.patch) -/
theorem parseClipboardF_monotone : Mono parseClipboardF := mono_parseClipboardF

/-- one loop iteration: whatever it emitted on `a` without timeout it emits on `a ++ b`, leaving `b` untouched -/
theorem step_monotone (cfg : Cfg) (hs : Stable cfg) (st : PState) (a b : Bytes) (e : Bool) (ha : a ≠ [])
    (evs : List Event) (st' : PState) (rest : Bytes) (h : step1 cfg st a false = .emit evs st' rest) :
    step1 cfg st (a ++ b) e = .emit evs st' (rest ++ b) := step1_mono cfg hs st a b e evs st' rest ha h

/-- **no swallow (one sequence).**  A sequence `s` recognised as a whole (key, mouse report, focus report, paste bracket,
clipboard reply, character) consumes exactly `|s|` bytes: any bytes `t` behind it are left for the next iteration. -/
theorem no_swallow (cfg : Cfg) (hs : Stable cfg) (st : PState) (s t : Bytes) (e : Bool) (hne : s ≠ [])
    (evs : List Event) (st' : PState) (h : step1 cfg st s false = .emit evs st' []) :
    step1 cfg st (s ++ t) e = .emit evs st' t := by
  have := step1_mono cfg hs st s t e evs st' [] hne h
  simpa using this

/-- **no swallow (streams).**  If `s` alone decodes completely (nothing left buffered), then `s ++ t` decodes to the events
of `s` followed by the events `t` gives in the state `s` leaves: nothing before or after a recognised stretch is lost. -/
theorem no_swallow_collect (cfg : Cfg) (hs : Stable cfg) (st : PState) (s t : Bytes) (e : Bool)
    (h : (collect cfg st s false).rest = []) :
    collect cfg st (s ++ t) e =
      (let r := collect cfg (collect cfg st s false).st t e
       ⟨(collect cfg st s false).evs ++ r.evs, r.st, r.rest, r.amb⟩) := by
  rw [collect_append cfg hs]
  simp [h]

/-- **never stalls**: every productive iteration strictly shortens the buffer (so the Go `for` loop terminates and the
fuel of `collect` is never exhausted) -/
theorem never_stalls (cfg : Cfg) (hs : Stable cfg) (st : PState) (b : Bytes) (e : Bool) (evs : List Event) (st' : PState)
    (rest : Bytes) (hb : b ≠ []) (h : step1 cfg st b e = .emit evs st' rest) : rest.length < b.length :=
  progress_of_stable cfg hs st b e evs st' rest hb h

/-- **collect_total.**  The model is a total function; the places where the Go code could panic are guarded:
`b[0]` in parseRune (tscreen.go:1700) and in the fall-through (1820) are reached only with `len(b) > 0` (loop head 1769:
`step1` is applied to `_ :: _` only); `b[:len(b)-1]`, `b[:len(b)-2]` (pinned) and `b[:i]`, `b[:i-1]` (repaired, `i ≥ 1`
in state 1) in parseClipboard are reached only with `len(b) > 7`; ReadByte errors are ignored.  The statement: on the
empty buffer nothing is called and nothing is produced. -/
theorem collect_total (cfg : Cfg) (st : PState) (e : Bool) : collect cfg st [] e = ⟨[], st, [], false⟩ := rfl

theorem step1_expire_not_wait (cfg : Cfg) (st : PState) (b : Bytes) (hb : b ≠ []) : step1 cfg st b true ≠ .wait := by
  rcases step1_cases cfg st b true with ⟨_, _, _, _, _, _, h⟩ | ⟨_, h⟩ | ⟨_, _, h⟩ | ⟨he | he, _⟩
  · rw [h]; nofun
  · rw [h]; nofun
  · rw [h]; nofun
  · cases he
  · exact absurd he hb

/-- under `Stable` no result depends on map iteration order -/
theorem not_order_dependent (cfg : Cfg) (hs : Stable cfg) (st : PState) (b : Bytes) (e : Bool) :
    step1 cfg st b e ≠ .ambiguous := step1_not_ambiguous cfg hs st b e

/-- **expire_drains.**  Once the escape timeout has expired no byte remains buffered (all byte strings, all states). -/
theorem expire_drains (cfg : Cfg) (hs : Stable cfg) : ∀ (k : Nat) (b : Bytes) (st : PState), b.length ≤ k →
    (collect cfg st b true).rest = [] ∧ (collect cfg st b true).amb = false := by
  intro k
  induction k with
  | zero =>
    intro b st hk
    have : b = [] := List.eq_nil_of_length_eq_zero (by omega)
    subst this; exact ⟨rfl, rfl⟩
  | succ k ih =>
    intro b st hk
    cases hb : b with
    | nil => exact ⟨rfl, rfl⟩
    | cons c t =>
      have hne : b ≠ [] := by rw [hb]; simp
      rw [← hb]
      cases hstep : step1 cfg st b true with
      | wait => exact absurd hstep (step1_expire_not_wait cfg st b hne)
      | ambiguous => exact absurd hstep (step1_not_ambiguous cfg hs st b true)
      | emit evs st' rest =>
        have hlt := progress_of_stable cfg hs st b true evs st' rest hne hstep
        rw [collect_emit cfg (progress_of_stable cfg hs) st b hne true evs st' rest hstep]
        exact ih rest st' (by omega)

theorem expire_drains' (cfg : Cfg) (hs : Stable cfg) (st : PState) (b : Bytes) : (collect cfg st b true).rest = [] :=
  (expire_drains cfg hs b.length b st (Nat.le_refl _)).1

theorem decLaws_table (tbl : List Int) : DecLaws (decTable tbl) where
  bound := by
    intro p r n h
    cases p with
    | nil => simp [decTable] at h
    | cons c t =>
      unfold decTable at h
      by_cases hc : c < 128 <;> simp [hc] at h <;> (rw [← h.2]; simp)
  local4 := by
    intro p q r n hl _
    cases p with
    | nil => simp at hl
    | cons c t =>
      unfold decTable
      by_cases hc : c < 128 <;> simp only [hc, if_true, if_false] <;> exact ⟨_, _, rfl⟩

theorem decLaws_utf8 : DecLaws decUtf8 := Tcell.Lemmas.ChunkUtf8.decLaws_utf8

def exT : KeyTable :=
  [⟨[13], 13, 0⟩, ⟨[27, 79, 80], 279, 0⟩, ⟨[27, 91, 49, 59, 53, 80], 279, 2⟩, ⟨[27, 91, 50, 48, 48, 126], 16384, 0⟩,
   ⟨[27, 91, 65], 257, 0⟩]
/-- xterm-like configuration with mouse and (repaired) clipboard parser, UTF-8 -/
def exCfg : Cfg := { keys := exT, mouse := true, clipboard := true, clipFixed := true, dec := decUtf8, w := 80, h := 24 }
/-- the same with the pinned clipboard parser -/
def exPinned : Cfg := { exCfg with clipFixed := false }

theorem exCfg_stable : Stable exCfg where
  pf := prefixFree_of_chain exT (by decide)
  guard := by decide
  dec := decLaws_utf8
  clip := fun _ => rfl

/-- OSC 52 reply `ESC ] 5 2 ; c ; aGVsbG8= BEL` ("hello") -/
def replyBel : Bytes := [27, 93, 53, 50, 59, 99, 59, 97, 71, 86, 115, 98, 71, 56, 61, 7]
/-- `ESC ] 5 2 ; c ; QUJD ESC \` ("ABC", ST terminated) -/
def replySt : Bytes := [27, 93, 53, 50, 59, 99, 59, 81, 85, 74, 68, 27, 92]

-- the hypotheses are satisfiable, and the theorem is not vacuous on the instance:
example : collect exCfg {} (replyBel ++ [120]) false
    = ⟨[.clipboard [104, 101, 108, 108, 111], .key 256 120 0], {}, [], false⟩ := by decide
example : collect exCfg {} (replySt ++ [27, 91, 73] ++ [27, 91, 60, 48, 59, 53, 59, 53, 77]) false
    = ⟨[.clipboard [65, 66, 67], .focus true, .mouse 4 4 1 0], { buttondn := true }, [], false⟩ := by decide
example : feeds exCfg {} [] [[27, 93, 53], [50, 59, 99, 59, 97, 71, 86, 115, 98], [71, 56, 61, 7, 120]] [] false
    = feeds exCfg {} [] [] ([[27, 93, 53], [50, 59, 99, 59, 97, 71, 86, 115, 98], [71, 56, 61, 7, 120]].flatten ++ []) false :=
  feed_chunks_eq_feed_concat exCfg exCfg_stable [] false _ {} []
example : (collect exCfg {} [27] true).rest = [] := expire_drains' exCfg exCfg_stable {} [27]

/-- **event lost.**  Reply + `x` in ONE read: the BEL branch drops the last byte of the *buffer* (`x`), hands
`aGVsbG8=\a` to the base64 decoder, which fails: no clipboard event, only `x` … -/
theorem pinned_clipboard_one_read :
    collect exPinned {} (replyBel ++ [120]) false = ⟨[.key 256 120 0], {}, [], false⟩ := by decide
/-- … in TWO reads (`reply`, then `x`) the event is delivered: the result depends on chunking -/
theorem pinned_clipboard_two_reads :
    feeds exPinned {} [] [replyBel] [120] false = ([.clipboard [104, 101, 108, 108, 111], .key 256 120 0], {}, []) := by decide
/-- hence `collect_append` fails for the pinned parser: `Stable.clip` cannot be dropped -/
theorem pinned_clipboard_not_chunk_independent :
    collect exPinned {} (replyBel ++ [120]) false ≠
      (let r1 := collect exPinned {} replyBel false
       let r2 := collect exPinned r1.st (r1.rest ++ [120]) false
       ⟨r1.evs ++ r2.evs, r2.st, r2.rest, r2.amb⟩) := by decide
/-- the ST branch (`b[:len(b)-2]`) has the same defect -/
theorem pinned_clipboard_st :
    collect exPinned {} (replySt ++ [120]) false = ⟨[.key 256 120 0], {}, [], false⟩
    ∧ feeds exPinned {} [] [replySt] [120] false = ([.clipboard [65, 66, 67], .key 256 120 0], {}, []) := by decide
/-- the pinned parser is not prefix-monotone: `complete` with an event on `reply`, `complete` without one on `reply ++ x` -/
theorem pinned_clipboard_not_monotone :
    parseClipboard {} replyBel = .complete 16 [.clipboard [104, 101, 108, 108, 111]] {}
    ∧ parseClipboard {} (replyBel ++ [120]) = .complete 16 [] {} := by decide
/-- **bytes swallowed.**  The seven prefix bytes are skipped unchecked: `ESC a b c d e f g h BEL` (ten bytes that are no
OSC 52 reply) is consumed whole by the clipboard parser and produces nothing — even after the escape timeout -/
theorem pinned_clipboard_swallows :
    collect exPinned {} [27, 97, 98, 99, 100, 101, 102, 103, 104, 7] true = ⟨[], {}, [], false⟩ := by decide
/-- the repaired parser delivers them (Alt-a, b … h, Ctrl-G) -/
theorem fixed_clipboard_delivers :
    (collect exCfg {} [27, 97, 98, 99, 100, 101, 102, 103, 104, 7] true).evs.length = 9 := by decide

/-- pinned `parseSgrMouse` ignores bytes that have no `case` (tscreen.go:1402): `ESC q [ < 0 ; 5 ; 5 M` is consumed as a
mouse report and the `q` disappears.  This does not depend on chunking (the parser is prefix-monotone) but it is a
swallowed byte; reachable on the real code (oracle class `swallow`). -/
theorem sgr_junk_swallowed :
    collect exCfg {} [27, 113, 91, 60, 48, 59, 53, 59, 53, 77] false = ⟨[.mouse 4 4 1 0], { buttondn := true }, [], false⟩ := by
  decide

/-- … and while the buffer holds `ESC x` the pinned SGR parser still reports "partial" (the `x` is skipped, the loop runs
off the end), so on a mouse terminal Alt-x is not delivered until the escape timeout fires -/
theorem sgr_pinned_esc_waits :
    collect exCfg {} [27, 120] false = ⟨[], {}, [27, 120], false⟩
    ∧ collect exCfg {} [27, 120] true = ⟨[.key 256 120 4], {}, [], false⟩ := by decide

/-- `exCfg` with the repaired SGR parser -/
def exStrict : Cfg := { exCfg with sgrStrict := true }

theorem exStrict_stable : Stable exStrict where
  pf := exCfg_stable.pf
  guard := by decide
  dec := decLaws_utf8
  clip := fun _ => rfl

/-- the strict parser is prefix-monotone like the pinned one (`parseSgrMouse_monotone` is stated for every `cfg`) -/
example : Mono (parseSgrMouse exStrict) := parseSgrMouse_monotone exStrict

open Tcell.Spec.SgrGrammar in
/-- **sgr_no_junk.**  For the repaired parser, every buffer `b` (no length bound), every parser state: if `parseSgrMouse`
completes on `b` and removes `n` bytes, then `n ≤ |b|` and the `n` bytes removed are exactly one syntactically valid SGR
mouse report – introducer `ESC [` or `0x9B`, `<`, three optionally negative decimal fields separated by `;`, final `M`
or `m` (`Spec.SgrGrammar.isSgrReport`, a recogniser of that regular expression written from ctlseqs; a field may be empty,
which the parser reads as 0).  Hence no byte that is not part of a report is ever consumed by it: nothing in front of the
report, nothing inside it, nothing behind it. -/
theorem sgr_no_junk (cfg : Cfg) (hs : cfg.sgrStrict = true) (st : PState) (b : Bytes) (n : Nat) (evs : List Event)
    (st' : PState) (h : parseSgrMouse cfg st b = .complete n evs st') :
    isSgrReport (b.take n) = true ∧ n ≤ b.length := by
  constructor
  · exact Tcell.Lemmas.SgrStrict.sgrRun_grammar cfg hs st n evs st' b {} 0 h
  · exact ((parseSgrMouse_monotone cfg).bound st b n evs st' h).2

/-- the same at the level of the loop: when an iteration of `collectEventsFromInput` is decided by the SGR parser, the
bytes it takes off the buffer are one report and what follows it is left untouched -/
theorem sgr_no_junk_append (cfg : Cfg) (hs : cfg.sgrStrict = true) (st : PState) (b : Bytes) (n : Nat) (evs : List Event)
    (st' : PState) (h : parseSgrMouse cfg st b = .complete n evs st') :
    ∃ r t, b = r ++ t ∧ r.length = n ∧ Tcell.Spec.SgrGrammar.isSgrReport r = true := by
  obtain ⟨hg, hn⟩ := sgr_no_junk cfg hs st b n evs st' h
  exact ⟨b.take n, b.drop n, (List.take_append_drop n b).symm, by simp [List.length_take, Nat.min_eq_left hn], hg⟩

open Tcell.Spec.SgrGrammar in
/-- **every report is recognised** (both variants): if `r` is an SGR report of the grammar, `parseSgrMouse` completes on
`r ++ t` for every continuation `t` and removes exactly the `|r|` bytes of the report -/
theorem sgr_report_recognised (cfg : Cfg) (st : PState) (r t : Bytes) (h : isSgrReport r = true) :
    ∃ evs st', parseSgrMouse cfg st (r ++ t) = .complete r.length evs st' := by
  have := Tcell.Lemmas.SgrStrict.sgrRun_of_grammar cfg st t r {} 0 (by simpa [Tcell.Lemmas.SgrStrict.okFrom_init] using h)
  simpa [parseSgrMouse] using this

open Tcell.Spec.SgrGrammar in
/-- **the repaired parser completes exactly on reports**: for every buffer `b` and every `n`, `parseSgrMouse` completes
removing `n` bytes iff the first `n` bytes of `b` are one SGR report of the grammar -/
theorem sgr_strict_exact (cfg : Cfg) (hs : cfg.sgrStrict = true) (st : PState) (b : Bytes) (n : Nat) :
    (∃ evs st', parseSgrMouse cfg st b = .complete n evs st') ↔ (n ≤ b.length ∧ isSgrReport (b.take n) = true) := by
  constructor
  · rintro ⟨evs, st', h⟩
    have := sgr_no_junk cfg hs st b n evs st' h
    exact ⟨this.2, this.1⟩
  · rintro ⟨hn, hg⟩
    have := sgr_report_recognised cfg st (b.take n) (b.drop n) hg
    rwa [List.take_append_drop, List.length_take, Nat.min_eq_left hn] at this

example : ∃ evs st', parseSgrMouse exStrict {} ([0x9b, 60, 51, 53, 59, 45, 49, 59, 49, 50, 51, 109] ++ [120]) = .complete 12 evs st' :=
  sgr_report_recognised exStrict {} _ [120] (by decide)
example : (∃ evs st', parseSgrMouse exStrict {} [27, 91, 60, 48, 59, 53, 59, 53, 77, 120] = .complete 9 evs st') :=
  (sgr_strict_exact exStrict rfl {} _ 9).mpr (by decide)

-- the hypotheses are satisfiable: a report followed by more input
example : parseSgrMouse exStrict {} [27, 91, 60, 48, 59, 53, 59, 53, 77, 120, 121] = .complete 9 [.mouse 4 4 1 0] { buttondn := true } := by
  decide
-- and the pinned parser does not have the property: it consumes ten bytes that are no report
example : parseSgrMouse exCfg {} [27, 113, 91, 60, 48, 59, 53, 59, 53, 77] = .complete 10 [.mouse 4 4 1 0] { buttondn := true }
    ∧ Tcell.Spec.SgrGrammar.isSgrReport [27, 113, 91, 60, 48, 59, 53, 59, 53, 77] = false := by decide

/-- the input of `sgr_junk_swallowed` on the repaired parser: every byte is delivered (Alt-q, then `[<0;5;5M` as text) -/
theorem sgr_strict_delivers :
    collect exStrict {} [27, 113, 91, 60, 48, 59, 53, 59, 53, 77] false
      = ⟨[.key 256 113 4, .key 256 91 0, .key 256 60 0, .key 256 48 0, .key 256 59 0, .key 256 53 0, .key 256 59 0,
          .key 256 53 0, .key 256 77 0], {}, [], false⟩ := by decide

/-- … an invalid byte in front of a report stays in front of it (it waits for the timeout as a possible character
start, then is delivered; the report behind it still decodes) -/
theorem sgr_strict_delivers_ff :
    collect exStrict {} [255, 27, 91, 60, 48, 59, 53, 59, 53, 77] true = ⟨[.key 256 255 0, .mouse 4 4 1 0], { buttondn := true }, [], false⟩
    ∧ collect exCfg {} [255, 27, 91, 60, 48, 59, 53, 59, 53, 77] true = ⟨[.mouse 4 4 1 0], { buttondn := true }, [], false⟩ := by decide

/-- … and Alt-x no longer waits for the escape timeout on a mouse terminal -/
theorem sgr_strict_esc_immediate : collect exStrict {} [27, 120] false = ⟨[.key 256 120 4], {}, [], false⟩ := by decide

open Tcell.Props.C03 in
/-- configuration of the screen built for a database entry: key table as extracted from the real constructor (and proved
equal to `buildKeys` by the exhaustive `keytable` correspondence), the parsers `collectEventsFromInput` activates for it,
and the clipboard / SGR-mouse parser variants of the tree under test (`Gen.clipFixed`, `Gen.sgrStrict`: the translator's
behavioural probes, the same questions engine `parsechunk` asks to choose the model variant it is compared with) -/
def dbCfgV (p : Terminfo × List Gen.KeyRow) (sgr : Bool) : Cfg :=
  { keys := toTable p.2, mouse := mouseActive p.1, clipboard := clipboardActive p.1, clipFixed := Gen.clipFixed,
    sgrStrict := sgr, dec := decUtf8, w := 80, h := 24 }

open Tcell.Props.C03 in
/-- … with the SGR parser variant of the tree under test -/
def dbCfg (p : Terminfo × List Gen.KeyRow) : Cfg := dbCfgV p Gen.sgrStrict

/-- the current tree has the clipboard parser of /repo 6c7d26f (cuts at the terminator it found, checks its prefix) -/
theorem tree_clip_fixed : Gen.clipFixed = true := by decide

/-- … and the strict SGR mouse parser of /repo 9fa9988 (`Stable` does not need this: both variants are prefix-monotone) -/
theorem tree_sgr_strict : Gen.sgrStrict = true := by decide

/-- some key sequence of the table properly extends a focus report `ESC [ I` / `ESC [ O` -/
def focusClash (T : KeyTable) : Bool :=
  T.any fun e => (hasPrefix e.seq [27, 91, 73] || hasPrefix e.seq [27, 91, 79]) && decide (3 < e.seq.length)

/-- the syntactic form of the guard (`seqGuard`), on every key of every entry -/
theorem db_seq_guard : Gen.dbTables.all (fun p => (Tcell.Props.C03.toTable p.2).all fun e => seqGuard e.seq) = true := by
  decide +kernel

/-- **DB: table guard** (full strength, current tree) — for EVERY entry of the regenerated database, no exception: every key
sequence is non-empty and 7-bit initial, and focus / X11 / SGR / clipboard parsers (those active for the entry) complete on
no proper prefix of a key.  Evaluated in the syntactic form `seqGuard` (`keyGuard_of_seqGuard`): one linear pass per
entry, no parser is run and no pair of keys is compared.  Holds since /repo 7758baa: before it the rxvt family defined
Ctrl-arrows as `ESC [ O a…d`, which extend the focus-out report `ESC [ O` (`rxvt_focus_clash` below), and only the
statement with focus-clashing tables excepted held. -/
theorem db_guard : Gen.dbTables.all (fun p => keyGuard (dbCfgV p false)) = true :=
  List.all_eq_true.mpr fun p hp => keyGuard_of_seqGuard (dbCfgV p false) (List.all_eq_true.mp db_seq_guard p hp)

/-- no table of the current database has a key extending a focus report (the former exception is empty) -/
theorem db_no_focus_clash : Gen.dbTables.all (fun p => !focusClash (dbCfg p).keys) = true := by decide +kernel

/-- **DB: `Stable`** (full strength) for EVERY database entry, with the UTF-8 decoder (and, by `stable_of_dec` /
`stable_congr`, any decoder satisfying `DecLaws`, any screen size, either X11 variant) -/
theorem db_stable_sgr (sgr : Bool) : ∀ p ∈ Gen.dbTables, Stable (dbCfgV p sgr) := fun p hp =>
  { pf := Tcell.Props.C03.db_prefix_free p hp
    guard := keyGuard_of_seqGuard (dbCfgV p sgr) (List.all_eq_true.mp db_seq_guard p hp)
    dec := decLaws_utf8
    clip := fun _ => tree_clip_fixed }

/-- **DB: `Stable`** for the parser variants of the tree under test -/
theorem db_stable : ∀ p ∈ Gen.dbTables, Stable (dbCfg p) := fun p hp => db_stable_sgr Gen.sgrStrict p hp

/-- the key `ESC [ O a` (rxvt Ctrl-Up in the pinned database) against the focus-out report `ESC [ O` -/
def exRxvt : Cfg :=
  { keys := [⟨[13], 13, 0⟩, ⟨[27, 91, 65], 257, 0⟩, ⟨[27, 91, 79, 97], 257, 2⟩], mouse := true, clipboard := false,
    dec := decUtf8, w := 80, h := 24 }
/-- the guard rejects it … -/
example : keyGuard exRxvt = false ∧ focusClash exRxvt.keys = true := by decide
/-- … and rightly so: in one read the four bytes are Ctrl-Up, split after `ESC [ O` they are focus-out and `a` -/
theorem rxvt_focus_clash :
    collect exRxvt {} [27, 91, 79, 97] false = ⟨[.key 257 0 2], {}, [], false⟩
    ∧ feeds exRxvt {} [] [[27, 91, 79]] [97] false = ([.focus false, .key 256 97 0], {}, []) := by decide

/-- the guard does not look at the decoder … -/
theorem stable_of_dec (cfg : Cfg) (hs : Stable cfg) (dec : Bytes → DecResult) (hd : DecLaws dec) :
    Stable { cfg with dec := dec } :=
  { pf := hs.pf, guard := by rw [keyGuard_congr cfg { cfg with dec := dec } rfl rfl rfl rfl rfl]; exact hs.guard, dec := hd, clip := hs.clip }

/-- … nor at the screen size or the X11 variant: `Stable` transfers between configurations with the same key table,
active parsers, clipboard and SGR variants and decoder -/
theorem stable_congr (cfg cfg' : Cfg) (hs : Stable cfg) (hk : cfg'.keys = cfg.keys) (hm : cfg'.mouse = cfg.mouse)
    (hc : cfg'.clipboard = cfg.clipboard) (hf : cfg'.clipFixed = cfg.clipFixed) (hst : cfg'.sgrStrict = cfg.sgrStrict)
    (hd : cfg'.dec = cfg.dec) : Stable cfg' :=
  { pf := hk ▸ hs.pf, guard := by rw [keyGuard_congr cfg cfg' hk hm hc hf hst]; exact hs.guard, dec := hd ▸ hs.dec,
    clip := fun h => by rw [hf]; exact hs.clip (hc ▸ h) }

/-- the screen of a database entry at an arbitrary size and with either X11 mouse variant -/
def dbCfgAt (p : Terminfo × List Gen.KeyRow) (w h : Int) (x11 : Bool) : Cfg := { dbCfg p with w := w, h := h, x11Fixed := x11 }

/-- `Stable` for the screen of every database entry at any size, with either X11 variant -/
theorem db_stable_at : ∀ p ∈ Gen.dbTables, ∀ (w h : Int) (x11 : Bool), Stable (dbCfgAt p w h x11) :=
  fun p hp w h x11 => stable_congr (dbCfg p) (dbCfgAt p w h x11) (db_stable p hp) rfl rfl rfl rfl rfl rfl

/-- **db_chunk_independent** — the property for every built-in terminal.  For the screen of EVERY entry of the regenerated
database (its real key table, its active parsers, the tree's clipboard parser, UTF-8 input), any screen size and either
X11 variant: every partition of the input into reads – any number of chunks, any sizes incl. empty and single bytes, any
bytes already buffered, any parser state, only the last read may carry the escape timeout – produces exactly the events,
final state and leftover of ONE read of the concatenation. -/
theorem db_chunk_independent : ∀ p ∈ Gen.dbTables, ∀ (w h : Int) (x11 : Bool) (cs : List Bytes) (last : Bytes) (e : Bool)
    (st : PState) (buf : Bytes),
    feeds (dbCfgAt p w h x11) st buf cs last e = feeds (dbCfgAt p w h x11) st buf [] (cs.flatten ++ last) e :=
  fun p hp w h x11 cs last e st buf =>
    feed_chunks_eq_feed_concat (dbCfgAt p w h x11) (db_stable_at p hp w h x11) last e cs st buf

/-- … and after the escape timeout nothing stays buffered, for every built-in entry -/
theorem db_expire_drains : ∀ p ∈ Gen.dbTables, ∀ (st : PState) (b : Bytes), (collect (dbCfg p) st b true).rest = [] :=
  fun p hp st b => expire_drains' (dbCfg p) (db_stable p hp) st b

/-- non-vacuity: the database is non-empty, contains the rxvt family that used to be excepted (now with `ESC O a`), and on
the regenerated rxvt table the formerly clashing stream decodes the same in one read and split after `ESC [ O` -/
example : 40 ≤ Gen.dbTables.length ∧
    (∃ p ∈ Gen.dbTables, p.1.name = "rxvt" ∧ mouseActive p.1 = true ∧
      (dbCfg p).keys.any (fun e => bytesEq e.seq [27, 79, 97]) = true ∧
      feeds (dbCfg p) {} [] [[27, 91, 79]] [97] false = feeds (dbCfg p) {} [] [] [27, 91, 79, 97] false ∧
      (feeds (dbCfg p) {} [] [] [27, 91, 79, 97] false).1 = [.focus false, .key 256 97 0]) := by
  decide +kernel

/-- `collect_append` for every database entry (UTF-8) -/
theorem db_collect_append : ∀ p ∈ Gen.dbTables, ∀ (st : PState) (a b : Bytes) (e : Bool),
    collect (dbCfg p) st (a ++ b) e = feed2 (dbCfg p) st a b e :=
  fun p hp st a b e => collect_append_stable (dbCfg p) (db_stable p hp) st a b e

/-- explicitly for the strict SGR parser (/repo 9fa9988) and for the lenient one, whatever the tree implements: `Stable` and
chunk independence for EVERY database entry -/
theorem db_stable_strict : ∀ p ∈ Gen.dbTables, Stable { dbCfg p with sgrStrict := true } :=
  fun p hp => db_stable_sgr true p hp

theorem db_collect_append_strict : ∀ p ∈ Gen.dbTables, ∀ (st : PState) (a b : Bytes) (e : Bool),
    collect { dbCfg p with sgrStrict := true } st (a ++ b) e = feed2 { dbCfg p with sgrStrict := true } st a b e :=
  fun p hp st a b e => collect_append_stable _ (db_stable_strict p hp) st a b e

theorem db_collect_append_lenient : ∀ p ∈ Gen.dbTables, ∀ (st : PState) (a b : Bytes) (e : Bool),
    collect { dbCfg p with sgrStrict := false } st (a ++ b) e = feed2 { dbCfg p with sgrStrict := false } st a b e :=
  fun p hp st a b e => collect_append_stable _ (db_stable_sgr false p hp) st a b e

end Tcell.Props.C02
