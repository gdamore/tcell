import Tcell.Lemmas.LayerBXtermFx
import Tcell.Gen.TerminfoDB
/-!
# C14 — "whose colour count is consistent with its colour strings", semantically

`Props/C14.lean` checks the *presence* of colour strings against the colour count.  `colorStringsSelect e` says what
the strings do: for every palette index `i` below the entry's colour count (capped at 256, the largest index the
library ever passes to `SetFg`/`SetBg`/`SetFgBg`, terminfo.go `TColor`), the bytes the TParm model produces for that
index, with padding removed as TPuts does, take the reference ECMA-48 emulator (`Tcell.Spec.Ecma48`) to ground state,
without a complaint, with exactly colour `i` selected as foreground (resp. background) and the other colour
untouched.  An entry that claims 16 colours but only has the 8-colour `ESC [ 3 %p1 %d m` (index 9 ↦ `ESC [ 39 m` =
"default colour") fails; so does a 256-colour entry whose else-branch writes `48;5` for the foreground.

`colorStringsSelect_of_capsOk` proves it for every terminal description of the class `LayerB.CapsOk` and every index:
the colour strings of such a description belong to one of five families whose expansion and whose effect on the
emulator are known for every index (`LayerB.xl_colcaps`).  That every ECMA-family entry of the regenerated database is
in the class is the one kernel evaluation (`db_ecma_capsOk`).
-/
namespace Tcell.Props.C14Colors
open Tcell Tcell.Spec.Ecma48

/-- ECMA-48 family: the cursor-addressing string starts with CSI -/
def isEcma (e : Terminfo) : Bool := match e.setCursor with | 27 :: 91 :: _ => true | _ => false

/-- the emulator after the bytes that reach the terminal for capability expansion `s` (padding removed) -/
def after (s : Bytes) : Term := ((Term.init { w := 4, h := 2 }).feed (TPuts.tputs [] s).bytes).finish

def expand (prog : Bytes) (ps : List Int) : Bytes := (TParm.tparm prog (ps.map TParm.Value.int) TParm.noVars).1

/-- `s` is a complete, accepted control string that leaves the pen with foreground `fg` and background `bg`
(and nothing else changed with respect to the default pen) -/
def selects (s : Bytes) (fg bg : ColorSel) : Bool :=
  let t := after s
  t.malformed.isEmpty && t.pen == { fg := fg, bg := bg }

/-- the number of palette indices the library may pass: `min Colors 256` -/
def nColors (e : Terminfo) : Nat := min e.colors.toNat 256

/-- what the check depends on: the (capped) colour count and the three programs -/
structure ColorProgs where
  n : Nat
  fg : Bytes
  bg : Bytes
  fgbg : Bytes
deriving DecidableEq

def progsOf (e : Terminfo) : ColorProgs := ⟨nColors e, e.setFg, e.setBg, e.setFgBg⟩

def fgSelect (p : ColorProgs) : Bool :=
  (List.range p.n).all fun i => selects (expand p.fg [i]) (ColorSel.idx i) .default
def bgSelect (p : ColorProgs) : Bool :=
  (List.range p.n).all fun i => selects (expand p.bg [i]) .default (ColorSel.idx i)
def fgbgSelect (p : ColorProgs) : Bool :=
  p.fgbg.isEmpty || (List.range p.n).all fun i =>
    selects (expand p.fgbg [i, (i + 1) % p.n]) (ColorSel.idx i) (ColorSel.idx ((i + 1) % p.n))

/-- every index below the colour count is selected by SetFg, by SetBg and (when present) by SetFgBg -/
def colorStringsSelect (e : Terminfo) : Bool :=
  fgSelect (progsOf e) && bgSelect (progsOf e) && fgbgSelect (progsOf e)

/-- the emulator before the first byte: a state the Layer-B effect lemmas apply to -/
theorem good_init : LayerB.Good (fun _ => 1) (Term.init { w := 4, h := 2 }) := ⟨rfl, rfl, rfl, rfl, rfl, rfl, rfl, rfl⟩

/-- a string whose only effect on the fresh emulator is to select `fg` / `bg` passes `selects`; `rc` only serves to
state the effect the way the Layer-B lemmas do (TPuts writes the same bytes whatever the pad character) -/
theorem selects_of_feed {rc : RenderCfg} {s : Bytes} {fg bg : ColorSel}
    (h : (Term.init { w := 4, h := 2 }).feed (Render.tp rc s) =
      LayerB.withPen (Term.init { w := 4, h := 2 }) { fg := fg, bg := bg }) : selects s fg bg = true := by
  have e : (TPuts.tputs [] s).bytes = Render.tp rc s :=
    (LayerB.tp_strip ⟨{ padChar := [] }, rc.d, false, id, id⟩ s).trans (LayerB.tp_strip rc s).symm
  have : after s = LayerB.withPen (Term.init { w := 4, h := 2 }) { fg := fg, bg := bg } := by
    unfold after; rw [e]; exact congrArg Term.finish h
  unfold selects
  simp only [this]
  exact beq_self_eq_true _

/-- **the colour strings of a terminal description of the Layer-B class select every index below its colour count** -/
theorem colorStringsSelect_of_capsOk {e : Terminfo} (hx : LayerB.CapsOk e = true) : colorStringsSelect e = true := by
  let rc : RenderCfg := ⟨e, derive e, false, id, id⟩
  have hn : nColors e = Render.nColors rc := by
    show min e.colors.toNat 256 = if e.colors > 256 then 256 else e.colors.toNat
    split <;> omega
  simp only [colorStringsSelect, fgSelect, bgSelect, fgbgSelect, progsOf, Bool.and_eq_true, Bool.or_eq_true,
    List.all_eq_true, List.mem_range, hn]
  rcases LayerB.xl_colcaps (rc := rc) hx with c | m
  · refine ⟨⟨fun i hi => selects_of_feed (c.af good_init i hi), fun i hi => selects_of_feed (c.ab good_init i hi)⟩, ?_⟩
    refine c.afab.imp (fun h => by rw [show e.setFgBg = [] from h]; rfl) fun h i hi => ?_
    exact selects_of_feed (h good_init i _ hi (Nat.mod_lt _ (by omega)))
  · have h0 : Render.nColors rc = 0 := by unfold Render.nColors; rw [show e.colors = 0 from m.colors]; rfl
    rw [h0]
    exact ⟨⟨fun i hi => absurd hi (Nat.not_lt_zero i), fun i hi => absurd hi (Nat.not_lt_zero i)⟩,
      .inl (by rw [show e.setFgBg = [] from m.setFgBg]; rfl)⟩

theorem db_ecma_capsOk : (Gen.db.filter isEcma).all LayerB.CapsOk = true := by decide +kernel

/-- **The colour count of every ECMA-family entry is consistent with its colour strings**: each palette index below
the count is really selected by the entry's `SetFg` / `SetBg` / `SetFgBg` programs (reference emulator verdict). -/
theorem db_color_strings_select : ∀ e ∈ Gen.db, isEcma e = true → colorStringsSelect e = true :=
  fun e he hE => colorStringsSelect_of_capsOk (List.all_eq_true.mp db_ecma_capsOk e (List.mem_filter.mpr ⟨he, hE⟩))

/-- the distinct colour-program tuples of the ECMA-family entries -/
def distinctProgs : List ColorProgs := ((Gen.db.filter isEcma).map progsOf).eraseDups

/-- non-vacuity: the database has ECMA-family entries with several distinct colour counts -/
example : (distinctProgs.map (·.n)).eraseDups.length ≥ 3 := by decide +kernel

/-- the plain 8-colour strings `ESC [ 3 %p1 %d m` / `ESC [ 4 %p1 %d m` with a given colour count -/
def plain8 (n : Int) : Terminfo :=
  { colors := n, setCursor := [27, 91, 72], setFg := [27, 91, 51, 37, 112, 49, 37, 100, 109],
    setBg := [27, 91, 52, 37, 112, 49, 37, 100, 109] }

/-- the check is not trivially true: a 16-colour claim over the plain 8-colour strings is rejected (index 8 gives
`ESC [ 38 m`, an incomplete extended-colour selector; index 9 gives `ESC [ 39 m`, "default foreground") -/
example : colorStringsSelect (plain8 16) = false := by decide +kernel

/-- … and the same strings with the honest count 8 are accepted -/
example : colorStringsSelect (plain8 8) = true := by decide +kernel

end Tcell.Props.C14Colors
