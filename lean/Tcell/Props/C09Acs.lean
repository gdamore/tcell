/-
C09 — the ACS strings of the draw path and the strict tokenizer ("no stray parameter-language residue").

`C09.fixed_caps_accepted` feeds `emitted e.enterAcs` / `emitted e.exitAcs` — the capability strings *after* `TPuts` — to
the strict tokenizer.  That is not how the draw path emits them: `encodeRune` (tscreen.go:724) appends the string of
`t.acs` and `drawCell` writes the buffer with `writeString`, so what reaches the terminal is the string `buildAcsMap`
composed, verbatim.  The theorems below are about those strings (`acsStrings`), for the `buildAcsMap` of the tree under test
(`C17.treeVariant`, translator probes `Gen.acsAll` / `Gen.acsRawByte` / `Gen.acsStripsPadding`):

* `acs_strings_no_residue` — with fixes/C17-acs-strip-padding.patch no ACS string of ANY database entry contains the
  parameter-language marker `$<`; without it the statement is false (`acs_residue_unstripped`: vt220 writes `$<2>` … `$<4>`,
  finding `C17-acs-padding`), and the kernel decides which tree this is;
* `acs_strings_accepted` — every ACS string of every ECMA-48-family entry whose terminal character is a graphic byte is
  accepted by the strict tokenizer in an 8-bit locale (complete `ESC ( 0` / SO / `CSI 11 m` … sequences, nothing cut);
* `acs_pc_font_controls` — the exception of the previous statement, exactly: ansi, cygwin and pcansi list C0 bytes
  (0x04, 0x10, 0x11, 0x18, 0x19: the PC ROM font's ♦ ► ◄ ↑ ↓) as alternate-font characters.  This is the database's
  content (terminfo `ansi`), not a product of buildAcsMap; recorded, not judged.
-/
import Tcell.Props.C09
import Tcell.Props.C17
namespace Tcell.Props.C09
open Tcell Tcell.Spec.Ecma48

/-- everything the draw path can write for an ACS glyph on entry `e`: the strings of the map, verbatim (`writeString`) -/
def acsStrings (v : EncVariant) (e : Terminfo) : List Bytes := (buildAcsMap v Gen.vtACSNames e).map (·.2)

/-- the marker of terminfo's padding / parameter language -/
def hasPadMarker : Bytes → Bool
  | 36 :: 60 :: _ => true
  | _ :: r => hasPadMarker r
  | [] => false

/-- strict tokenizer, 8-bit locale (ACS strings are only written where the locale cannot encode the rune) -/
def accepts8 (ff : Bool) (s : Bytes) : Bool :=
  (((Term.init { w := 4, h := 2, utf8 := false, ffClears := ff }).feed s).finish).malformed.isEmpty

/-- the terminal's character of the string is a graphic byte: no byte of it is a C0 control other than the ESC / SO / SI
of smacs/rmacs themselves, nor DEL -/
def graphicOnly (s : Bytes) : Bool := s.all fun b => (32 ≤ b && b != 127) || b == 27 || b == 14 || b == 15

/-- the repaired model variant, whatever the tree: no ACS string of any entry contains `$<` -/
theorem acs_strings_no_residue_stripped :
    ∀ e ∈ Gen.db, ∀ s ∈ acsStrings .stripped e, hasPadMarker s = false := by
  intro e he s hs
  have := C17.all_of_eraseDups C17.acsKey (fun k => (acsStrings .stripped k.entry).all (!hasPadMarker ·))
    (by decide +kernel) he
  simpa using List.all_eq_true.1 this s hs

/-- **No parameter-language residue in ACS output** (tree under test).  With the padding repair
(`Gen.acsStripsPadding = true`, then the premise is trivially true) NO string the draw path can write for an ACS glyph, on
ANY entry of the database, contains `$<`; on a tree without the repair the same holds for every entry but vt220 and vt420. -/
theorem acs_strings_no_residue :
    ∀ e ∈ Gen.db, (Gen.acsStripsPadding = true ∨ (e.name ≠ "vt220" ∧ e.name ≠ "vt420")) →
      ∀ s ∈ acsStrings C17.treeVariant e, hasPadMarker s = false := by
  intro e he h
  unfold acsStrings
  rw [(C17.tree_map _).1 (h.imp_right (C17.not_padded_of_name he))]
  exact acs_strings_no_residue_stripped e he

/-- pinned counterexample (model variant without the padding repair): every ACS string of vt220 carries the residue, e.g. the
horizontal line `ESC ( 0 $ < 2 > q ESC ( B $ < 4 >` -/
theorem acs_residue_unstripped :
    ∃ e ∈ Gen.db, e.name = "vt220" ∧ (acsStrings .repaired e).all hasPadMarker = true ∧ (acsStrings .repaired e) ≠ [] ∧
      [27, 40, 48, 36, 60, 50, 62, 113, 27, 40, 66, 36, 60, 52, 62] ∈ acsStrings .repaired e := by
  decide +kernel

/-- **ACS strings are well-formed output** (tree under test): every ACS string of every ECMA-48-family entry whose bytes
are graphic (plus the ESC / SO / SI of smacs/rmacs) is accepted by the strict tokenizer without complaint, end of stream
included. -/
theorem acs_strings_accepted :
    (Gen.db.filter isEcma).all (fun e =>
      ((acsStrings C17.treeVariant e).filter graphicOnly).all (fun s => accepts8 (e.clear == [12]) s)) = true := by
  rw [List.all_eq_true]
  intro e he
  exact C17.all_of_eraseDups C17.glyphKey
    (fun k => ((acsStrings C17.treeVariant (C17.glyphEntry k)).filter graphicOnly).all (accepts8 k.2)) (by decide +kernel) he

/-- the strings `acs_strings_accepted` leaves out, exactly: the PC-font control positions of ansi, cygwin and pcansi -/
theorem acs_pc_font_controls :
    ((Gen.db.filter isEcma).filter (fun e => !(acsStrings C17.treeVariant e).all graphicOnly)).map (·.name)
      = ["ansi", "cygwin", "pcansi"] ∧
    (Gen.db.filter isEcma).all (fun e => ((acsStrings C17.treeVariant e).filter (fun s => !graphicOnly s)).all fun s =>
      s.any (fun b => b == 4 || b == 16 || b == 17 || b == 24 || b == 25)) = true := by
  decide +kernel

/-- non-vacuity: 40-odd ECMA entries, over a thousand ACS strings judged -/
example : ((Gen.db.filter isEcma).map (fun e => ((acsStrings C17.treeVariant e).filter graphicOnly).length)).sum ≥ 900 := by
  decide +kernel

end Tcell.Props.C09
