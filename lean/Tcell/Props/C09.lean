/-
C09 — the output stream is well-formed and cell content cannot inject control bytes.

Proved here:
* `payload_clean` — for EVERY rune value (all of `Int`: C0, DEL, C1, zero-width, format characters, surrogates,
  negative and > 0x10FFFF values included) the bytes written as primary cell content in a UTF-8 locale contain no
  C0 byte and no DEL, and never encode a C1 scalar; the rune shown is a blank whenever the library's width table
  says "zero width" or the rune is a C0 control.  The facts about the width table it rests on are re-checked by
  the kernel on the table regenerated from go-runewidth on every run (`table_*` theorems).
* `fixed_caps_accepted` — every non-parameterised capability string of every ECMA-48-family entry of the
  regenerated database that the draw / engage / disengage paths emit is accepted by the strict reference tokenizer
  (the Lean ECMA-48 emulator) without complaint, after padding removal — kernel evaluation over the database.
* `param_caps_accepted_samples` — the parameterised ones on a grid of parameter values; this is a kernel-evaluated
  *test*, not the unbounded claim (the unbounded claim for cursor addressing is `Tcell.Props.C01B.cup_accepted_all`; closed forms of the other expansions: `Tcell.LayerB.parm_*`).
What is validated rather than proved: that every byte stream the implementation writes is accepted by the strict
tokenizer (checked on every run for draw histories and the all-code-points sweep).
-/
import Tcell.Lemmas.DrawDefs
import Tcell.Props.C08
import Tcell.Props.C17
import Tcell.Base.Utf8
import Tcell.Gen.RuneWidth
import Tcell.Gen.TerminfoDB
import Tcell.Model.TPuts
import Tcell.Model.TParm
import Tcell.Spec.Ecma48
namespace Tcell.Props.C09
open Tcell

/-! ### the regenerated width table -/

/-- go-runewidth as the regenerated table: width of the first listed range containing `r`, 1 elsewhere -/
def rwTable (r : Int) : Int :=
  match Gen.rwRanges.find? (fun p => p.1 ≤ r ∧ r ≤ p.2.1) with
  | some p => p.2.2
  | none => 1

theorem rwTable_mem (r : Int) : rwTable r = 1 ∨ ∃ p ∈ Gen.rwRanges, rwTable r = p.2.2 := by
  unfold rwTable
  cases h : Gen.rwRanges.find? (fun p => p.1 ≤ r ∧ r ≤ p.2.1) with
  | none => left; rfl
  | some p => right; exact ⟨p, List.mem_of_find?_eq_some h, rfl⟩

/-- every listed width is 0 or 2 -/
theorem table_widths : Gen.rwRanges.all (fun p => p.2.2 = 0 ∨ p.2.2 = 2) = true := by decide +kernel

theorem table_zero : rwTable 0 = 0 := by decide +kernel
theorem table_space : rwTable 32 = 1 := by decide +kernel

/-- the width table satisfies what the draw-path theorems (C01, C13) assume of the rune-width function -/
theorem table_rwOk : RwOk rwTable := by
  have hw : ∀ p ∈ Gen.rwRanges, p.2.2 = 0 ∨ p.2.2 = 2 := by simpa [List.all_eq_true] using table_widths
  have key (r : Int) : rwTable r = 1 ∨ rwTable r = 0 ∨ rwTable r = 2 :=
    (rwTable_mem r).imp_right fun ⟨p, hp, h⟩ => h ▸ hw p hp
  exact { zero := table_zero, space := table_space, nonneg := fun r => by have := key r; omega,
          le2 := fun r => by have := key r; omega }

/-- DEL and every C1 scalar have width 0 in the table (so they are shown as blanks) -/
theorem table_del_c1 (r : Int) (h1 : 127 ≤ r) (h2 : r ≤ 159) : rwTable r = 0 := by
  have h : ∀ k : Fin 33, rwTable (127 + (k.val : Int)) = 0 := by decide +kernel
  have := h ⟨(r - 127).toNat, by omega⟩
  rwa [show 127 + (((r - 127).toNat : Nat) : Int) = r by omega] at this

/-- C0 controls have width 0 as well (they are blanked by `r < ' '` anyway) -/
theorem table_c0 : ∀ k : Fin 32, rwTable (k.val : Int) = 0 := by decide +kernel

/-- zero-width and bidi / format characters that ARE zero width in the table (hence shown as blanks):
soft hyphen, ZWSP, ZWNJ, ZWJ, LRM, RLM, LRE, RLE, PDF, LRO, RLO, BOM, Mongolian vowel separator, interlinear annotation.
WHY STILL PARTIAL on the current tree: the full statement — every format / default-ignorable character the property names has
width 0 and is therefore written as a blank — is FALSE for the regenerated table: `format_chars_not_blank` below proves width 1
for the bidi isolates U+2066–2069, U+061C, U+2060–2064 and the tag characters.  The table is go-runewidth v0.0.16's (the
dependency pinned by go.mod), not tcell's own code, so no `fix:` commit in /repo changed it; the open finding
`C09-format-width1` is reproduced on every run by engine `drawcp` (all code points through the strict tokenizer). -/
theorem table_format_chars_partial :
    ([0xAD, 0x200B, 0x200C, 0x200D, 0x200E, 0x200F, 0x202A, 0x202B, 0x202C, 0x202D, 0x202E, 0xFEFF, 0x180E, 0xFFF9,
      0xFFFA, 0xFFFB, 0x206A, 0x206F] : List Int).all (fun r => rwTable r = 0) = true := by
  decide +kernel

/-- …and the ones that are NOT: the pinned go-runewidth gives width 1 to the bidi isolates U+2066–2069, the Arabic
letter mark U+061C, the invisible operators U+2060–2064 and the tag characters, so a cell holding one of them as its
primary rune is written to the terminal as that character, not as a blank (finding `C09-format-width1`) -/
theorem format_chars_not_blank :
    ([0x2066, 0x2067, 0x2068, 0x2069, 0x061C, 0x2060, 0x2064, 0xE0001, 0xE0020] : List Int).all
      (fun r => rwTable r = 1 ∧ obsMain rwTable r = r) = true := by
  decide +kernel

/-- invalid code points: the first and last listed ranges cover everything below 0 and above 0x10FFFF, with
width 0, and the surrogates are zero width too -/
theorem table_invalid_ends :
    Gen.rwRanges.head? = some (-2147483648, -1, 0) ∧ Gen.rwRanges.getLast? = some (1114112, 2147483647, 0) ∧
    (Gen.rwRanges.dropLast.all (fun p => p.2.1 < 1114112)) = true ∧
    ([0xD800, 0xDBFF, 0xDC00, 0xDFFF] : List Int).all (fun r => rwTable r = 0) = true := by decide +kernel

theorem table_negative (r : Int) (h1 : -2147483648 ≤ r) (h2 : r < 0) : rwTable r = 0 := by
  have hh := table_invalid_ends.1
  unfold rwTable
  cases hl : Gen.rwRanges with
  | nil => simp [hl] at hh
  | cons p ps =>
    rw [hl] at hh
    cases hh
    have : r ≤ -1 := by omega
    simp [h1, this]

/-! ### the payload of a cell -/

/-- bytes of the UTF-8 encoding of a rune that is not a C0 control, DEL or a C1 scalar: no C0 byte, no DEL -/
theorem encode_clean (m : Int) (h32 : 32 ≤ m) (hnc : ¬ (127 ≤ m ∧ m ≤ 159)) :
    ∀ b ∈ Utf8.encode m, 32 ≤ b ∧ b ≠ 127 ∧ b < 256 := by
  intro b hb
  unfold Utf8.encode at hb
  split at hb
  · rename_i hv
    simp only [Utf8.validRune, decide_eq_true_eq] at hv
    have hm : m = ((m.toNat : Nat) : Int) := by omega
    generalize m.toNat = n at hb hm
    subst hm
    unfold Utf8.encodeNat at hb
    -- in each of the four forms every byte is a lead byte ≥ 0xC0, a continuation byte in 0x80..0xBF, or `n` itself
    repeat' split at hb
    all_goals
      simp only [List.mem_cons, List.not_mem_nil, or_false] at hb
      omega
  · simp only [List.mem_cons, List.not_mem_nil, or_false] at hb
    omega

/-- **No rune can inject a control.**  For every rune value `r` whatsoever, with `m` the rune GetContent hands
to the draw path for it (`obsMain`): `m` is a blank whenever `r` is zero-width or a C0 control; `m` is never a C0
control, DEL or a C1 scalar; and the UTF-8 bytes written for it contain no byte below 0x20 and no 0x7F. -/
theorem payload_clean (r : Int) :
    let m := obsMain rwTable r
    ((rwTable r = 0 ∨ r < 32) → m = 32) ∧ 32 ≤ m ∧ ¬ (127 ≤ m ∧ m ≤ 159) ∧
    (∀ b ∈ Utf8.encode m, 32 ≤ b ∧ b ≠ 127 ∧ b < 256) := by
  intro m
  have hB : 32 ≤ obsMain rwTable r ∧ ¬ (127 ≤ obsMain rwTable r ∧ obsMain rwTable r ≤ 159) := by
    unfold obsMain
    split
    · decide
    · have h : ¬ (rwTable r = 0 ∨ r < 32) := ‹_›
      exact ⟨(by omega : (32 : Int) ≤ r), fun hc => h (.inl (table_del_c1 r hc.1 hc.2))⟩
  exact ⟨fun h => if_pos h, hB.1, hB.2, encode_clean m hB.1 hB.2⟩

/-- the same with combining runes restricted as the property restricts them (zero-width, not controls): the whole
cell payload is free of C0 bytes and DEL -/
theorem payload_clean_comb (r : Int) (comb : List Int)
    (hc : ∀ c ∈ comb, 32 ≤ c ∧ ¬ (127 ≤ c ∧ c ≤ 159)) :
    ∀ b ∈ Utf8.encode (obsMain rwTable r) ++ comb.flatMap Utf8.encode, 32 ≤ b ∧ b ≠ 127 ∧ b < 256 := by
  intro b hb
  rcases List.mem_append.1 hb with h | h
  · exact (payload_clean r).2.2.2 b h
  · obtain ⟨c, hcm, hbc⟩ := List.mem_flatMap.1 h
    exact encode_clean c (hc c hcm).1 (hc c hcm).2 b hbc

example : obsMain rwTable 0x1b = 32 ∧ obsMain rwTable 0x9b = 32 ∧ obsMain rwTable 0x202e = 32 ∧ obsMain rwTable (-5) = 32 ∧
    obsMain rwTable 0x41 = 0x41 ∧ obsMain rwTable 0x4e16 = 0x4e16 := by decide +kernel

/-! ### cells written by Fill

`payload_clean` is about `obsMain`, the substitution GetContent performs on a cell whose stored width is that of its rune
(cells written by SetContent, `Tcell.Props.C08.get_set`).  Fill chooses the width itself (cell.go:244). -/

/-- **Pinned tree: Fill lets a C1 control through.**  After `Fill(0x9B, StyleDefault)` on a 1×1 buffer GetContent hands
the draw path U+009B itself (width 1) although the width table says "zero width", and its UTF-8 encoding C2 9B is the
C1 control CSI (in an ISO 8859 locale: the single byte 9B).  Finding `C09-fill-control`; same for DEL, every C1
control and every zero-width / format / invalid rune at or above ' ' (`Tcell.Props.C08.get_fill_pinned`). -/
theorem fill_c1_not_blank :
    ((Buf.empty.resize 1 1).fill 0x9b {}).getContent 0 0 = (0x9b, [], {}, 1) ∧ rwTable 0x9b = 0 ∧
    Utf8.encode 0x9b = [0xc2, 0x9b] := by decide +kernel

/-- **Repaired tree (fixes/C09-fill-zero-width.patch): no rune supplied through Fill can inject a control.**  For every
buffer, every in-range cell and EVERY rune value `r`, the rune GetContent hands to the draw path after `Fill(r, s)` is
`obsMain rwTable r` — the same substitution as after SetContent — hence a blank whenever `r` is zero-width or a C0
control, never a C0 control, DEL or a C1 scalar, and its UTF-8 bytes contain no byte below 0x20 and no 0x7F. -/
theorem payload_clean_fill (b : Buf) (r : Int) (s : Style) (x y : Int) (hr : b.inRange x y) :
    let m := ((b.fillV true rwTable r s).getContent x y).1
    m = obsMain rwTable r ∧ ((rwTable r = 0 ∨ r < 32) → m = 32) ∧ 32 ≤ m ∧ ¬ (127 ≤ m ∧ m ≤ 159) ∧
    (∀ b ∈ Utf8.encode m, 32 ≤ b ∧ b ≠ 127 ∧ b < 256) := by
  intro m
  have hm : m = obsMain rwTable r := by
    show ((b.fillV true rwTable r s).getContent x y).1 = obsMain rwTable r
    rw [Tcell.Props.C08.get_fill_repaired rwTable b r s x y hr]; rfl
  rw [hm]
  exact ⟨rfl, payload_clean r⟩

/-- the repaired Fill on the concrete instance of `fill_c1_not_blank`, and on DEL, ZWSP, RLO, a surrogate and an
out-of-range value: blanks -/
example : ([0x9b, 0x7f, 0x200b, 0x202e, 0xd800, 0x110000, -1] : List Int).all (fun r =>
    ((Buf.empty.resize 1 1).fillV true rwTable r {}).getContent 0 0 = (32, [], {}, 1)) = true := by decide +kernel
example : ((Buf.empty.resize 1 1).fillV true rwTable 0x41 {}).getContent 0 0 = (0x41, [], {}, 1) := by decide +kernel

/-! ### capability strings and the strict tokenizer -/

open Tcell.Spec.Ecma48

def isEcma (e : Terminfo) : Bool := match e.setCursor with | 27 :: 91 :: _ => true | _ => false

/-- what reaches the terminal for a capability string: padding specifications removed (TPuts) -/
def emitted (s : Bytes) : Bytes := (TPuts.tputs [] s).bytes

/-- the strict tokenizer accepts the byte string: no complaint, not even at end of stream -/
def accepts (ff : Bool) (s : Bytes) : Bool :=
  (((Term.init { w := 4, h := 2, ffClears := ff }).feed s).finish).malformed.isEmpty

/-- the non-parameterised capabilities the draw, engage and disengage paths write -/
def fixedCaps (e : Terminfo) : List Bytes :=
  [e.clear, e.enterCA, e.exitCA, e.showCursor, e.hideCursor, e.attrOff, e.underline, e.bold, e.blink, e.reverse, e.dim,
   e.italic, e.enterKeypad, e.exitKeypad, e.resetFgBg, e.enterAcs, e.exitAcs, e.enableAcs, e.strikeThrough,
   e.insertChar, e.disableAutoMargin, e.enableAutoMargin, e.enablePaste, e.disablePaste, e.enableFocusReporting,
   e.disableFocusReporting, e.doubleUnderline, e.curlyUnderline, e.dottedUnderline, e.dashedUnderline,
   e.underlineColorReset, e.cursorDefault, e.cursorBlinkingBlock, e.cursorSteadyBlock, e.cursorBlinkingUnderline,
   e.cursorSteadyUnderline, e.cursorBlinkingBar, e.cursorSteadyBar, e.cursorColorReset, e.exitUrl]

/-- every fixed capability string of every ECMA-family entry is a complete, well-formed control string -/
theorem fixed_caps_accepted :
    (Gen.db.filter isEcma).all (fun e => (fixedCaps e).all (fun s => accepts (e.clear == [12]) (emitted s))) = true := by
  decide +kernel

def iv (l : List Int) : List TParm.Value := l.map TParm.Value.int

/-- parameterised capabilities expanded on a grid of values (positions, palette indices below the entry's colour
count — the only ones the library passes — and RGB components) -/
def paramSamples (e : Terminfo) : List Bytes :=
  let p (prog : Bytes) (ps : List Int) : Bytes := if prog.isEmpty then [] else (TParm.tparm prog (iv ps) TParm.noVars).1
  ([(0, 0), (0, 9), (9, 0), (23, 79), (99, 99), (999, 1023)].map fun rc => p e.setCursor [rc.1, rc.2]) ++
  (([0, 1, 7, 8, 9, 15, 16, 87, 255].filter (· < e.colors)).flatMap fun c =>
    [p e.setFg [c], p e.setBg [c], p e.setFgBg [c, c], p e.setFgBg [c, 0], p e.underlineColor [c]]) ++
  ([(0, 0, 0), (1, 2, 3), (255, 128, 0), (255, 255, 255)].flatMap fun c =>
    [p e.setFgRGB [c.1, c.2.1, c.2.2], p e.setBgRGB [c.1, c.2.1, c.2.2], p e.setFgBgRGB [c.1, c.2.1, c.2.2, c.2.2, c.2.1, c.1],
     p e.underlineColorRGB [c.1, c.2.1, c.2.2]])

/-- one sample: the capability `prog` (empty when the entry lacks it) expanded on `ps` is well-formed after `TPuts` -/
def sampleOk (ff : Bool) (prog : Bytes) (ps : List Int) : Bool :=
  accepts ff (emitted (if prog.isEmpty then [] else (TParm.tparm prog (iv ps) TParm.noVars).1))

/-- the three parts of the grid of `paramSamples`, each as a function of what it reads of the entry (and of whether
`clear` is a form feed); the colours one colour at a time -/
def cursorOk (k : Bool × Bytes) : Bool :=
  [(0, 0), (0, 9), (9, 0), (23, 79), (99, 99), (999, 1023)].all fun rc => sampleOk k.1 k.2 [rc.1, rc.2]
def colourOk (k : Int × Bool × Bytes × Bytes × Bytes × Bytes) : Bool :=
  sampleOk k.2.1 k.2.2.1 [k.1] && sampleOk k.2.1 k.2.2.2.1 [k.1] && sampleOk k.2.1 k.2.2.2.2.1 [k.1, k.1] &&
  sampleOk k.2.1 k.2.2.2.2.1 [k.1, 0] && sampleOk k.2.1 k.2.2.2.2.2 [k.1]
def rgbOk (k : Bool × Bytes × Bytes × Bytes × Bytes) : Bool :=
  [(0, 0, 0), (1, 2, 3), (255, 128, 0), (255, 255, 255)].all fun c =>
    sampleOk k.1 k.2.1 [c.1, c.2.1, c.2.2] && sampleOk k.1 k.2.2.1 [c.1, c.2.1, c.2.2] &&
    sampleOk k.1 k.2.2.2.1 [c.1, c.2.1, c.2.2, c.2.2, c.2.1, c.1] && sampleOk k.1 k.2.2.2.2 [c.1, c.2.1, c.2.2]

def sampleColours (e : Terminfo) : List Int := [0, 1, 7, 8, 9, 15, 16, 87, 255].filter (· < e.colors)

theorem paramSamples_all (ff : Bool) (e : Terminfo) :
    (paramSamples e).all (fun s => accepts ff (emitted s)) =
      (cursorOk (ff, e.setCursor) &&
       (sampleColours e).all (fun c => colourOk (c, ff, e.setFg, e.setBg, e.setFgBg, e.underlineColor)) &&
       rgbOk (ff, e.setFgRGB, e.setBgRGB, e.setFgBgRGB, e.underlineColorRGB)) := by
  simp only [paramSamples, cursorOk, colourOk, rgbOk, sampleOk, sampleColours, List.all_append, List.all_map,
    List.all_flatMap, List.all_cons, List.all_nil, Bool.and_true, Function.comp_def, Bool.and_assoc]

/-- Many entries share their programs, and the colour lists of entries with the same programs overlap: each part is
evaluated once per distinct input, the colour part per distinct (colour, programs) of the distinct (colour list, programs). -/
theorem param_samples_distinct :
    (((Gen.db.filter isEcma).map fun e => (e.clear == [12], e.setCursor)).eraseDups.all cursorOk &&
     ((((Gen.db.filter isEcma).map fun e =>
          (sampleColours e, e.clear == [12], e.setFg, e.setBg, e.setFgBg, e.underlineColor)).eraseDups.flatMap
        fun k => k.1.map fun c => (c, k.2)).eraseDups.all colourOk) &&
     ((Gen.db.filter isEcma).map fun e =>
        (e.clear == [12], e.setFgRGB, e.setBgRGB, e.setFgBgRGB, e.underlineColorRGB)).eraseDups.all rgbOk) = true := by
  decide +kernel

/-- kernel-evaluated TEST (a sample, not the unbounded claim): parameterised capability strings of every
ECMA-family entry, expanded by the TParm model on a grid of parameter values, are well-formed -/
theorem param_caps_accepted_samples :
    (Gen.db.filter isEcma).all (fun e => (paramSamples e).all (fun s => accepts (e.clear == [12]) (emitted s))) = true := by
  have h := param_samples_distinct
  simp only [Bool.and_eq_true] at h
  rw [List.all_eq_true]
  intro e he
  rw [paramSamples_all, Bool.and_eq_true, Bool.and_eq_true, List.all_eq_true]
  refine ⟨⟨C17.all_of_eraseDups _ cursorOk h.1.1 he, fun c hc => ?_⟩, C17.all_of_eraseDups _ rgbOk h.2 he⟩
  exact List.all_eq_true.1 h.1.2 _ (List.mem_eraseDups.2 (List.mem_flatMap.2
    ⟨_, List.mem_eraseDups.2 (List.mem_map_of_mem he), List.mem_map_of_mem hc⟩))

end Tcell.Props.C09
