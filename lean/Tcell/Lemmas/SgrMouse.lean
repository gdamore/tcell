import Tcell.Model.Parser
import Tcell.Lemmas.SgrStrict
import Tcell.Base.Dec
/-
Lemmas about `parseSgrMouse` on rendered reports `intro < b ; x ; y M|m`: the digit loop is `Dec.accDigits wrap64`,
a rendered integer is read back exactly (|z| < 2^63), the parser completes at the final byte and ignores what follows.
A report consists of bytes that have a `case` only, so everything holds for both variants of the loop (`sgrStepV b`).
-/
namespace Tcell.Lemmas.SgrMouse
open Tcell Tcell.Model Tcell.Dec Tcell.Lemmas.SgrStrict

def two63 : Int := 9223372036854775808

theorem wrap64_id (v : Int) (h1 : -two63 ≤ v) (h2 : v < two63) : wrap64 v = v := by
  unfold wrap64; unfold two63 at h1 h2; omega

theorem isDigit_range {c : Nat} (h : isDigit c = true) : 48 ≤ c ∧ c ≤ 57 := by
  unfold isDigit at h; simp at h; exact h

theorem isDigit_known {c : Nat} (h : isDigit c = true) : sgrKnown c = true :=
  (sgrKnown_iff c).mpr (by simp [isDigit_range h])

theorem sgrStepV_digit (b : Bool) (s : SgrSt) (c : Nat) (hc : isDigit c = true) (hn : inNum s = true) :
    sgrStepV b s c = .cont { s with val := wrap64 (s.val * 10 + ((c : Int) - 48)), dig := true } := by
  rw [sgrStepV_known b s c (isDigit_known hc), sgrStep_digit s c (isDigit_range hc)]; simp [hn]

def afterDigits (s : SgrSt) (ds : List Nat) : SgrSt :=
  { s with val := accDigits wrap64 s.val ds, dig := s.dig || !ds.isEmpty }

theorem inNum_afterDigits (s : SgrSt) (ds : List Nat) : inNum (afterDigits s ds) = inNum s := rfl

theorem sgrRun_digits (cfg : Cfg) (st : PState) (ds rest : List Nat) :
    ∀ (s : SgrSt) (i : Nat), (∀ c ∈ ds, isDigit c = true) → inNum s = true →
      sgrRun cfg st s (ds ++ rest) i = sgrRun cfg st (afterDigits s ds) rest (i + ds.length) := by
  induction ds with
  | nil => intro s i _ _; simp [afterDigits, accDigits]
  | cons d ds ih =>
    intro s i hd hn
    have hd0 : isDigit d = true := hd d (by simp)
    have hds : ∀ c ∈ ds, isDigit c = true := fun c hc => hd c (by simp [hc])
    simp only [List.cons_append, sgrRun, sgrStepV_digit _ s d hd0 hn]
    rw [ih _ (i + 1) hds (by simpa [inNum] using hn)]
    simp [afterDigits, accDigits, Nat.add_assoc, Nat.add_comm 1]

/-- a number starts here: number state, nothing accumulated -/
def Fresh (s : SgrSt) : Prop := inNum s = true ∧ s.val = 0 ∧ s.dig = false ∧ s.neg = false

def afterInt (s : SgrSt) (z : Int) : SgrSt := { s with val := (z.natAbs : Int), dig := true, neg := decide (z < 0) }

theorem sgrStepV_minus (b : Bool) (s : SgrSt) (hs : Fresh s) : sgrStepV b s 45 = .cont { s with neg := true } := by
  rw [sgrStepV_known b s 45 (by decide), sgrStep_minus]; simp [hs.1, hs.2.2]

theorem afterDigits_showDec (s : SgrSt) (n : Nat) (hv : s.val = 0) (hd : s.dig = false) (hn : (n : Int) < two63) :
    afterDigits s (showDec n) = { s with val := n, dig := true } := by
  have hacc : accDigits wrap64 0 (showDec n) = n :=
    accDigits_showDec wrap64 n fun m hm => wrap64_id m (by unfold two63; omega) (by unfold two63 at *; omega)
  have hne : (showDec n).isEmpty = false := by
    cases h : showDec n with
    | nil => exact absurd h (showDec_ne_nil _)
    | cons _ _ => rfl
  simp [afterDigits, hv, hd, hacc, hne]

theorem sgrRun_showInt (cfg : Cfg) (st : PState) (z : Int) (hz1 : -two63 < z) (hz2 : z < two63) (rest : List Nat)
    (s : SgrSt) (i : Nat) (hs : Fresh s) :
    sgrRun cfg st s (showInt z ++ rest) i = sgrRun cfg st (afterInt s z) rest (i + (showInt z).length) := by
  obtain ⟨hn, hv, hd, hg⟩ := hs
  have hz : (z.natAbs : Int) < two63 := by unfold two63 at *; omega
  unfold showInt
  by_cases hneg : z < 0
  · simp only [hneg, if_true, List.cons_append, sgrRun, sgrStepV_minus _ s ⟨hn, hv, hd, hg⟩]
    rw [sgrRun_digits cfg st _ rest _ (i + 1) (showDec_allDigits _) (by simpa [inNum] using hn),
      afterDigits_showDec { s with neg := true } _ hv hd hz]
    simp [afterInt, hneg, Nat.add_assoc, Nat.add_comm 1]
  · simp only [hneg, if_false]
    rw [sgrRun_digits cfg st _ rest _ i (showDec_allDigits _) hn, afterDigits_showDec _ _ hv hd hz]
    simp [afterInt, hneg, ← hg]

theorem sgrVal_afterInt (s : SgrSt) (z : Int) (hz1 : -two63 < z) (hz2 : z < two63) : sgrVal (afterInt s z) = z := by
  unfold sgrVal afterInt
  by_cases hneg : z < 0
  · simp only [hneg, decide_true, if_true]
    rw [wrap64_id _ (by unfold two63 at *; omega) (by unfold two63 at *; omega)]; omega
  · simp only [hneg, decide_false]
    simp; omega

/-- `intro < b ; x ; y fin` -/
def render (intro : List Nat) (b x y : Int) (fin : Nat) : List Nat :=
  intro ++ (60 :: (showInt b ++ (59 :: (showInt x ++ (59 :: (showInt y ++ [fin]))))))

def Fits (z : Int) : Prop := -two63 < z ∧ z < two63

def s3 : SgrSt := { state := 3 }
def s4 (b : Int) : SgrSt := { state := 4, btn := b }
def s5 (b x : Int) : SgrSt := { state := 5, btn := b, x := x - 1 }

theorem fresh_s3 : Fresh s3 := by simp [Fresh, s3, inNum]
theorem fresh_s4 (b : Int) : Fresh (s4 b) := by simp [Fresh, s4, inNum]
theorem fresh_s5 (b x : Int) : Fresh (s5 b x) := by simp [Fresh, s5, inNum]

theorem sep3V (v : Bool) (b : Int) (hb : Fits b) : sgrStepV v (afterInt s3 b) 59 = .cont (s4 b) := by
  rw [sgrStepV_known v _ 59 (by decide), sgrStep_semi, if_pos (show (afterInt s3 b).state = 3 from rfl), sgrVal_afterInt s3 b hb.1 hb.2]; rfl

theorem sep4V (v : Bool) (b x : Int) (hx : Fits x) : sgrStepV v (afterInt (s4 b) x) 59 = .cont (s5 b x) := by
  rw [sgrStepV_known v _ 59 (by decide), sgrStep_semi, if_neg (show ¬ (afterInt (s4 b) x).state = 3 from nofun),
    if_pos (show (afterInt (s4 b) x).state = 4 from rfl), sgrVal_afterInt (s4 b) x hx.1 hx.2,
    wrap64_id _ (by unfold Fits two63 at *; omega) (by unfold Fits two63 at *; omega)]; rfl

theorem fin5V (v : Bool) (b x y : Int) (hy : Fits y) (fin : Nat) (hf : fin = 77 ∨ fin = 109) :
    sgrStepV v (afterInt (s5 b x) y) fin = .fin (x - 1) (y - 1) b (fin = 109) := by
  rw [sgrStepV_known v _ fin ((sgrKnown_iff fin).mpr (by omega)), sgrStep_final _ fin hf.symm,
    if_neg (show ¬ (afterInt (s5 b x) y).state ≠ 5 from fun h => h rfl),
    sgrVal_afterInt (s5 b x) y hy.1 hy.2, wrap64_id _ (by unfold Fits two63 at *; omega) (by unfold Fits two63 at *; omega)]; rfl

theorem render_length (intro : List Nat) (b x y : Int) (fin : Nat) :
    (render intro b x y fin).length
      = intro.length + 1 + (showInt b).length + 1 + (showInt x).length + 1 + (showInt y).length + 1 := by
  simp [render]; omega

/-- after the introducer the parser is in state 2 -/
theorem sgrRun_body (cfg : Cfg) (st : PState) (b x y : Int) (hb : Fits b) (hx : Fits x) (hy : Fits y)
    (fin : Nat) (hf : fin = 77 ∨ fin = 109) (rest : List Nat) (i : Nat) :
    sgrRun cfg st { state := 2 } (60 :: (showInt b ++ (59 :: (showInt x ++ (59 :: (showInt y ++ fin :: rest)))))) i
      = sgrFinish cfg st (x - 1) (y - 1) b (fin = 109)
          (i + 1 + (showInt b).length + 1 + (showInt x).length + 1 + (showInt y).length + 1) := by
  have h60 : sgrStepV cfg.sgrStrict { state := 2 } 60 = .cont s3 := by simp [sgrStepV, sgrKnown, sgrStep, s3]
  rw [sgrRun, h60]
  simp only []
  rw [sgrRun_showInt cfg st b hb.1 hb.2 _ s3 _ fresh_s3]
  rw [sgrRun, sep3V _ b hb]
  simp only []
  rw [sgrRun_showInt cfg st x hx.1 hx.2 _ (s4 b) _ (fresh_s4 b)]
  rw [sgrRun, sep4V _ b x hx]
  simp only []
  rw [sgrRun_showInt cfg st y hy.1 hy.2 _ (s5 b x) _ (fresh_s5 b x)]
  rw [sgrRun, fin5V _ b x y hy fin hf]

end Tcell.Lemmas.SgrMouse
