import Tcell.Lemmas.TextParse
/-
C11: the bracketed-paste markers `ESC [ 2 0 0 ~` / `ESC [ 2 0 1 ~` (internal keys registered by
`prepareBracketedPaste`, tscreen.go:344) and the focus reports `ESC [ I` / `ESC [ O` (`parseFocus`, tscreen.go:1486) are
good tokens when the key table satisfies `pasteKeys` / `focusClear`.
-/
namespace Tcell.Lemmas.Text
open Tcell Tcell.Model Tcell.Lemmas.Collect Tcell.Lemmas.PrefixFree Tcell.Lemmas.SgrStrict

theorem keyMatches_comparable (T : KeyTable) (s b : Bytes) (h : s <+: b ∨ b <+: s) :
    keyMatches T b = (comparable T s).filter (fun e => hasPrefix b e.seq) := by
  unfold keyMatches comparable
  rw [List.filter_filter]
  apply List.filter_congr
  intro e _
  cases he : hasPrefix b e.seq with
  | false => simp
  | true =>
    have hp := hasPrefix_iff.mp he
    have : hasPrefix s e.seq = true ∨ hasPrefix e.seq s = true := by
      rcases h with h | h
      · exact (List.prefix_or_prefix_of_prefix hp h).imp hasPrefix_iff.mpr hasPrefix_iff.mpr
      · exact Or.inl (hasPrefix_iff.mpr (hp.trans h))
    rcases this with h' | h' <;> simp [h']

theorem keyMatches_clear (T : KeyTable) (s b : Bytes) (h : s <+: b ∨ b <+: s) (hc : (comparable T s).isEmpty = true) :
    keyMatches T b = [] := by
  rw [keyMatches_comparable T s b h, List.isEmpty_iff.mp hc]
  rfl

theorem parseFocus_silent (st : PState) (b : Bytes) (h : ∀ c ∈ b, c ≠ 73 ∧ c ≠ 79) : Silent (parseFocus st b) := by
  rcases b with _ | ⟨c0, _ | ⟨c1, _ | ⟨c2, r⟩⟩⟩
  · exact Or.inl rfl
  · by_cases h0 : c0 = 27 <;> simp [parseFocus, Silent, h0]
  · by_cases h0 : c0 = 27 <;> by_cases h1 : c1 = 91 <;> simp [parseFocus, Silent, h0, h1]
  · have := h c2 (by simp)
    by_cases h0 : c0 = 27 <;> by_cases h1 : c1 = 91 <;> simp [parseFocus, Silent, h0, h1, this]

theorem keyTok_good (cfg : Cfg) (st : PState) (s' : Bytes) (x : KeyEntry) (ev : Event) (hx : x.seq = 27 :: s')
    (hne : s' ≠ []) (hlen : s'.length ≤ 5) (hbytes : ∀ c ∈ 27 :: s', c ≠ 60 ∧ c ≠ 73 ∧ c ≠ 79)
    (hcmp : comparable cfg.keys (27 :: s') = [x]) (hev : ∀ b, keyEvent st b x = .complete (27 :: s').length [ev] st) :
    GoodTok cfg st ⟨27 :: s', ev⟩ := by
  refine ⟨List.cons_ne_nil _ _, ?_, ?_⟩
  · intro t
    have h2 : parseFunctionKey cfg.keys st (27 :: s' ++ t) = .complete (27 :: s').length [ev] st := by
      rw [parseFunctionKey, keyMatches_comparable cfg.keys (27 :: s') _ (Or.inl (List.prefix_append _ _)), hcmp]
      simp only [List.filter, hx, hasPrefix_iff.mpr (List.prefix_append _ _)]
      exact hev _
    obtain ⟨ps, hps, _⟩ := parsers_cons cfg
    show step1 cfg st (27 :: s' ++ t) false = _
    rw [step1, hps]
    exact (tryParsers_silent_hit st _ false _ _ _ _ _ h2 [parseRune cfg.dec]
      (fun q hq => List.mem_singleton.mp hq ▸ Or.inr (parseRune_esc _ _ _)) 0).trans (by rw [List.drop_left])
  · intro l h0 hl
    replace hl : l < s'.length + 1 := hl
    have hq : ∀ c ∈ (27 :: s').take l, c ≠ 60 ∧ c ≠ 73 ∧ c ≠ 79 := fun c hc => hbytes c (List.mem_of_mem_take hc)
    have h2 : parseFunctionKey cfg.keys st ((27 :: s').take l) = .part := by
      have hno : hasPrefix ((27 :: s').take l) (27 :: s') = false := Bool.eq_false_iff.mpr fun h => by
        have := (hasPrefix_iff.mp h).length_le
        rw [List.length_take, List.length_cons] at this; omega
      have hlone : bytesEq (27 :: s') [27] = false := by
        cases s' with
        | nil => exact absurd rfl hne
        | cons _ _ => simp [bytesEq]
      have hpart : keyPartial cfg.keys ((27 :: s').take l) = true :=
        keyPartial_iff.mpr ⟨x, (List.mem_filter.mp (hcmp ▸ List.mem_singleton_self x : x ∈ comparable cfg.keys _)).1,
          hx ▸ hlone, hx ▸ List.take_prefix _ _⟩
      rw [parseFunctionKey, keyMatches_comparable cfg.keys (27 :: s') _ (Or.inr (List.take_prefix _ _)), hcmp]
      simp [List.filter, hx, hno, hpart]
    rw [take_cons_pos 27 s' l h0] at h2 hq ⊢
    exact step1_wait cfg st _ (Or.inr (parseRune_esc _ _ _)) (Or.inl h2) (parseFocus_silent st _ fun c hc => (hq c hc).2)
      (tailSilent cfg st 27 _ (Or.inr ⟨rfl, by rw [List.length_take]; omega⟩) (Or.inr fun hc => (hq 60 hc).1 rfl))
      (Or.inr (Or.inl h2))

/-- a focus report `ESC [ c` (c = `I` focus in, `O` focus out) -/
theorem focus_good (cfg : Cfg) (st : PState) (c : Nat) (hc : c = 73 ∨ c = 79)
    (hk : (comparable cfg.keys [27, 91, c]).isEmpty = true) :
    GoodTok cfg st ⟨[27, 91, c], .focus (c = 73)⟩ := by
  refine ⟨List.cons_ne_nil _ _, ?_, ?_⟩
  · intro t
    have h3 : parseFocus st ([27, 91, c] ++ t) = .complete 3 [.focus (c = 73)] st := by simp [parseFocus, hc]
    obtain ⟨ps, hps, _⟩ := parsers_cons cfg
    show step1 cfg st ([27, 91, c] ++ t) false = _
    rw [step1, hps]
    refine tryParsers_silent_hit st _ false _ _ _ _ _ h3 [parseRune cfg.dec, parseFunctionKey cfg.keys] (fun q hq => ?_) 0
    simp only [List.mem_cons, List.not_mem_nil, or_false] at hq
    rcases hq with rfl | rfl
    · exact Or.inr (parseRune_esc _ _ _)
    · exact parseFunctionKey_silent _ _ _ (keyMatches_clear _ _ _ (Or.inl (List.prefix_append _ _)) hk)
  · intro l h0 hl
    have h2 := parseFunctionKey_silent cfg.keys st _ (keyMatches_clear _ _ _ (Or.inr (List.take_prefix l _)) hk)
    have h3 : parseFocus st (List.take l [27, 91, c]) = .part := by
      have : l = 1 ∨ l = 2 := by simp only [List.length_cons, List.length_nil] at hl; omega
      rcases this with rfl | rfl <;> rfl
    rw [take_cons_pos 27 _ l h0] at h2 h3 ⊢
    have hlen : (List.take (l - 1) [91, c]).length ≤ 3 := by rw [List.length_take]; simp only [List.length_cons, List.length_nil]; omega
    exact step1_wait cfg st _ (Or.inr (parseRune_esc _ _ _)) h2 (Or.inl h3) (tailSilent cfg st 27 _ (Or.inl hlen) (Or.inl hlen))
      (Or.inr (Or.inr h3))

end Tcell.Lemmas.Text
