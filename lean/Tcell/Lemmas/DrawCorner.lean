/-
The bottom-right corner trick of drawCell (tscreen.go drawCell, "our solution is somewhat goofy"; Model/Draw.lean
`Scr.drawCell`, branch `cornerTrick`) carried through the cross-Show invariant: one loop iteration at the corner
cell re-establishes `PassInv` (`visit_corner`), given what the pass knows about the last row (`CornerGhost`) and the
side condition that no cell of that row is locked.
-/
import Tcell.Lemmas.DrawVisit
namespace Tcell
open Buf

theorem rawW_pos (b : Buf) (x y : Int) : 1 ≤ rawW b x y := by unfold rawW; split <;> omega

theorem rawW_eq {b : Buf} {x y : Int} (h : 1 ≤ (b.getContent x y).2.2.2) : rawW b x y = (b.getContent x y).2.2.2 := by
  unfold rawW; rw [if_neg (by omega)]

theorem rawW_congr (b b' : Buf) (x y : Int) (h : b'.getContent x y = b.getContent x y) : rawW b' x y = rawW b x y := by
  unfold rawW; rw [h]

theorem coverStart_succ (b : Buf) (y : Int) (fuel : Nat) (cx x : Int) :
    Scr.coverStart b y (fuel + 1) cx x =
      if cx + rawW b cx y < x then Scr.coverStart b y fuel (cx + rawW b cx y) x else cx := rfl

theorem coverStart_congr (b b' : Buf) (y : Int) (h : ∀ i, b'.getContent i y = b.getContent i y) :
    ∀ (fuel : Nat) (cx x : Int), Scr.coverStart b' y fuel cx x = Scr.coverStart b y fuel cx x := by
  intro fuel
  induction fuel with
  | zero => intro cx x; rfl
  | succ n ih => intro cx x; rw [coverStart_succ, coverStart_succ, rawW_congr b b' cx y (h cx), ih]

theorem RawReach.le {b : Buf} {y a p : Int} (h : RawReach b y a p) : a ≤ p := by
  induction h with
  | refl a => exact Int.le_refl _
  | step a p _ ih => have := rawW_pos b a y; omega

theorem RawReach.snoc {b : Buf} {y a p : Int} (h : RawReach b y a p) : RawReach b y a (p + rawW b p y) := by
  induction h with
  | refl a => exact .step _ _ (.refl _)
  | step a p _ ih => exact .step _ _ ih

theorem RawReach.congr {b b' : Buf} {y a p : Int} (hg : ∀ i, b'.getContent i y = b.getContent i y)
    (h : RawReach b y a p) : RawReach b' y a p := by
  induction h with
  | refl a => exact .refl _
  | step a p _ ih => refine .step _ _ ?_; rw [rawW_congr b b' a y (hg a)]; exact ih

/-- the `px` loop stops at the last column it reaches before `x` -/
theorem coverStart_reach {b : Buf} {y a p : Int} (h : RawReach b y a p) (x : Int) (hpx : p < x) (hxp : x ≤ p + rawW b p y) :
    ∀ fuel : Nat, (x - a).toNat ≤ fuel → Scr.coverStart b y fuel a x = p := by
  induction h with
  | refl a =>
    intro fuel hf
    cases fuel with
    | zero => omega
    | succ n => rw [coverStart_succ, if_neg (by omega)]
  | step a p hr ih =>
    intro fuel hf
    have hle := hr.le
    have hpos := rawW_pos b a y
    cases fuel with
    | zero => omega
    | succ n => rw [coverStart_succ, if_pos (by omega)]; exact ih hpx hxp n (by omega)

theorem Cell.markClean_markDirty (cl : Cell) (h1 : cl.lastMain ≠ 0) (h2 : cl.last = cl.content) : cl.markDirty.markClean = cl := by
  cases cl
  simp only [Cell.last, Cell.content, Prod.mk.injEq] at h2
  simp only [Cell.markDirty, Cell.markClean] at *
  obtain ⟨a, b, c⟩ := h2
  subst a b c
  simp [h1]

namespace ATerm

theorem mem_rowFrom (t : ATerm) (x y : Int) (p : Int × Int) (h : p ∈ t.rowFrom x y) : p.2 = y ∧ x ≤ p.1 ∧ p.1 < t.w := by
  simp only [rowFrom, List.mem_map, List.mem_reverse, List.mem_range] at h
  obtain ⟨k, hk, rfl⟩ := h
  have e : Int.ofNat k = (k : Int) := rfl
  rw [e]
  refine ⟨rfl, ?_, ?_⟩ <;> simp only <;> omega

/-- ICH at the second to last column `a` when it holds a narrow glyph: the glyph moves to the last column and an erased
cell is left behind -/
theorem insertAt_grid_last (t : ATerm) (a y : Int) (ha : a + 2 = t.w) {b : List Nat} {st : Style}
    (hn : t.grid a y = .shown b false st) (i j : Int) :
    (t.insertAt a y).grid i j =
      if j = y ∧ i = a then .garbage else if j = y ∧ i = a + 1 then .shown b false st else t.grid i j := by
  unfold insertAt
  simp only
  by_cases h1 : j = y ∧ i = a
  · rw [if_pos h1, if_pos h1]
  · have h2 : ¬ (j = y ∧ i = a - 1 ∧ t.grid a y = .cont) := by rw [hn]; exact fun h => nomatch h.2.2
    rw [if_neg h1, if_neg h1, if_neg h2]
    by_cases h3 : j = y ∧ a < i ∧ i < t.w
    · have hi : i - 1 = a := by omega
      rw [if_pos h3, if_pos (show j = y ∧ i = a + 1 from ⟨h3.1, by omega⟩), hi, h3.1, hn]
    · rw [if_neg h3, if_neg (by omega)]

end ATerm

/-- ICH with the cursor in the second to last column keeps the invariant when that column holds a narrow glyph and does
not count as clean: the glyph now sits in the last column (x,y), whose cell may be marked — clean, if the glyph describes it -/
theorem SyncInv.ichLast {c : DrawCfg} (hrw : RwOk c.rw) {d : Option Style} {s : Scr} {t : ATerm} (inv : SyncInv c d s t)
    {x y : Int} (hx : x = s.w - 1) (hr : s.cells.inRange (x - 1) y) {b : List Nat} {st : Style}
    (hn : t.grid (x - 1) y = .shown b false st)
    (hdead : (s.cells.cells (x - 1) y).Dead)
    {b' : Buf} (hbw : b'.w = s.cells.w) (hbh : b'.h = s.cells.h) (hxy : MarkRel (s.cells.cells x y) (b'.cells x y))
    (hoth : ∀ i j, ¬ (i = x ∧ j = y) → b'.cells i j = s.cells.cells i j)
    (hself : (b'.cells x y).lock = false → (b'.cells x y).lastMain ≠ 0 → Shows c d s.w b' x y (.shown b false st)) :
    SyncInv c d { s with cells := b' } (t.insertAt (x - 1) y) := by
  have hir : ∀ i j, b'.inRange i j ↔ s.cells.inRange i j := by intro i j; simp only [inRange_iff, hbw, hbh]
  have hmr : ∀ i j, MarkRel (s.cells.cells i j) (b'.cells i j) := by
    intro i j
    by_cases h : i = x ∧ j = y
    · rw [h.1, h.2]; exact hxy
    · rw [hoth i j h]; exact .refl _
  have hlk : ∀ i j, (b'.cells i j).lock = (s.cells.cells i j).lock := fun i j => (hmr i j).2.2.2.1
  have hg : ∀ i j, (t.insertAt (x - 1) y).grid i j =
      if j = y ∧ i = x - 1 then .garbage else if j = y ∧ i = x then .shown b false st else t.grid i j := by
    intro i j
    rw [ATerm.insertAt_grid_last t (x - 1) y (by have := inv.tw; omega) hn, show x - 1 + 1 = x by omega]
  -- a cell other than (x,y) that counts as clean and unlocked is not in the second to last column
  have hne : ∀ i j, ¬ (i = x ∧ j = y) → (b'.cells i j).lock = false → (b'.cells i j).lastMain ≠ 0 → ¬ (j = y ∧ i = x - 1) := by
    intro i j h hl hm h'
    rw [hoth i j h, h'.1, h'.2] at hl hm
    exact Cell.live_not_dead hl hm hdead
  refine { tw := inv.tw, th := inv.th, cw := by simp [hbw, inv.cw], ch := by simp [hbh, inv.ch],
           wok := fun i j => (hmr i j).wok hrw (inv.wok i j),
           valid := ⟨inv.valid.1, fun i j => by simp only [(hmr i j).2.1]; exact inv.valid.2 i j⟩,
           g1 := ?_, g2 := ?_, wf := ?_, g3 := ?_ }
  · intro i j hrij hl hm
    simp only at hrij hl hm ⊢
    by_cases h : i = x ∧ j = y
    · obtain ⟨rfl, rfl⟩ := h
      rw [hg, if_neg (by omega), if_pos ⟨rfl, rfl⟩]; exact hself hl hm
    · rw [hg, if_neg (hne i j h hl hm), if_neg (fun h' => h ⟨h'.2, h'.1⟩)]
      have e := hoth i j h
      rw [e] at hl hm
      exact Shows.mono (inv.g1 i j ((hir i j).1 hrij) hl hm) (by rw [e]) fun _ hb =>
        hb.congr (by rw [e]) (locked_congr _ _ hbw hbh hlk _ _) (getContent_congr _ _ hbw hbh e)
  · intro i j hrij hc
    simp only at hrij hc ⊢
    rw [hg] at hc
    obtain ⟨_, hc⟩ := not_of_ite_eq hc nofun
    obtain ⟨h2, hc⟩ := not_of_ite_eq hc nofun
    rw [hoth i j (fun h => h2 ⟨h.2, h.1⟩)]; exact inv.g2 i j ((hir i j).1 hrij) hc
  · intro i j hrij hc
    simp only at hrij hc ⊢
    have hi : i < s.w := by have := inv.cw; simp only [inRange_iff, hbw] at hrij; omega
    rw [hg] at hc
    obtain ⟨h1, hc⟩ := not_of_ite_eq hc nofun
    obtain ⟨h2, hc⟩ := not_of_ite_eq hc nofun
    obtain ⟨b0, st0, hb⟩ := inv.wf i j ((hir i j).1 hrij) hc
    exact ⟨b0, st0, by rw [hg, if_neg (fun h => h2 ⟨h.1, by omega⟩), if_neg (by omega)]; exact hb⟩
  · intro i j hrij hl hm b0 st0 hsh hlt
    simp only at hrij hl hm hsh hlt ⊢
    by_cases h : i = x ∧ j = y
    · omega
    · rw [hg, if_neg (hne i j h hl hm), if_neg (fun h' => h ⟨h'.2, h'.1⟩)] at hsh
      have hold : t.grid (i + 1) j = .cont := by
        have e := hoth i j h
        rw [e] at hl hm; exact inv.g3 i j ((hir i j).1 hrij) hl hm b0 st0 hsh hlt
      have n1 : ¬ (j = y ∧ i + 1 = x - 1) := by
        intro h'; rw [h'.1, h'.2, hn] at hold; cases hold
      have n2 : ¬ (j = y ∧ i + 1 = x) := fun h' => hne i j h hl hm ⟨h'.1, by omega⟩
      rw [hg, if_neg n1, if_neg n2]; exact hold

/-- the screen handed to the inner drawCell of the trick: corner cell marked clean, cell `p` marked dirty, cursor cache on
the second to last column -/
def Scr.cornerS2 (s : Scr) (x y p : Int) : Scr :=
  { s with curstyle := resolveStyle s.style (s.cells.getContent x y).2.2.1, cx := x - 1, cy := y,
           cells := (s.cells.setDirty x y false).setDirty p y true }

theorem Scr.cornerS2_rel (s : Scr) (x y p : Int) : ScrRel s (s.cornerS2 x y p) :=
  (ScrRel.setDirty s { s with cells := s.cells.setDirty x y false } x y false rfl rfl rfl rfl rfl rfl ⟨rfl, rfl, rfl, rfl⟩).trans
    (ScrRel.setDirty _ _ p y true rfl rfl rfl rfl rfl rfl ⟨rfl, rfl, rfl, rfl⟩)

theorem Scr.cornerS2_cells (s : Scr) {x y p : Int} (hr : s.cells.inRange x y) (hrp : s.cells.inRange p y) (hne : p ≠ x)
    (i j : Int) : (s.cornerS2 x y p).cells.cells i j =
      if i = p ∧ j = y then (s.cells.cells i j).markDirty
      else if i = x ∧ j = y then (s.cells.cells i j).markClean else s.cells.cells i j := by
  show ((s.cells.setDirty x y false).setDirty p y true).cells i j = _
  rw [setDirty_true_cells, setDirty_false_cells]
  by_cases h1 : i = p ∧ j = y
  · rw [if_pos ⟨h1.1, h1.2, by simpa [inRange_iff] using hrp⟩, if_pos h1, if_neg (by omega)]
  · rw [if_neg (fun h => h1 ⟨h.1, h.2.1⟩), if_neg h1]; simp only [hr, and_true]

theorem Scr.drawCell_corner (c : DrawCfg) (s : Scr) (x y p : Int) (hd : s.cells.dirty x y = true)
    (hcor : y = s.h - 1 ∧ x = s.w - 1 ∧ c.cornerTrick = true)
    (hpx : Scr.coverStart (s.cells.setDirty x y false) y x.toNat 0 x = p) :
    s.drawCell c x y =
      ({ ((s.cornerS2 x y p).drawCellPlain c p y).1 with cx := 0, cy := 0 },
       [Cmd.goto (x - 1) y] ++ (s.paint c x y).2.1 ++ [.goto (x - 1) y, .insertChar] ++
         ((s.cornerS2 x y p).drawCellPlain c p y).2.1 ++ [.goto 0 0],
       (s.paint c x y).2.2) := by
  unfold Scr.drawCell
  rw [if_neg (by simp [hd]), if_pos hcor]
  have e : Scr.cornerPx (s.paint c x y).1 x y = p := by
    rw [Scr.paint_eq]; simp only [Scr.cornerPx, Scr.currentCornerRepaintsCover, if_true]; exact hpx
  simp only [e]
  rw [Scr.paint_eq]
  rfl

theorem txAt_last_col (c : DrawCfg) (s : Scr) (x y : Int) (hx : x = s.w - 1) (hl : s.cells.locked (x + 1) y = false) :
    (s.txAt c x y).2 = 1 := by
  simp only [Scr.txAt, hl, Bool.and_false, Scr.cellTextG_false, Scr.cellText]
  split
  · split <;> rfl
  · rename_i h
    split
    · rfl
    · simp only; omega

/-- The first half of the trick — go to the second to last column, write the corner cell's text there, go back, insert
a character — on a row without locks, when the cell `p` that covers the second to last column is clean: seen from `p`,
which is marked dirty and about to be repainted, the pass invariant holds again.  The payload and ICH touch the last two
columns only. -/
theorem corner_first_half {c : DrawCfg} (hrw : RwOk c.rw) {d : Option Style} {s : Scr} {t : ATerm} {x y : Int}
    (inv : PassInv c d s t x y) (hr : s.cells.inRange x y) (hx : x = s.w - 1) (hw2 : 2 ≤ s.w)
    (hul : ∀ i, s.cells.locked i y = false) {p : Int}
    (hp : p = x - 1 ∨ (p = x - 2 ∧ 0 ≤ p ∧ (s.cells.cells (x - 1) y).lastMain = 0))
    (hpm : (s.cells.cells p y).lastMain ≠ 0) :
    ∃ tC l, t.applyAll ([Cmd.goto (x - 1) y] ++ (s.paint c x y).2.1 ++ [.goto (x - 1) y, .insertChar]) = tC ∧
      PassInv c d (s.cornerS2 x y p) tC p y ∧
      tC.writes = l ++ t.writes ∧ tC.covered = l ++ t.covered ∧ (∀ q ∈ l, q.2 = y ∧ x - 1 ≤ q.1 ∧ q.1 < s.w) ∧
      tC.visible = t.visible ∧ tC.shape = t.shape := by
  have hb := inv.bounds hr
  have htw := inv.tw; have hth := inv.th
  have hxy : 0 ≤ x - 1 ∧ x - 1 < t.w ∧ 0 ≤ y ∧ y < t.h := by omega
  have hr1 : s.cells.inRange (x - 1) y := by simp only [inRange_iff] at hr ⊢; omega
  have hrp : s.cells.inRange p y := by simp only [inRange_iff] at hr ⊢; omega
  have hplock := unlocked_of_locked_false _ _ _ hrp (hul p)
  -- the cell the pass came from is not the right half of anything on the terminal
  have hpnc : t.grid p y ≠ .cont := fun h => Cell.live_not_dead hplock hpm (inv.g2 p y hrp h)
  have htx1 := txAt_last_col c s x y hx (hul _)
  have hstv : resolveStyle s.style (s.cells.getContent x y).2.2.1 ≠ styleInvalid := by
    rw [getContent_style _ _ _ hr]; exact resolveStyle_valid _ _ inv.valid.1 (inv.valid.2 x y)
  have hshows := shows_painted hrw hr (inv.wok x y) inv.dcompat (b' := (s.cornerS2 x y p).cells)
    (by rw [s.cornerS2_cells hr hrp (by omega), if_neg (by omega), if_pos ⟨rfl, rfl⟩]) ((s.cornerS2_rel x y p).locked _ _)
  unfold Scr.cornerS2 at hshows ⊢
  rw [Scr.paint_eq]; simp only
  generalize s.txAt c x y = tx at htx1 hshows ⊢
  generalize resolveStyle s.style (s.cells.getContent x y).2.2.1 = style at hstv hshows ⊢
  rw [htx1] at hshows
  -- the terminal: the glyph is printed in the second to last column, then shifted into the corner
  have e1 : t.applyAll [Cmd.goto (x - 1) y] = { t with cur := some (x - 1, y) } := apply_goto t ⟨hxy.1, hxy.2.1⟩ hxy.2.2
  have e2 := applyAll_paint ({ t with cur := some (x - 1, y) } : ATerm) rfl hxy s.curstyle style
    (fun h => by subst h; exact inv.kpen hstv) tx.1 tx.2
  generalize htA : ({ t with cur := some (x - 1, y), pen := some style } : ATerm).putAt (x - 1) y tx.1 tx.2 style = tA at e2
  have hAg : tA.grid = (t.putAt (x - 1) y tx.1 tx.2 style).grid := by
    rw [← htA]; exact ATerm.putAt_grid_congr (t := t) (t' := { t with cur := some (x - 1, y), pen := some style }) rfl ..
  have hAn : tA.grid (x - 1) y = .shown tx.1 false style := by rw [hAg, ATerm.putAt_grid_self, htx1]; rfl
  have hAd : tA.w = t.w ∧ tA.h = t.h ∧ tA.pen = some style ∧ tA.visible = t.visible ∧ tA.shape = t.shape ∧
      tA.writes = (x - 1, y) :: t.writes ∧ tA.covered = (x - 1, y) :: t.covered := by
    rw [← htA, ATerm.putAt_covered, if_neg (by omega)]; simp
  have e3 : tA.applyAll [Cmd.goto (x - 1) y, .insertChar] = ({ tA with cur := some (x - 1, y) } : ATerm).insertAt (x - 1) y := by
    rw [applyAll_cons, apply_goto tA (by rw [hAd.1]; exact ⟨hxy.1, hxy.2.1⟩) (by rw [hAd.2.1]; exact hxy.2.2)]
    have hig : ({ tA with cur := some (x - 1, y) } : ATerm).inGrid (x - 1) y := by
      show 0 ≤ x - 1 ∧ x - 1 < tA.w ∧ 0 ≤ y ∧ y < tA.h
      rw [hAd.1, hAd.2.1]; exact hxy
    simp only [ATerm.applyAll, List.foldl, ATerm.apply, if_pos hig]
  refine ⟨({ tA with cur := some (x - 1, y) } : ATerm).insertAt (x - 1) y,
    ATerm.rowFrom ({ tA with cur := some (x - 1, y) } : ATerm) (x - 1) y ++ [(x - 1, y)],
    by rw [applyAll_append, applyAll_append, e1, e2, e3], ?_, ?_, ?_, ?_, hAd.2.2.2.1, hAd.2.2.2.2.1⟩
  · -- the invariant: the glyph is scribbled over a cell that does not count as clean, then shifted into the corner
    have hbA : ∀ i j, (s.cells.setDirty p y true).cells i j =
        if i = p ∧ j = y then (s.cells.cells i j).markDirty else s.cells.cells i j := by
      intro i j; rw [setDirty_true_cells]; simp only [hrp, and_true]
    have hc2 : ∀ i j, ((s.cells.setDirty x y false).setDirty p y true).cells i j = _ := s.cornerS2_cells hr hrp (by omega)
    have hdead1 : ((s.cells.setDirty p y true).cells (x - 1) y).lastMain = 0 := by
      rw [hbA]; split
      · rfl
      · rcases hp with h | h
        · omega
        · exact h.2.2
    have invA : SyncInv c d { s with cells := s.cells.setDirty p y true } (t.putAt (x - 1) y tx.1 tx.2 style) := by
      refine inv.toSyncInv.putAt hrw hr1 (by simp) (by simp)
        (setDirty_markRel _ p y true) ?_ tx.1 style ?_ (fun h => by omega) (fun _ hm => absurd hdead1 hm)
      · intro i j _; rw [hbA]; split
        · exact Or.inr rfl
        · exact Or.inl rfl
      · -- if the glyph lands on the right half of a wide one, its left half is `p`, which is marked dirty
        intro _ hc
        have : p = x - 2 := hp.elim (fun h => absurd (by rw [h]; exact hc) hpnc) (·.1)
        rw [hbA, if_pos ⟨by omega, rfl⟩]; exact Cell.dead_of_lastMain rfl
    have invA' : SyncInv c d { s with cells := s.cells.setDirty p y true } { tA with cur := some (x - 1, y) } :=
      invA.congr rfl rfl rfl rfl hAg (by rw [ATerm.putAt_w]; exact hAd.1) (by rw [ATerm.putAt_h]; exact hAd.2.1)
    have invB := invA'.ichLast hrw hx (by simpa [inRange_iff] using hr1) hAn (Cell.dead_of_lastMain hdead1)
      (b' := (s.cells.setDirty x y false).setDirty p y true) (by simp) (by simp)
      (by rw [hbA, if_neg (by omega), hc2, if_neg (by omega), if_pos ⟨rfl, rfl⟩]; exact MarkRel.markClean _)
      (fun i j h => by rw [hc2, hbA, if_neg h]) (fun _ _ => hshows)
    refine { toSyncInv := invB.congr rfl rfl rfl rfl rfl rfl rfl, kcur := fun _ => rfl, kpen := fun _ => hAd.2.2.1, q := ?_,
             dcompat := inv.dcompat }
    -- a clean unlocked cell left of `p` showing a wide glyph would have its right half on `p`
    intro h1 _ _ hl hm b st hsh
    have hcont := invB.g3 (p - 1) y (by simp only [inRange_iff, setDirty_w, setDirty_h] at hrp ⊢; omega) hl hm b st hsh
      (by show p - 1 + 1 < s.w; omega)
    rw [show p - 1 + 1 = p by omega,
      ATerm.insertAt_grid_last ({ tA with cur := some (x - 1, y) } : ATerm) (x - 1) y (by show x - 1 + 2 = tA.w; omega) hAn] at hcont
    obtain ⟨_, hcont⟩ := not_of_ite_eq hcont nofun
    obtain ⟨_, hcont⟩ := not_of_ite_eq hcont nofun
    have hp2 : p = x - 2 := by rcases hp with h | h <;> omega
    change tA.grid p y = .cont at hcont
    rw [hAg, ATerm.putAt_grid, if_neg (by omega), if_neg (by omega), if_neg (by omega), if_neg (by omega)] at hcont
    exact hpnc (not_of_ite_eq hcont nofun).2
  · show ATerm.rowFrom _ _ _ ++ tA.writes = _
    rw [hAd.2.2.2.2.2.1]; simp
  · show ATerm.rowFrom _ _ _ ++ tA.covered = _
    rw [hAd.2.2.2.2.2.2]; simp
  · intro q hq
    rcases List.mem_append.1 hq with hq | hq
    · have := ATerm.mem_rowFrom _ _ _ _ hq
      exact ⟨this.1, this.2.1, by have := this.2.2; show q.1 < s.w; rw [← htw, ← hAd.1]; exact this⟩
    · simp only [List.mem_singleton] at hq; subst hq; exact ⟨rfl, Int.le_refl _, by show x - 1 < s.w; omega⟩

/-- one loop iteration at the bottom-right corner cell of a terminal that needs the insert-character trick -/
theorem visit_corner {c : DrawCfg} (hrw : RwOk c.rw) (hct : c.Walk) {d : Option Style} {s : Scr} {t : ATerm} {x y : Int}
    (inv : PassInv c d s t x y) (hr : s.cells.inRange x y) (hd : s.cells.dirty x y = true)
    (hcor : y = s.h - 1 ∧ x = s.w - 1 ∧ c.cornerTrick = true)
    (hw2 : 2 ≤ s.w) (hul : ∀ i, s.cells.locked i y = false) (gh : CornerGhost s x y) :
    VisitPost c d s t x y (s.visit c x y).1 (t.applyAll (s.visit c x y).2.1) (s.visit c x y).2.2 := by
  have hy := hcor.1; have hx := hcor.2.1
  have hxy := inv.bounds hr
  have hcw := inv.cw; have hch := inv.ch
  have hrel := visit_rel c s x y
  -- the cell the pass came from: the column before the corner, or the one before that when it holds a wide rune
  obtain ⟨p, hp0, hpreach, hpx, hpm, hplast, hpnb⟩ := gh.pred (by omega)
  have hrwp := rawW_pos s.cells p y
  have hrp : s.cells.inRange p y := by simp only [inRange_iff]; omega
  have hgw := getContent_width hrw s.cells p y hrp (inv.wok p y)
  have hpw := rawW_eq hgw.1
  have hpcase : p = x - 1 ∨ (p = x - 2 ∧ 0 ≤ p ∧ (s.cells.cells (x - 1) y).lastMain = 0) := by
    by_cases h : rawW s.cells p y > 1
    · exact Or.inr ⟨by omega, hp0, by rw [show x - 1 = p + 1 by omega]; exact hpnb h⟩
    · exact Or.inl (by omega)
  -- the `px` loop finds it
  have hcsp : Scr.coverStart s.cells y x.toNat 0 x = p := coverStart_reach hpreach x (by omega) (by omega) _ (by omega)
  obtain ⟨tC, l, hterm1, inv2, hl1, hl2, hl3, hCv⟩ := corner_first_half hrw inv hr hx hw2 hul hpcase hpm
  -- the second half: the cell the pass came from, marked dirty, is painted again
  have hrel2 := s.cornerS2_rel x y p
  have hr2 : (s.cornerS2 x y p).cells.inRange p y := (hrel2.inRange p y).2 hrp
  have hc2 := s.cornerS2_cells hr hrp (by omega : p ≠ x)
  have hd2 : (s.cornerS2 x y p).cells.dirty p y = true := by
    rw [dirty_iff]; refine ⟨hr2, ?_⟩
    rw [hc2, if_pos ⟨rfl, rfl⟩]
    simp [Cell.isDirty, unlocked_of_locked_false _ _ _ hrp (hul p)]
  -- repainted, it is clean again, exactly as the pass left it
  have hc3 : ∀ i j, ((s.cornerS2 x y p).cells.setDirty p y false).cells i j =
      if i = x ∧ j = y then (s.cells.cells i j).markClean else s.cells.cells i j := by
    intro i j
    rw [setDirty_false_cells, hc2]
    by_cases h1 : i = p ∧ j = y
    · rw [if_pos ⟨h1.1, h1.2, hr2⟩, if_pos h1, if_neg (by omega), h1.1, h1.2]
      exact Cell.markClean_markDirty _ hpm hplast
    · rw [if_neg (fun h => h1 ⟨h.1, h.2.1⟩), if_neg h1]
  have inv3 := inv2.paint hrw hr2 hd2 (b' := (s.cornerS2 x y p).cells.setDirty p y false) (by simp) (by simp)
    (setDirty_markRel _ p y false)
    (by rw [setDirty_false_cells, if_pos ⟨rfl, rfl, hr2⟩])
    (fun i j h => Or.inl (by rw [setDirty_false_cells, if_neg (fun h' => h ⟨h'.1, h'.2.1⟩)]))
    (fun hw => by
      -- a two-column text means a wide rune at `p`, whose hidden right half the pass left marked dirty
      have hle : ¬ ((s.cornerS2 x y p).cells.getContent p y).2.2.2 ≤ 1 := fun h => by
        rw [show ((s.cornerS2 x y p).txAt c p y).2 = 1 from cellTextG_narrow _ _ _ _ _ _ _ h] at hw; omega
      rw [hrel2.getContent hrw inv.wok, ← hpw] at hle
      rw [hc3, if_neg (by omega)]; exact hpnb (by omega))
  rw [show s.visit c x y =
      ({ ((s.cornerS2 x y p).drawCellPlain c p y).1 with cx := 0, cy := 0 },
       [Cmd.goto (x - 1) y] ++ (s.paint c x y).2.1 ++ [.goto (x - 1) y, .insertChar] ++
         ((s.cornerS2 x y p).drawCellPlain c p y).2.1 ++ [.goto 0 0], 1) by
    have hrel1 : ScrRel s { s with cells := s.cells.setDirty x y false } :=
      ScrRel.setDirty s _ x y false rfl rfl rfl rfl rfl rfl ⟨rfl, rfl, rfl, rfl⟩
    have hpxeq : Scr.coverStart (s.cells.setDirty x y false) y x.toNat 0 x = p := by
      rw [coverStart_congr s.cells _ y (fun i => hrel1.getContent hrw inv.wok i y)]; exact hcsp
    have hpaintw : (s.paint c x y).2.2 = 1 := by rw [Scr.paint_eq]; exact txAt_last_col c s x y hx (hul _)
    simp only [Scr.visit, Scr.drawCell_corner c s x y p hd hcor hpxeq, hpaintw]
    rw [if_neg (by omega)]] at hrel ⊢
  simp only at hrel ⊢
  rw [applyAll_append, applyAll_append, hterm1, applyAll_drawCellPlain inv2 hr2 hd2]
  rw [Scr.drawCellPlain_dirty c _ p y hd2] at hrel ⊢
  simp only at hrel ⊢
  generalize (s.cornerS2 x y p).txAt c p y = tx3 at inv3 hrel ⊢
  generalize resolveStyle (s.cornerS2 x y p).style ((s.cornerS2 x y p).cells.getContent p y).2.2.1 = st3 at inv3 hrel ⊢
  generalize ht3 : ({ tC with cur := some (p, y), pen := some st3 } : ATerm).putAt p y tx3.1 tx3.2 st3 = t3 at inv3 ⊢
  have ht3d : t3.w = s.w ∧ t3.h = s.h := ⟨inv3.tw, inv3.th⟩
  have ht3l : t3.writes = (p, y) :: l ++ t.writes ∧ t3.visible = t.visible ∧ t3.shape = t.shape ∧
      ∃ l3, t3.covered = l3 ++ l ++ t.covered ∧ ∀ q ∈ l3, q.2 = y := by
    rw [← ht3]
    refine ⟨by simp [hl1], by simp [hCv.1], by simp [hCv.2], ?_⟩
    obtain ⟨l3, h3, hm⟩ := ATerm.putAt_covered_mem { tC with cur := some (p, y), pen := some st3 } p y tx3.1 tx3.2 st3
    exact ⟨l3, by rw [h3, List.append_assoc]; exact congrArg _ hl2, fun q hq => by rcases hm q hq with rfl | ⟨rfl, _⟩ <;> rfl⟩
  rw [show t3.applyAll [Cmd.goto 0 0] = { t3 with cur := some (0, 0) } from
    apply_goto t3 (by omega) (by omega)]
  have hstep1 : 1 ≤ stepW c s.cells x y := by
    have := getContent_width hrw s.cells x y hr (inv.wok x y); unfold stepW; split <;> omega
  refine { hrel.frame hrw inv.wok with
           inv := ?_, wd_pos := by omega, wd_eq := Or.inr ⟨by omega, by omega⟩, other_same := ?_, done := ?_, writes := ?_,
           covers := ?_, vis_same := ⟨ht3l.2.1, ht3l.2.2.1⟩, nb := fun h => by omega }
  · refine { toSyncInv := inv3.toSyncInv.congr rfl rfl rfl rfl rfl rfl rfl, kcur := fun _ => rfl, kpen := inv3.kpen,
             q := ?_, dcompat := inv3.dcompat }
    intro _ h2; exfalso; exact absurd h2 (by show ¬ x + 1 < s.w; omega)
  · intro i j hne; simp only; rw [hc3, if_neg (by omega)]
  · intro _; simp only; rw [hc3, if_pos ⟨rfl, rfl⟩]
    exact ⟨Cell.markClean_lastMain_ne _, by simp⟩
  · -- payload goes to `p`, found by the `px` loop, and to the last two columns
    refine ⟨(p, y) :: l, by simp [ht3l.1], fun h => by rw [hd] at h; exact absurd h (by decide), ?_⟩
    intro q hq
    rcases List.mem_cons.1 hq with hq | hq
    · right; rw [hq]; exact ⟨hcor.2.2, hy, hx, rfl, Or.inr hcsp.symm⟩
    · obtain ⟨q1, q2, q3⟩ := hl3 q hq
      by_cases hqx : q.1 = x
      · left; exact Prod.ext hqx q1
      · right; exact ⟨hcor.2.2, hy, hx, q1, Or.inl (by omega)⟩
  · obtain ⟨l3, h1, h2⟩ := ht3l.2.2.2
    refine ⟨l3 ++ l, by simp [h1], fun _ q hq => ?_⟩
    have : q.2 = y := by
      rcases List.mem_append.1 hq with hq | hq
      · exact h2 q hq
      · exact (hl3 q hq).1
    rw [this]; exact hul _

end Tcell
