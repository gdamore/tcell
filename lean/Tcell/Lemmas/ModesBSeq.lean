/-
Layer B of C04, part 2: the control sequences the mode path of the built-in terminal descriptions is made of, as
*tokens* (`Tok`), each with its bytes, a well-formedness test and its effect on the emulator's mode registers given
as DATA (`Eff`: per-register assignments, colour reset, title-stack operations) — and the proof (`Tok.sim`) that the
reference emulator, in ANY state whose parser is in the ground state, fed the token's bytes, ends in the ground state
with exactly that effect on its registers.  `toks_sim` composes over token lists (`feed_append`).
`tokenize` is an (untrusted) parser from bytes to tokens: users re-check `toks l = s` and `l.all Tok.wf` by evaluation.
-/
import Tcell.Lemmas.ModesBEmu
import Tcell.Gen.TerminfoStruct
namespace Tcell.ModesB
open Tcell Tcell.Spec.Ecma48 Tcell.Spec.Ecma48.Term

inductive TOp where
  | push | pop
deriving DecidableEq, Repr

/-- an effect on the mode registers: `some b` assigns, `none` leaves alone -/
structure Eff where
  alt : Option Bool := none
  cv : Option Bool := none
  kp : Option Bool := none
  ck : Option Bool := none
  ss : Option Bool := none
  am : Option Bool := none
  m1000 : Option Bool := none
  m1002 : Option Bool := none
  m1003 : Option Bool := none
  m1006 : Option Bool := none
  paste : Option Bool := none
  focus : Option Bool := none
  shape : Option Nat := none
  colorReset : Bool := false
  ttl : List TOp := []
deriving DecidableEq, Repr

def runTtl (m : MR) : List TOp → MR
  | [] => m
  | .push :: r => runTtl m.push r
  | .pop :: r => runTtl m.pop r

/-- the part of an effect that is not about the title stack -/
def Eff.base (e : Eff) (m : MR) : MR :=
  { m with alt := e.alt.getD m.alt, cv := e.cv.getD m.cv, kpApp := e.kp.getD m.kpApp, ckApp := e.ck.getD m.ckApp,
           smooth := e.ss.getD m.smooth, am := e.am.getD m.am, m1000 := e.m1000.getD m.m1000, m1002 := e.m1002.getD m.m1002,
           m1003 := e.m1003.getD m.m1003, m1006 := e.m1006.getD m.m1006, paste := e.paste.getD m.paste,
           focus := e.focus.getD m.focus, shape := e.shape.getD m.shape,
           color := if e.colorReset then none else m.color, colorName := if e.colorReset then "" else m.colorName }

def Eff.apply (e : Eff) (m : MR) : MR := runTtl (e.base m) e.ttl

/-- `a` then `b` -/
def Eff.seq (a b : Eff) : Eff :=
  { alt := b.alt.orElse fun _ => a.alt, cv := b.cv.orElse fun _ => a.cv, kp := b.kp.orElse fun _ => a.kp,
    ck := b.ck.orElse fun _ => a.ck, ss := b.ss.orElse fun _ => a.ss, am := b.am.orElse fun _ => a.am,
    m1000 := b.m1000.orElse fun _ => a.m1000, m1002 := b.m1002.orElse fun _ => a.m1002,
    m1003 := b.m1003.orElse fun _ => a.m1003, m1006 := b.m1006.orElse fun _ => a.m1006,
    paste := b.paste.orElse fun _ => a.paste, focus := b.focus.orElse fun _ => a.focus,
    shape := b.shape.orElse fun _ => a.shape, colorReset := a.colorReset || b.colorReset, ttl := a.ttl ++ b.ttl }

theorem getD_orElse {α : Type} (a b : Option α) (d : α) : (b.orElse fun _ => a).getD d = b.getD (a.getD d) := by
  cases b <;> simp [Option.orElse]

theorem base_push (e : Eff) (m : MR) : (e.base m).push = e.base m.push := rfl
theorem base_pop (e : Eff) (m : MR) : (e.base m).pop = e.base m.pop := by
  unfold MR.pop
  cases h : m.tstack with
  | nil => simp [Eff.base, h]
  | cons s r => simp [Eff.base, h]

theorem runTtl_base (e : Eff) (l : List TOp) (m : MR) : runTtl (e.base m) l = e.base (runTtl m l) := by
  induction l generalizing m with
  | nil => rfl
  | cons o r ih =>
    cases o
    · simp only [runTtl]; rw [base_push, ih]
    · simp only [runTtl]; rw [base_pop, ih]

theorem runTtl_append (l1 l2 : List TOp) (m : MR) : runTtl m (l1 ++ l2) = runTtl (runTtl m l1) l2 := by
  induction l1 generalizing m with
  | nil => rfl
  | cons o r ih => cases o <;> simp only [List.cons_append, runTtl, ih]

theorem base_base (a b : Eff) (m : MR) : b.base (a.base m) = (a.seq b).base m := by
  cases hc1 : a.colorReset <;> cases hc2 : b.colorReset <;> simp [Eff.base, Eff.seq, hc1, hc2]

theorem seq_ttl (a b : Eff) : (a.seq b).ttl = a.ttl ++ b.ttl := rfl

theorem Eff.seq_apply (a b : Eff) (m : MR) : (a.seq b).apply m = b.apply (a.apply m) := by
  unfold Eff.apply
  rw [seq_ttl, runTtl_append, ← base_base, runTtl_base b a.ttl]

@[simp] theorem Eff.id_apply (m : MR) : ({} : Eff).apply m = m := rfl

def Eff.seqAll (l : List Eff) : Eff := l.foldl Eff.seq {}

/-- from ANY emulator state with the parser in the ground state, the string leaves the parser in the ground state
    and changes the mode registers by `f` -/
def Sim (s : Bytes) (f : MR → MR) : Prop :=
  ∀ t : Term, t.st = .ground → (t.feed s).st = .ground ∧ mr (t.feed s) = f (mr t)

theorem Sim.nil : Sim [] id := fun _ h => ⟨h, rfl⟩

theorem Sim.append {s1 s2 : Bytes} {f1 f2 : MR → MR} (h1 : Sim s1 f1) (h2 : Sim s2 f2) : Sim (s1 ++ s2) (f2 ∘ f1) := by
  intro t hst
  obtain ⟨a1, a2⟩ := h1 t hst
  obtain ⟨b1, b2⟩ := h2 _ a1
  rw [← feed_append]
  exact ⟨b1, by rw [b2, a2]; rfl⟩

theorem Sim.congr {s : Bytes} {f g : MR → MR} (h : Sim s f) (e : ∀ m, f m = g m) : Sim s g :=
  fun t hst => ⟨(h t hst).1, by rw [(h t hst).2, e]⟩

theorem Sim.of_keep {s : Bytes} (h : ∀ t : Term, t.st = .ground → Keep t (t.feed s)) : Sim s id :=
  fun t hst => ⟨(h t hst).1.trans hst, (h t hst).2⟩

inductive Tok where
  | decset (n : Nat)          -- CSI ? n h
  | decrst (n : Nat)          -- CSI ? n l
  | escEq | escGt             -- ESC =  ESC >   (DECKPAM / DECKPNM)
  | esc7 | esc8               -- DECSC / DECRC
  | push0 | pop0              -- CSI 22;0;0 t   CSI 23;0;0 t
  | push2 | pop2              -- CSI 22;2 t     CSI 23;2 t
  | xtTitle                   -- CSI > 2 t
  | scusr (n : Nat)           -- CSI n SP q, n ≤ 6
  | osc112                    -- OSC 112 BEL
  | osc8close                 -- OSC 8 ; ; ST
  | csi (body : Bytes) (final : Nat)   -- any plain CSI sequence but `t`: SGR, CUP, ED, SM/RM, `CSI r` …
  | g0B | g1acs               -- ESC ( B   ESC ) 0
  | si | bel | ff             -- 0x0f 0x07 0x0c
  | linuxCur (n : Nat)        -- CSI ? n c
  | decsca                    -- CSI " q
  | print (b : Nat)           -- one printable ASCII byte
deriving DecidableEq, Repr

def Tok.bytes : Tok → Bytes
  | .decset n => csiSeq (0x3f :: dec n) 0x68
  | .decrst n => csiSeq (0x3f :: dec n) 0x6c
  | .escEq => [27, 61] | .escGt => [27, 62] | .esc7 => [27, 55] | .esc8 => [27, 56]
  | .push0 => [27, 91, 50, 50, 59, 48, 59, 48, 116]
  | .pop0 => [27, 91, 50, 51, 59, 48, 59, 48, 116]
  | .push2 => [27, 91, 50, 50, 59, 50, 116]
  | .pop2 => [27, 91, 50, 51, 59, 50, 116]
  | .xtTitle => [27, 91, 62, 50, 116]
  | .scusr n => [27, 91, 48 + n, 32, 113]
  | .osc112 => [27, 93, 49, 49, 50, 7]
  | .osc8close => [27, 93, 56, 59, 59, 27, 92]
  | .csi body final => csiSeq body final
  | .g0B => [27, 40, 66] | .g1acs => [27, 41, 48]
  | .si => [15] | .bel => [7] | .ff => [12]
  | .linuxCur n => csiSeq (0x3f :: dec n) 0x63
  | .decsca => [27, 91, 34, 113]
  | .print b => [b]

def numByte (b : Nat) : Bool := (decide (48 ≤ b) && decide (b ≤ 57)) || b == 0x3b || b == 0x3a

def Tok.wf : Tok → Bool
  | .scusr n => decide (n < 7)
  | .csi body final => body.all numByte && (parseParams body).isSome && decide (0x40 ≤ final) && decide (final ≤ 0x7e) &&
      decide (final ≠ 0x74)
  | .print b => decide (0x20 ≤ b) && decide (b < 0x7f)
  | _ => true

def decEff (n : Nat) (on : Bool) : Eff :=
  if n = 1 then { ck := some on }
  else if n = 4 then { ss := some on }
  else if n = 7 then { am := some on }
  else if n = 25 then { cv := some on }
  else if n = 47 ∨ n = 1049 then { alt := some on }
  else if n = 1000 then { m1000 := some on }
  else if n = 1002 then { m1002 := some on }
  else if n = 1003 then { m1003 := some on }
  else if n = 1004 then { focus := some on }
  else if n = 1006 then { m1006 := some on }
  else if n = 2004 then { paste := some on }
  else {}

def Tok.eff : Tok → Eff
  | .decset n => decEff n true
  | .decrst n => decEff n false
  | .escEq => { kp := some true }
  | .escGt => { kp := some false }
  | .push0 | .push2 => { ttl := [.push] }
  | .pop0 | .pop2 => { ttl := [.pop] }
  | .scusr n => { shape := some n }
  | .osc112 => { colorReset := true }
  | _ => {}

/-- DECSET / DECRST of one private mode on the registers: the effect `decEff` names (mode 12, cursor blink, and unknown
    modes touch no register; 47 and 1049 differ in what they do to grid and cursor only) -/
theorem mr_decMode (t : Term) (n : Nat) (on : Bool) : mr (t.decMode n on) = (decEff n on).apply (mr t) := by
  by_cases h1 : n = 1
  · subst h1; rfl
  by_cases h4 : n = 4
  · subst h4; rfl
  by_cases h7 : n = 7
  · subst h7; rfl
  by_cases h12 : n = 12
  · subst h12; rfl
  by_cases h25 : n = 25
  · subst h25; rfl
  by_cases h47 : n = 47
  · subst h47
    cases on <;> cases ha : t.modes.altScreen <;> simp [decMode, ha, swapScreens] <;>
      simp [mr, decEff, Eff.apply, Eff.base, runTtl, ha]
  by_cases h1049 : n = 1049
  · subst h1049
    cases on <;> cases ha : t.modes.altScreen <;> simp [decMode, ha] <;>
      simp [mr, decEff, Eff.apply, Eff.base, runTtl, ha, swapScreens, saveCursor, restoreCursor, eraseAll]
  by_cases h1000 : n = 1000
  · subst h1000; rfl
  by_cases h1002 : n = 1002
  · subst h1002; rfl
  by_cases h1003 : n = 1003
  · subst h1003; rfl
  by_cases h1004 : n = 1004
  · subst h1004; rfl
  by_cases h1006 : n = 1006
  · subst h1006; rfl
  by_cases h2004 : n = 2004
  · subst h2004; rfl
  have h : ¬ (n = 47 ∨ n = 1049) := by omega
  unfold decMode decEff
  simp only [if_neg h1, if_neg h4, if_neg h7, if_neg h12, if_neg h25, if_neg h47, if_neg h1049, if_neg h, if_neg h1000,
    if_neg h1002, if_neg h1003, if_neg h1004, if_neg h1006, if_neg h2004]
  rfl

theorem esc_byte (t : Term) (hst : t.st = .ground) : t.feedByte 0x1b = { t with st := .esc } := by
  simp [feedByte, hst, feedGround, c0]

theorem sim_decMode (n : Nat) (on : Bool) :
    Sim (csiSeq (0x3f :: dec n) (if on then 0x68 else 0x6c)) (decEff n on).apply := by
  intro t hst
  have e : t.feed (csiSeq (0x3f :: dec n) (if on then 0x68 else 0x6c)) = t.decMode n on := by
    cases on
    · exact decrst_effect t hst n
    · exact decset_effect t hst n
  rw [e, decMode_st, mr_decMode]
  exact ⟨hst, rfl⟩

/-- `ESC =` / `ESC >` -/
theorem sim_keypad (on : Bool) : Sim [27, if on then 61 else 62] (Eff.apply { kp := some on }) := by
  intro t hst
  have e : t.feed [27, if on then 61 else 62] = { t with modes := { t.modes with keypadApp := on } } := by
    simp only [feed_cons, feed_nil, esc_byte t hst]
    cases on <;> simp [feedByte, feedEsc, hst]
  rw [e]; exact ⟨hst, rfl⟩

theorem sim_esc7 : Sim [27, 55] id := by
  intro t hst
  have e : t.feed [27, 55] = t.saveCursor := by
    have e2 : ({ t with st := .esc } : Term).feedByte 55 = ({ t with st := .ground } : Term).saveCursor := by
      simp [feedByte, feedEsc]
    simp only [feed_cons, feed_nil, esc_byte t hst, e2, with_ground t hst]
  rw [e]; exact ⟨hst, rfl⟩

theorem sim_esc8 : Sim [27, 56] id := by
  intro t hst
  have e : t.feed [27, 56] = t.restoreCursor := by
    have e2 : ({ t with st := .esc } : Term).feedByte 56 = ({ t with st := .ground } : Term).restoreCursor := by
      simp [feedByte, feedEsc]
    simp only [feed_cons, feed_nil, esc_byte t hst, e2, with_ground t hst]
  rw [e]; exact ⟨hst, rfl⟩

theorem feed_plain (t : Term) (hst : t.st = .ground) (body : List Nat) (final : Nat) (ps : List Param)
    (hbody : body.all numByte = true) (hfinal : 0x40 ≤ final ∧ final ≤ 0x7e) (hps : parseParams body = some ps) :
    t.feed (csiSeq body final) = dispatchPlain t ps final := by
  refine feed_csi_plain t hst body final ps ?_ hfinal hps
  intro b hb
  have := List.all_eq_true.mp hbody b hb
  simp only [numByte, Bool.or_eq_true, Bool.and_eq_true, decide_eq_true_eq, beq_iff_eq] at this
  rcases this with (h | h) | h
  · exact Or.inl h
  · exact Or.inr (Or.inl h)
  · exact Or.inr (Or.inr h)

/-- the window operations that save / restore the title: `CSI 22 ; … t`, `CSI 23 ; … t` -/
theorem sim_winTitle (body : Bytes) (ps : List Param) (push : Bool) (hb : body.all numByte = true)
    (hp : parseParams body = some ps) (hw : ∀ t : Term, windowOp t ps = if push then t.pushTitle else t.popTitle) :
    Sim (csiSeq body 0x74) (Eff.apply { ttl := [if push then .push else .pop] }) := by
  intro t hst
  rw [feed_plain t hst body 0x74 ps hb (by omega) hp]
  have e : dispatchPlain t ps 0x74 = windowOp t ps := by simp [dispatchPlain]
  rw [e, hw]
  cases push
  · rw [if_neg (by simp), st_popTitle, mr_popTitle]; exact ⟨hst, rfl⟩
  · exact ⟨hst, rfl⟩

theorem feed_csi_list (t : Term) (hst : t.st = .ground) (body : List Nat) (final : Nat)
    (hbody : body.all (fun b => decide (0x20 ≤ b) && decide (b ≤ 0x3f)) = true) (hfinal : 0x40 ≤ final ∧ final ≤ 0x7e) :
    t.feed (csiSeq body final) = dispatchCsi t body final := by
  refine feed_csi t hst body final ?_ hfinal
  intro b hb
  have := List.all_eq_true.mp hbody b hb
  simpa using this

theorem sim_xtTitle : Sim [27, 91, 62, 50, 116] id := by
  intro t hst
  have := feed_csi_list t hst [62, 50] 0x74 (by decide) (by omega)
  simp only [csiSeq, List.cons_append, List.nil_append] at this
  rw [this]
  have hp : parseCsiBody [62, 50] = some { priv := 62, params := [[some 2]], inter := [] } := by decide
  have e : dispatchCsi t [62, 50] 0x74 = { t with modes := { t.modes with titleModes2 := true } } := by
    simp [dispatchCsi, hp]
  rw [e]; exact ⟨hst, rfl⟩

theorem sim_decsca : Sim [27, 91, 34, 113] id := by
  intro t hst
  have := feed_csi_list t hst [34] 0x71 (by decide) (by omega)
  simp only [csiSeq, List.cons_append, List.nil_append] at this
  rw [this]
  have hp : parseCsiBody [34] = some { priv := 0, params := [[none]], inter := [34] } := by decide
  have e : dispatchCsi t [34] 0x71 = t := by
    simp [dispatchCsi, hp, flat, arg]
  rw [e]; exact ⟨hst, rfl⟩

theorem sim_scusr (n : Nat) (hn : n < 7) : Sim [27, 91, 48 + n, 32, 113] (Eff.apply { shape := some n }) := by
  intro t hst
  have := feed_csi_list t hst [48 + n, 32] 0x71 (by
    simp only [List.all_cons, List.all_nil, Bool.and_true, Bool.and_eq_true, decide_eq_true_eq]; omega) (by omega)
  simp only [csiSeq, List.cons_append, List.nil_append] at this
  rw [this]
  have hp : parseCsiBody [48 + n, 32] = some { priv := 0, params := [[some n]], inter := [32] } := by
    have : n = 0 ∨ n = 1 ∨ n = 2 ∨ n = 3 ∨ n = 4 ∨ n = 5 ∨ n = 6 := by omega
    rcases this with rfl | rfl | rfl | rfl | rfl | rfl | rfl <;> decide
  have hn' : n ≤ 6 := by omega
  have e : dispatchCsi t [48 + n, 32] 0x71 = { t with modes := { t.modes with cursorShape := n } } := by
    simp [dispatchCsi, hp, flat, arg, hn']
  rw [e]; exact ⟨hst, rfl⟩

theorem sim_osc112 : Sim [27, 93, 49, 49, 50, 7] (Eff.apply { colorReset := true }) := by
  intro t hst
  have := feed_osc_bel t hst [49, 49, 50] (by
    intro b hb
    simp only [List.mem_cons, List.not_mem_nil, or_false] at hb
    rcases hb with h | h | h <;> subst h <;> simp)
  simp only [List.cons_append, List.nil_append] at this
  rw [this]
  have h1 : splitFirst [49, 49, 50] = ([49, 49, 50], none) := by decide
  have e : dispatchOsc t [49, 49, 50] = { t with modes := { t.modes with cursorColor := none, cursorColorName := "" } } := by
    simp [dispatchOsc, h1, isDigit, parseNat]
  rw [e]; exact ⟨hst, rfl⟩

theorem sim_osc8close : Sim [27, 93, 56, 59, 59, 27, 92] id := by
  intro t hst
  rw [osc8_close_effect t hst]; exact ⟨hst, rfl⟩

theorem sim_csi (body : Bytes) (final : Nat) (h : (Tok.csi body final).wf = true) : Sim (csiSeq body final) id := by
  simp only [Tok.wf, Bool.and_eq_true, decide_eq_true_eq] at h
  obtain ⟨⟨⟨⟨h1, h2⟩, h3⟩, h4⟩, h5⟩ := h
  obtain ⟨ps, hps⟩ := Option.isSome_iff_exists.mp h2
  refine Sim.of_keep fun t hst => ?_
  rw [feed_plain t hst body final ps h1 ⟨h3, h4⟩ hps]
  exact keep_dispatchPlain t ps final h5

theorem sim_g0B : Sim [27, 40, 66] id := by
  intro t hst
  have e : t.feed [27, 40, 66] = { t with modes := { t.modes with acsG0 := false } } := by
    simp only [feed_cons, feed_nil, esc_byte t hst]
    simp [feedByte, feedEsc, feedEscInter, hst]
  rw [e]; exact ⟨hst, rfl⟩

theorem sim_g1acs : Sim [27, 41, 48] id := by
  intro t hst
  have e : t.feed [27, 41, 48] = { t with modes := { t.modes with acsG1 := true } } := by
    simp only [feed_cons, feed_nil, esc_byte t hst]
    simp [feedByte, feedEsc, feedEscInter, hst]
  rw [e]; exact ⟨hst, rfl⟩

theorem sim_si : Sim [15] id := by
  intro t hst
  have e : t.feed [15] = { t with modes := { t.modes with shiftOut := false } } := by
    simp [feedByte, hst, feedGround, c0]
  rw [e]; exact ⟨hst, rfl⟩

theorem sim_bel : Sim [7] id := by
  intro t hst
  have e : t.feed [7] = { t with modes := { t.modes with bells := t.modes.bells + 1 } } := by
    simp [feedByte, hst, feedGround, c0]
  rw [e]; exact ⟨hst, rfl⟩

theorem sim_ff : Sim [12] id := by
  refine Sim.of_keep fun t hst => ?_
  have e : t.feed [12] = if t.cfg.ffClears = true then t.clearHome else t.complain ("c0 " ++ hex2 12) := by
    simp [feedByte, hst, feedGround, c0]
  rw [e]; split
  · exact ⟨rfl, rfl⟩
  · exact keep_complain _ _

theorem sim_linuxCur (n : Nat) : Sim (csiSeq (0x3f :: dec n) 0x63) id := by
  intro t hst
  have hps : parseParams (dec n) = some [[some n]] := by
    rw [parseParams_last _ (semi_not_mem_dec _), parseParam_dec]; rfl
  rw [feed_csi t hst _ 0x63 (fun b hb => by
    rcases List.mem_cons.mp hb with h | h
    · omega
    · have := dec_digits n b h; omega) (by omega)]
  have e : dispatchCsi t (0x3f :: dec n) 0x63 = { t with modes := { t.modes with linuxCursor := [n] } } := by
    simp [dispatchCsi, parseCsiBody_private _ (numeric_dec n), hps, flat]
  rw [e]; exact ⟨hst, rfl⟩

theorem sim_print (b : Nat) (h : (Tok.print b).wf = true) : Sim [b] id := by
  simp only [Tok.wf, Bool.and_eq_true, decide_eq_true_eq] at h
  refine Sim.of_keep fun t hst => ?_
  have h1 : ¬ b < 0x20 := by omega
  have h2 : b ≠ 0x7f := by omega
  have h3 : b < 0x80 := by omega
  have e : t.feed [b] = t.printByte b := by simp [feedByte, hst, feedGround, h1, h2, h3]
  rw [e]; exact keep_printByte t b

/-- **every well-formed token does to the emulator's mode registers what its `Eff` says, from any ground state** -/
theorem Tok.sim (k : Tok) (h : k.wf = true) : Sim k.bytes k.eff.apply := by
  cases k with
  | decset n => exact sim_decMode n true
  | decrst n => exact sim_decMode n false
  | escEq => exact sim_keypad true
  | escGt => exact sim_keypad false
  | esc7 => exact sim_esc7
  | esc8 => exact sim_esc8
  | push0 => exact sim_winTitle [50, 50, 59, 48, 59, 48] [[some 22], [some 0], [some 0]] true (by decide) (by decide) (fun _ => rfl)
  | pop0 => exact sim_winTitle [50, 51, 59, 48, 59, 48] [[some 23], [some 0], [some 0]] false (by decide) (by decide) (fun _ => rfl)
  | push2 => exact sim_winTitle [50, 50, 59, 50] [[some 22], [some 2]] true (by decide) (by decide) (fun _ => rfl)
  | pop2 => exact sim_winTitle [50, 51, 59, 50] [[some 23], [some 2]] false (by decide) (by decide) (fun _ => rfl)
  | xtTitle => exact sim_xtTitle
  | scusr n => exact sim_scusr n (by simpa [Tok.wf] using h)
  | osc112 => exact sim_osc112
  | osc8close => exact sim_osc8close
  | csi body final => exact sim_csi body final h
  | g0B => exact sim_g0B
  | g1acs => exact sim_g1acs
  | si => exact sim_si
  | bel => exact sim_bel
  | ff => exact sim_ff
  | linuxCur n => exact sim_linuxCur n
  | decsca => exact sim_decsca
  | print b => exact sim_print b h

def toks (l : List Tok) : Bytes := l.flatMap Tok.bytes
def effOf (l : List Tok) : Eff := l.foldl (fun (e : Eff) (k : Tok) => e.seq k.eff) {}

theorem foldl_seq_apply (l : List Tok) (e : Eff) (m : MR) :
    (l.foldl (fun (e : Eff) (k : Tok) => e.seq k.eff) e).apply m = (l.foldl (fun (e : Eff) (k : Tok) => e.seq k.eff) {}).apply (e.apply m) := by
  induction l generalizing e m with
  | nil => rfl
  | cons k r ih =>
    simp only [List.foldl_cons]
    rw [ih (e.seq k.eff), ih (Eff.seq {} k.eff), Eff.seq_apply, Eff.seq_apply]
    rfl

theorem toks_sim : ∀ (l : List Tok), l.all Tok.wf = true → Sim (toks l) (effOf l).apply := by
  intro l
  induction l with
  | nil => intro _; exact Sim.nil
  | cons k r ih =>
    intro h
    simp only [List.all_cons, Bool.and_eq_true] at h
    have h1 := Tok.sim k h.1
    have h2 := ih h.2
    have : toks (k :: r) = k.bytes ++ toks r := by simp [toks]
    rw [this]
    refine (h1.append h2).congr fun m => ?_
    show (effOf r).apply (k.eff.apply m) = (effOf (k :: r)).apply m
    unfold effOf
    rw [List.foldl_cons, foldl_seq_apply r (Eff.seq {} k.eff), Eff.seq_apply]
    rfl

def pbyte (b : Nat) : Bool := decide (0x20 ≤ b) && decide (b ≤ 0x3f)

def tokCsi (body : Bytes) (final : Nat) : Option Tok :=
  match body with
  | 63 :: ds =>
    if ds.all isDigit && !ds.isEmpty then
      (if final = 104 then some (.decset (parseNat ds)) else if final = 108 then some (.decrst (parseNat ds))
       else if final = 99 then some (.linuxCur (parseNat ds)) else none)
    else none
  | _ =>
    if body = [62, 50] then (if final = 116 then some .xtTitle else none)
    else if body = [34] then (if final = 113 then some .decsca else none)
    else if body.length = 2 ∧ body.getD 1 0 = 32 then
      (if final = 113 then some (.scusr (body.getD 0 0 - 48)) else none)
    else if final = 116 then
      (if body = [50, 50, 59, 48, 59, 48] then some .push0 else if body = [50, 51, 59, 48, 59, 48] then some .pop0
       else if body = [50, 50, 59, 50] then some .push2 else if body = [50, 51, 59, 50] then some .pop2 else none)
    else some (.csi body final)

def tokenizeAux : Nat → Bytes → Option (List Tok)
  | _, [] => some []
  | 0, _ => none
  | f + 1, b :: rest =>
    if b = 27 then
      match rest with
      | 91 :: r =>
        (match r.dropWhile pbyte with
         | final :: r' => (tokCsi (r.takeWhile pbyte) final).bind fun k => (tokenizeAux f r').map (k :: ·)
         | [] => none)
      | 93 :: 49 :: 49 :: 50 :: 7 :: r => (tokenizeAux f r).map (Tok.osc112 :: ·)
      | 93 :: 56 :: 59 :: 59 :: 27 :: 92 :: r => (tokenizeAux f r).map (Tok.osc8close :: ·)
      | 61 :: r => (tokenizeAux f r).map (Tok.escEq :: ·)
      | 62 :: r => (tokenizeAux f r).map (Tok.escGt :: ·)
      | 55 :: r => (tokenizeAux f r).map (Tok.esc7 :: ·)
      | 56 :: r => (tokenizeAux f r).map (Tok.esc8 :: ·)
      | 40 :: 66 :: r => (tokenizeAux f r).map (Tok.g0B :: ·)
      | 41 :: 48 :: r => (tokenizeAux f r).map (Tok.g1acs :: ·)
      | _ => none
    else if b = 15 then (tokenizeAux f rest).map (Tok.si :: ·)
    else if b = 7 then (tokenizeAux f rest).map (Tok.bel :: ·)
    else if b = 12 then (tokenizeAux f rest).map (Tok.ff :: ·)
    else if 0x20 ≤ b ∧ b < 0x7f then (tokenizeAux f rest).map (Tok.print b :: ·)
    else none

def tokenize (s : Bytes) : Option (List Tok) := tokenizeAux (s.length + 1) s

/-- the checked result of tokenizing: `some e` only if the string IS a list of well-formed tokens with total effect `e` -/
def effOfBytes (s : Bytes) : Option Eff :=
  match tokenize s with
  | some l => if toks l == s && l.all Tok.wf then some (effOf l) else none
  | none => none

theorem effOfBytes_sim (s : Bytes) (e : Eff) (h : effOfBytes s = some e) : Sim s e.apply := by
  unfold effOfBytes at h
  split at h
  · rename_i l _
    split at h
    · rename_i hc
      simp only [Bool.and_eq_true, beq_iff_eq] at hc
      cases h
      rw [← hc.1]
      exact toks_sim l hc.2
    · cases h
  · cases h

end Tcell.ModesB
