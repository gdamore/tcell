/-
Helper lemmas for C20 (ViewPort steps and the BoxLayout share computation).
-/
import Tcell.Model.Views
namespace Tcell.Views
namespace ViewPort

/-! ### the steps of a ViewPort, one axis at a time

Each step touches the fields of one axis only; what it does there is a function of three or four integers. -/

/-- ValidateView on one axis (view.go:148-166): the offset of a window of extent `size` over content of extent `lim` -/
def clampOff (off size lim : Int) : Int :=
  let a := if off > lim - size then lim - size else off
  if a < 0 then 0 else a

/-- MakeVisible on one axis (view.go:131-142), before ValidateView -/
def mvOff (off size lim x : Int) : Int :=
  let a := if x < lim ∧ x ≥ off + size then x - (size - 1) else off
  if x ≥ 0 ∧ x < a then x else a

/-- Resize on one axis (view.go:257-277): origin `o` and extent `len` requested inside a parent of extent `p` -/
def resizeOrg (p o old : Int) : Int := if o ≥ 0 ∧ o < p then o else old
def resizeLen (p o len : Int) : Int := if len < 0 ∨ len > p - o then p - o else len

theorem validateViewX_eq (v : ViewPort) : v.validateViewX = { v with viewx := clampOff v.viewx v.width v.limx } := by
  simp only [validateViewX, clampOff]; split <;> split <;> rfl

theorem validateViewY_eq (v : ViewPort) : v.validateViewY = { v with viewy := clampOff v.viewy v.height v.limy } := by
  simp only [validateViewY, clampOff]; split <;> split <;> rfl

theorem mvX_eq (v : ViewPort) (x : Int) : v.mvX x = { v with viewx := mvOff v.viewx v.width v.limx x } := by
  simp only [mvX, mvOff]; split <;> split <;> rfl

theorem mvY_eq (v : ViewPort) (y : Int) : v.mvY y = { v with viewy := mvOff v.viewy v.height v.limy y } := by
  simp only [mvY, mvOff]; split <;> split <;> rfl

theorem grow_eq (v : ViewPort) (x y : Int) :
    v.grow x y = { v with limx := if x > v.limx ∧ !v.locked then x else v.limx,
                          limy := if y > v.limy ∧ !v.locked then y else v.limy } := by
  simp only [grow]; split <;> split <;> rfl

theorem resize_eq (v : ViewPort) (hv : v.hasView = true) (px py x y w h : Int) :
    v.resize px py x y w h = { v with physx := resizeOrg px x v.physx, physy := resizeOrg py y v.physy,
                                      width := resizeLen px x w, height := resizeLen py y h } := by
  simp only [resize, hv, Bool.not_true, Bool.false_eq_true, if_false, resizeOrg, resizeLen]

section proj
variable (v : ViewPort) (x y : Int)

@[simp] theorem grow_hasView : (v.grow x y).hasView = v.hasView := by rw [grow_eq]
@[simp] theorem vx_physx : v.validateViewX.physx = v.physx := by rw [validateViewX_eq]
@[simp] theorem vx_physy : v.validateViewX.physy = v.physy := by rw [validateViewX_eq]
@[simp] theorem vy_physx : v.validateViewY.physx = v.physx := by rw [validateViewY_eq]
@[simp] theorem vy_physy : v.validateViewY.physy = v.physy := by rw [validateViewY_eq]
end proj

theorem resizeLen_nonneg {p o len : Int} (h : 0 ≤ len) :
    resizeLen p o len = if len > p - o then p - o else len := by
  simp only [resizeLen]; split <;> split <;> omega

theorem resizeLen_full (p : Int) : resizeLen p 0 p = p := by
  simp only [resizeLen]; split <;> omega

theorem resizeOrg_inside {p o : Int} (old : Int) (h0 : 0 ≤ o) (hp : o < p) : resizeOrg p o old = o := by
  simp only [resizeOrg, h0, hp, and_self, if_true]

end ViewPort
open LayoutNum

@[simp] theorem sumInt_nil : sumInt [] = 0 := rfl
@[simp] theorem sumInt_cons (a : Int) (l : List Int) : sumInt (a :: l) = a + sumInt l := by simp [sumInt]

theorem sumInt_nonneg : ∀ (l : List Int), (∀ e ∈ l, 0 ≤ e) → 0 ≤ sumInt l
  | [], _ => by simp
  | a :: l, h => by
    have := sumInt_nonneg l (fun e he => h e (List.mem_cons_of_mem _ he))
    have := h a (List.mem_cons_self)
    simp; omega

theorem sum_take_step : ∀ (es : List Int) (i j : Nat) (e : Int), (∀ e ∈ es, 0 ≤ e) → i < j → es[i]? = some e →
    sumInt (es.take i) + e ≤ sumInt (es.take j)
  | [], i, j, e, _, _, h => by simp at h
  | a :: l, 0, j + 1, e, hn, _, h => by
    simp at h; subst h
    have := sumInt_nonneg (l.take j) (fun e he => hn e (List.mem_cons_of_mem _ (List.mem_of_mem_take he)))
    simp; omega
  | a :: l, i + 1, j + 1, e, hn, hij, h => by
    have := sum_take_step l i j e (fun e he => hn e (List.mem_cons_of_mem _ he)) (by omega) (by simpa using h)
    simp; omega
  | a :: l, i + 1, 0, e, _, hij, _ => by omega

theorem sum_take_nonneg (es : List Int) (i : Nat) (hn : ∀ e ∈ es, 0 ≤ e) : 0 ≤ sumInt (es.take i) :=
  sumInt_nonneg _ (fun e he => hn e (List.mem_of_mem_take he))

theorem sum_take_le_total (es : List Int) (i : Nat) (e : Int) (hn : ∀ e ∈ es, 0 ≤ e) (h : es[i]? = some e) :
    sumInt (es.take i) + e ≤ sumInt es := by
  have hi : i < es.length := by
    rcases Nat.lt_or_ge i es.length with h' | h'
    · exact h'
    · simp [List.getElem?_eq_none h'] at h
  have := sum_take_step es i es.length e hn hi h
  simpa using this

/-- the place of slot i: position = start + sum of the extents before it, extent as given -/
def slot (horizontal : Bool) (vw vh s e : Int) : Place :=
  if horizontal then { x := s, y := 0, w := e, h := vh } else { x := 0, y := s, w := vw, h := e }

theorem placeAlong_get (hz : Bool) (vw vh : Int) : ∀ (es : List Int) (pos : Int) (i : Nat),
    (placeAlong hz vw vh pos es)[i]? = es[i]?.map (slot hz vw vh (pos + sumInt (es.take i)))
  | [], _, _ => rfl
  | a :: l, pos, 0 => by simp [placeAlong, slot]
  | a :: l, pos, i + 1 => by
    simp only [placeAlong, List.getElem?_cons_succ, placeAlong_get hz vw vh l (pos + a) i, List.take_succ_cons, sumInt_cons,
      Int.add_assoc]

/-! ### axis accessors of a child rectangle -/

def aStart (hz : Bool) (v : ViewPort) : Int := if hz then v.physx else v.physy
def aLen (hz : Bool) (v : ViewPort) : Int := if hz then v.width else v.height
def cStart (hz : Bool) (v : ViewPort) : Int := if hz then v.physy else v.physx
def cLen (hz : Bool) (v : ViewPort) : Int := if hz then v.height else v.width

theorem applyPlace_slot (hz : Bool) (vw vh s e : Int) (old : ViewPort) (hv : old.hasView = true)
    (hs : 0 ≤ s) (he : 0 ≤ e) :
    let r := applyPlace vw vh old (slot hz vw vh s e)
    let avail := if hz then vw else vh
    let cross := if hz then vh else vw
    aLen hz r = (if e > avail - s then avail - s else e) ∧ (s < avail → aStart hz r = s) ∧
    cLen hz r = cross ∧ (0 < cross → cStart hz r = 0) := by
  have hr := ViewPort.resize_eq old hv vw vh
  cases hz
  · simp only [applyPlace, slot, hr, aLen, aStart, cLen, cStart, Bool.false_eq_true, if_false]
    exact ⟨ViewPort.resizeLen_nonneg he, ViewPort.resizeOrg_inside _ hs, ViewPort.resizeLen_full vw,
      ViewPort.resizeOrg_inside _ (Int.le_refl 0)⟩
  · simp only [applyPlace, slot, hr, aLen, aStart, cLen, cStart, if_true]
    exact ⟨ViewPort.resizeLen_nonneg he, ViewPort.resizeOrg_inside _ hs, ViewPort.resizeLen_full vh,
      ViewPort.resizeOrg_inside _ (Int.le_refl 0)⟩

/-! ### the largest-remainder pass, any number type -/

section generic
variable {F : Type} [LayoutNum F]

def psum (cs : List (PCell F)) : Int := sumInt (cs.map (·.pad))

/-- one iteration of the scan for `best` (boxlayout.go:81-87) -/
def pick (c : PCell F) (i : Nat) (b : Option (Nat × F)) : Option (Nat × F) :=
  if eq c.fill (zero : F) then b
  else match b with
    | none => some (i, c.frac)
    | some (_, bf) => if gt c.frac bf then some (i, c.frac) else b

theorem bestFrom_cons (c : PCell F) (cs : List (PCell F)) (i : Nat) (b : Option (Nat × F)) :
    bestFrom (c :: cs) i b = bestFrom cs (i + 1) (pick c i b) := by
  conv => lhs; unfold bestFrom
  unfold pick
  split
  · rfl
  · cases b with
    | none => rfl
    | some p => dsimp only; split <;> rfl

theorem pick_cases (c : PCell F) (i : Nat) (b : Option (Nat × F)) :
    pick c i b = b ∨ (pick c i b = some (i, c.frac) ∧ eq c.fill (zero : F) = false) := by
  unfold pick
  cases h : eq c.fill (zero : F)
  · cases b with
    | none => exact .inr ⟨rfl, rfl⟩
    | some p =>
      dsimp only; rw [if_neg Bool.false_ne_true]; split
      · exact .inr ⟨rfl, rfl⟩
      · exact .inl rfl
  · exact .inl rfl

theorem pick_isSome (c : PCell F) (i : Nat) (b : Option (Nat × F))
    (h : b.isSome = true ∨ eq c.fill (zero : F) = false) : (pick c i b).isSome = true := by
  rcases pick_cases c i b with e | ⟨e, hne⟩
  · rw [e]; cases b with
    | some p => rfl
    | none =>
      have hf := h.resolve_left (by simp)
      simp [pick, hf] at e
  · rw [e]; rfl

theorem bestFrom_index : ∀ (cs : List (PCell F)) (i : Nat) (b : Option (Nat × F)) (k : Nat) (bf : F),
    bestFrom cs i b = some (k, bf) →
    b = some (k, bf) ∨ (i ≤ k ∧ ∃ c, cs[k - i]? = some c ∧ c.frac = bf ∧ eq c.fill (zero : F) = false)
  | [], _, _, _, _, h => .inl h
  | c :: cs, i, b, k, bf, h => by
    rw [bestFrom_cons] at h
    rcases bestFrom_index cs (i + 1) _ k bf h with h1 | ⟨hle, c', hc', h1, h2⟩
    · rcases pick_cases c i b with e | ⟨e, hne⟩
      · exact .inl (e ▸ h1)
      · rw [e] at h1; cases h1
        exact .inr ⟨Nat.le_refl _, c, by simp, rfl, hne⟩
    · refine .inr ⟨by omega, c', ?_, h1, h2⟩
      rw [show k - i = (k - (i + 1)) + 1 by omega, List.getElem?_cons_succ]; exact hc'

theorem bestFrom_isSome : ∀ (cs : List (PCell F)) (i : Nat) (b : Option (Nat × F)),
    (b.isSome = true ∨ ∃ c ∈ cs, eq c.fill (zero : F) = false) → (bestFrom cs i b).isSome = true
  | [], _, _, h => h.elim id (fun ⟨_, hc, _⟩ => nomatch hc)
  | c :: cs, i, b, h => by
    rw [bestFrom_cons]
    refine bestFrom_isSome cs (i + 1) _ ?_
    rcases h with h | ⟨c', hc', hne⟩
    · exact .inl (pick_isSome c i b (.inl h))
    · rcases List.mem_cons.1 hc' with rfl | hm
      · exact .inl (pick_isSome _ i b (.inr hne))
      · exact .inr ⟨c', hm, hne⟩

/-- the nil dereference of boxlayout.go:89 cannot happen while some cell has a non-zero fill factor -/
theorem best_some (cs : List (PCell F)) (h : ∃ c ∈ cs, eq c.fill (zero : F) = false) :
    ∃ i, best cs = some i ∧ i < cs.length := by
  have h1 := bestFrom_isSome cs 0 none (.inr h)
  cases hb : bestFrom cs 0 none with
  | none => simp [hb] at h1
  | some p =>
    obtain ⟨k, bf⟩ := p
    rcases bestFrom_index cs 0 none k bf hb with h2 | ⟨_, c, hc, _⟩
    · cases h2
    · exact ⟨k, by simp [best, hb], (List.getElem?_eq_some_iff.1 hc).1⟩

theorem bump_length (cs : List (PCell F)) (i : Nat) : (bump cs i).length = cs.length := by simp [bump]

@[simp] theorem bump_zero (c : PCell F) (cs : List (PCell F)) :
    bump (c :: cs) 0 = { c with pad := c.pad + 1, frac := (zero : F) } :: cs := rfl
@[simp] theorem bump_succ (c : PCell F) (cs : List (PCell F)) (i : Nat) : bump (c :: cs) (i + 1) = c :: bump cs i := rfl

theorem bump_fills : ∀ (cs : List (PCell F)) (i : Nat), (bump cs i).map (·.fill) = cs.map (·.fill)
  | [], _ => by simp [bump]
  | _ :: _, 0 => rfl
  | c :: cs, i + 1 => congrArg (c.fill :: ·) (bump_fills cs i)

theorem psum_cons (c : PCell F) (cs : List (PCell F)) : psum (c :: cs) = c.pad + psum cs := sumInt_cons ..

theorem psum_bump : ∀ (cs : List (PCell F)) (i : Nat), i < cs.length → psum (bump cs i) = psum cs + 1
  | [], i, h => nomatch h
  | c :: cs, 0, _ => by rw [bump_zero, psum_cons, psum_cons]; exact Int.add_right_comm ..
  | c :: cs, i + 1, h => by
    rw [bump_succ, psum_cons, psum_cons, psum_bump cs i (Nat.lt_of_succ_lt_succ h)]; exact (Int.add_assoc ..).symm

theorem distribute_spec : ∀ (n : Nat) (cs : List (PCell F)), (∃ c ∈ cs, eq c.fill (zero : F) = false) →
    (distribute n cs).length = cs.length ∧ psum (distribute n cs) = psum cs + n ∧
    (distribute n cs).map (·.fill) = cs.map (·.fill)
  | 0, cs, _ => ⟨rfl, (Int.add_zero _).symm, rfl⟩
  | n + 1, cs, h => by
    obtain ⟨i, hi, hlt⟩ := best_some cs h
    have hf := bump_fills cs i
    have h' : ∃ c ∈ bump cs i, eq c.fill (zero : F) = false := by
      obtain ⟨c, hc, hne⟩ := h
      have : c.fill ∈ (bump cs i).map (·.fill) := by rw [hf]; exact List.mem_map_of_mem hc
      obtain ⟨c2, hc2, e⟩ := List.mem_map.1 this
      exact ⟨c2, hc2, by rw [e]; exact hne⟩
    obtain ⟨a, b, c⟩ := distribute_spec n (bump cs i) h'
    simp only [distribute, hi]
    exact ⟨by rw [a, bump_length], by rw [b, psum_bump cs i hlt]; omega, by rw [c, hf]⟩

theorem distribute_zero (cs : List (PCell F)) : distribute 0 cs = cs := rfl

end generic

def share (extra : Int) (totf f : Rat) : Rat := (extra : Rat) * f / totf

theorem ratTrunc_eq_floor (q : Rat) (h : 0 ≤ q) : ratTrunc q = q.floor := by
  rw [ratTrunc, Rat.floor_def, Int.tdiv_eq_ediv_of_nonneg (Rat.num_nonneg.2 h)]

/-- **the floor property of the number type** the layout theorems rest on, proved for `Rat`: truncation of a
non-negative value is the integer part, `trunc q ≤ q < trunc q + 1` -/
theorem ratTrunc_floor_prop (q : Rat) (h : 0 ≤ q) :
    ((ratTrunc q : Int) : Rat) ≤ q ∧ q < ((ratTrunc q + 1 : Int) : Rat) := by
  rw [ratTrunc_eq_floor q h]; exact ⟨Rat.floor_le q, Rat.lt_floor_add_one q⟩

theorem share_nonneg (extra : Int) (totf f : Rat) (he : 0 ≤ extra) (ht : 0 < totf) (hf : 0 ≤ f) :
    0 ≤ share extra totf f := by
  unfold share
  rw [Rat.div_def]
  exact Rat.mul_nonneg (Rat.mul_nonneg (Rat.intCast_nonneg.2 he) hf) (Rat.le_of_lt (Rat.inv_pos.2 ht))

theorem share_zero (extra : Int) (totf : Rat) : share extra totf 0 = 0 := by
  simp [share, Rat.div_def, Rat.mul_zero, Rat.zero_mul]

theorem eqz_true_iff (a : Rat) : LayoutNum.eq a (LayoutNum.zero : Rat) = true ↔ a = 0 := by
  show decide (a = 0) = true ↔ _; simp
theorem eqz_false_iff (a : Rat) : LayoutNum.eq a (LayoutNum.zero : Rat) = false ↔ a ≠ 0 := by
  show decide (a = 0) = false ↔ _; simp
theorem gt_true_iff (a b : Rat) : LayoutNum.gt a b = true ↔ b < a := by
  show decide (a > b) = true ↔ _; simp

theorem floor_zero : (0 : Rat).floor = 0 := Rat.floor_intCast 0

theorem shareCell_zero (extra : Int) (totf : Rat) :
    (shareCell extra totf (0 : Rat)).pad = 0 ∧ (shareCell extra totf (0 : Rat)).fill = 0 := by
  simp [shareCell, mt (gt_true_iff 0 (LayoutNum.zero : Rat)).1 (by decide)]

theorem shareCell_eq (extra : Int) (totf f : Rat) (he : 0 ≤ extra) (ht : 0 < totf) (hf : 0 ≤ f) :
    shareCell extra totf f =
      { fill := f, pad := (share extra totf f).floor, frac := share extra totf f - ((share extra totf f).floor : Int) } := by
  unfold shareCell
  by_cases hp : 0 < f
  · rw [if_pos ((gt_true_iff f (LayoutNum.zero : Rat)).2 hp)]
    show PCell.mk f (ratTrunc (share extra totf f)) (share extra totf f - (ratTrunc (share extra totf f) : Int)) = _
    rw [ratTrunc_eq_floor _ (share_nonneg extra totf f he ht hf)]
  · obtain rfl : f = 0 := by grind
    rw [if_neg (mt (gt_true_iff 0 (LayoutNum.zero : Rat)).1 hp), share_zero, floor_zero]
    exact congrArg (PCell.mk 0 0) (show (0 : Rat) = 0 - 0 by grind)

theorem foldl_add_eq (fs : List Rat) : ∀ a : Rat, fs.foldl (fun (a : Rat) f => LayoutNum.add a f) a = a + fs.sum := by
  induction fs with
  | nil => intro a; simp only [List.foldl_nil, List.sum_nil]; grind
  | cons f fs ih =>
    intro a
    simp only [List.foldl_cons, List.sum_cons, ih]
    show (a + f) + fs.sum = a + (f + fs.sum)
    grind

theorem totFill_eq_sum (fs : List Rat) : totFill fs = fs.sum := by
  unfold totFill
  rw [foldl_add_eq]
  show (0 : Rat) + fs.sum = fs.sum
  grind

theorem sum_zero_rat : ∀ (fs : List Rat), (∀ f ∈ fs, f = 0) → fs.sum = 0
  | [], _ => rfl
  | f :: fs, h => by
    obtain ⟨rfl, hfs⟩ := List.forall_mem_cons.1 h
    rw [List.sum_cons, sum_zero_rat fs hfs, Rat.add_zero]

theorem sum_nonneg_rat : ∀ (fs : List Rat), (∀ f ∈ fs, 0 ≤ f) → 0 ≤ fs.sum
  | [], _ => by simp
  | f :: fs, h => by
    have h1 := h f List.mem_cons_self
    have h2 := sum_nonneg_rat fs (fun g hg => h g (List.mem_cons_of_mem _ hg))
    simp only [List.sum_cons]; grind

theorem sum_pos_rat : ∀ (fs : List Rat), (∀ f ∈ fs, 0 ≤ f) → (∃ f ∈ fs, 0 < f) → 0 < fs.sum
  | [], _, h => by obtain ⟨f, hf, _⟩ := h; simp at hf
  | f :: fs, h, hp => by
    have h1 := h f List.mem_cons_self
    have h2 := sum_nonneg_rat fs (fun g hg => h g (List.mem_cons_of_mem _ hg))
    simp only [List.sum_cons]
    obtain ⟨g, hg, hg0⟩ := hp
    rcases List.mem_cons.1 hg with rfl | hm
    · grind
    · have := sum_pos_rat fs (fun g hg => h g (List.mem_cons_of_mem _ hg)) ⟨g, hm, hg0⟩
      grind

theorem sum_shares (extra : Int) (t : Rat) : ∀ (fs : List Rat),
    (fs.map (share extra t)).sum = (extra : Rat) * fs.sum / t
  | [] => by simp [Rat.div_def, Rat.mul_zero, Rat.zero_mul]
  | f :: fs => by
    simp only [List.map_cons, List.sum_cons, sum_shares extra t fs, share, Rat.div_def]
    grind

end Tcell.Views
