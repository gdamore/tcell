import Tcell.Lemmas.ChunkStable
/-
C02: the decoder laws `DecLaws` for the UTF-8 decoder instance `decUtf8` (model of
`encoding.UTF8Validator.Transform(dst[12], src, atEOF = true)`).
-/
namespace Tcell.Lemmas.ChunkUtf8
open Tcell Tcell.Model Tcell.Lemmas.Chunk

/-- encoded length reported by `utf8.DecodeRune` -/
def u8size (p : Bytes) : Nat := (utf8DecodeRune p).2

theorem u8size_cons (b0 : Nat) (r : Bytes) :
    1 ≤ u8size (b0 :: r) ∧ u8size (b0 :: r) ≤ 4 ∧ u8size (b0 :: r) ≤ r.length + 1 := by
  unfold u8size utf8DecodeRune
  -- by the class of the lead byte, then by the number of bytes that follow; `split` only on the innermost `if`s
  by_cases h1 : b0 < 0x80
  · simp only [h1, if_true]; omega
  by_cases h2 : b0 < 0xC2
  · simp only [h1, h2, if_true, if_false]; omega
  by_cases h3 : b0 < 0xE0
  · simp only [h1, h2, h3, if_true, if_false]
    rcases r with _ | ⟨b1, t⟩
    · simp
    · dsimp only; (repeat' split) <;> simp
  by_cases h4 : b0 < 0xF0
  · simp only [h1, h2, h3, h4, if_true, if_false]
    rcases r with _ | ⟨b1, _ | ⟨b2, t⟩⟩
    · simp
    · simp
    · dsimp only; (repeat' split) <;> simp
  by_cases h5 : b0 < 0xF5
  · simp only [h1, h2, h3, h4, h5, if_true, if_false]
    rcases r with _ | ⟨b1, _ | ⟨b2, _ | ⟨b3, t⟩⟩⟩
    · simp
    · simp
    · simp
    · dsimp only; (repeat' split) <;> simp
  · simp only [h1, h2, h3, h4, h5, if_false]; omega

/-- `utf8.DecodeRune` looks at no more than the first four bytes -/
theorem u8size_append4 (b0 b1 b2 b3 : Nat) (t q : Bytes) :
    u8size ((b0 :: b1 :: b2 :: b3 :: t) ++ q) = u8size (b0 :: b1 :: b2 :: b3 :: t) := rfl

theorem validate_bounds : ∀ (fuel i n : Nat) (src : Bytes),
    i ≤ utf8Validate fuel i n src ∧ utf8Validate fuel i n src ≤ i + src.length := by
  intro fuel
  induction fuel with
  | zero => intro i n src; simp [utf8Validate]
  | succ f ih =>
    intro i n src
    unfold utf8Validate
    split
    · omega
    · split
      · omega
      · rename_i c rest
        split
        · have := ih (i + 1) n rest; simp only [List.length_cons]; omega
        · simp only
          split
          · omega
          · split
            · omega
            · have h1 := ih (i + (utf8DecodeRune (c :: rest)).2) n ((c :: rest).drop (utf8DecodeRune (c :: rest)).2)
              have h2 := (u8size_cons c rest).2.2
              unfold u8size at h2
              rw [List.length_drop] at h1
              simp only [List.length_cons] at h1 ⊢
              omega

/-- whether the validator accepts anything is decided by the first rune -/
theorem validate_first (f n c : Nat) (rest : Bytes) (hn : 1 ≤ n) :
    utf8Validate (f + 1) 0 n (c :: rest) ≠ 0 ↔ (c < 0x80 ∨ u8size (c :: rest) ≠ 1) := by
  unfold utf8Validate
  have h0 : ¬ (0 ≥ n) := by omega
  simp only [h0, if_false]
  obtain ⟨hpos, h4, _⟩ := u8size_cons c rest
  unfold u8size at hpos h4 ⊢
  by_cases hc : c < 0x80
  · simp only [hc, if_true, true_or, iff_true]
    have := (validate_bounds f (0 + 1) n rest).1
    omega
  · simp only [hc, if_false, false_or]
    by_cases h1 : (utf8DecodeRune (c :: rest)).2 = 1
    · simp [h1]
    · simp only [h1, if_false]
      have h12 : ¬ (0 + (utf8DecodeRune (c :: rest)).2 > 12) := by omega
      simp only [h12, if_false]
      have := (validate_bounds f (0 + (utf8DecodeRune (c :: rest)).2) n ((c :: rest).drop (utf8DecodeRune (c :: rest)).2)).1
      constructor
      · intro _; exact h1
      · intro _; omega

theorem decUtf8_out_iff (c : Nat) (rest : Bytes) :
    (∃ r n, decUtf8 (c :: rest) = .out r n) ↔ (c < 0x80 ∨ u8size (c :: rest) ≠ 1) := by
  have hv := validate_first (c :: rest).length (min (c :: rest).length 12) c rest (by simp only [List.length_cons]; omega)
  unfold decUtf8
  simp only
  by_cases h0 : utf8Validate ((c :: rest).length + 1) 0 (min (c :: rest).length 12) (c :: rest) = 0
  · simp only [h0, if_true]
    constructor
    · intro ⟨r, n, h⟩; cases h
    · intro h; exact absurd h0 (hv.mpr h)
  · simp only [h0, if_false]
    constructor
    · intro _; exact hv.mp h0
    · intro _; exact ⟨_, _, rfl⟩

theorem decLaws_utf8 : DecLaws decUtf8 where
  bound := by
    intro p r n h
    unfold decUtf8 at h
    simp only at h
    split at h
    · cases h
    · rename_i hne
      injection h with _ hn
      have := (validate_bounds (p.length + 1) 0 (min p.length 12) p).2
      omega
  local4 := by
    intro p q r n hl h
    rcases p with _ | ⟨b0, _ | ⟨b1, _ | ⟨b2, _ | ⟨b3, t⟩⟩⟩⟩
    · simp at hl
    · simp at hl
    · simp at hl
    · simp at hl
    · have h1 := (decUtf8_out_iff b0 ((b1 :: b2 :: b3 :: t) ++ q)).mp ⟨r, n, h⟩
      have h2 : u8size (b0 :: ((b1 :: b2 :: b3 :: t) ++ q)) = u8size (b0 :: b1 :: b2 :: b3 :: t) := u8size_append4 b0 b1 b2 b3 t q
      rw [h2] at h1
      exact (decUtf8_out_iff b0 (b1 :: b2 :: b3 :: t)).mpr h1

end Tcell.Lemmas.ChunkUtf8
