import Tcell.Lemmas.TParmRefine
/-
C07: Go's `fmt.Sprintf` (as the machine uses it, `Tcell.TParm.fmtEffect`) and the reference's C printf (`cFmtInt`,
`cFmtStr`) agree on every valid printf token wherever the reference specifies the result (`unspecified = false`):
`semM_eq_sem`.  Then `evalG semM = evalG sem` on every run the reference calls specified (`evalG_semM_eq`).
-/
namespace Tcell.TParm
open Tcell.Spec.Terminfo5

theorem decVal_cons_zero (l : Bytes) : decVal (48 :: l) = decVal l := by simp [decVal]

theorem decVal_dropZeros (l : Bytes) : decVal (l.dropWhile (· == 48)) = decVal l := by
  induction l with
  | nil => rfl
  | cons x l ih =>
    simp only [List.dropWhile]
    split
    · rename_i h
      simp only [beq_iff_eq] at h
      subst h; rw [ih, decVal_cons_zero]
    · rfl

theorem dropZeros_empty_decVal (l : Bytes) (h : (l.dropWhile (· == 48)).isEmpty = true) : decVal l = 0 := by
  rw [← decVal_dropZeros l]
  simp only [List.isEmpty_iff] at h
  rw [h]; rfl

theorem takeZeros_isEmpty (l : Bytes) : (!(l.takeWhile (· == 48)).isEmpty) = (l.head? == some 48) := by
  cases l with
  | nil => rfl
  | cons x l =>
    simp only [List.takeWhile, List.head?_cons]
    by_cases h : x = 48
    · subst h; rfl
    · have : (x == 48) = false := by simpa using h
      simp [this]

theorem goFmt_eq (f : FmtSpec) (hv : f.valid = true) :
    goFmt f = { sharp := f.flags.contains 35, zero := f.width.head? == some 48, plus := f.flags.contains 43,
                minus := f.flags.contains 45, space := f.flags.contains 32,
                wid := if (f.width.dropWhile (· == 48)).isEmpty then none else some (decVal f.width),
                prec := f.prec.map decVal } := by
  simp only [FmtSpec.valid, Bool.and_eq_true, List.all_eq_true] at hv
  obtain ⟨⟨⟨⟨⟨_, hw⟩, hp⟩, _⟩, _⟩, _⟩ := hv
  have hwd : ∀ x ∈ f.width.dropWhile (· == 48), isDigit x = true :=
    fun x hx => hw x ((List.dropWhile_sublist _).subset hx)
  unfold goFmt parseFmt
  cases hpp : f.prec with
  | none =>
    have h2 := takeWhile_all isDigit _ hwd
    simp only [List.append_nil, Option.map_none, h2.1, h2.2, takeZeros_isEmpty, decVal_dropZeros]
  | some p =>
    have h1 := takeWhile_append_stop (· == 48) f.width (46 :: p) (by intro x hx; simp at hx; subst hx; decide)
    have h2 := takeWhile_all_append isDigit _ (46 :: p) hwd (by intro x hx; simp at hx; subst hx; decide)
    simp only [Option.map_some, h1.1, h1.2, h2.1, h2.2, takeZeros_isEmpty, decVal_dropZeros,
      (takeWhile_all isDigit p fun x hx => hp x (by simpa [hpp] using hx)).1]

/-! ### strings and characters -/

theorem spaces_zero (c : Nat) : spaces 0 c = [] := rfl

theorem fmtStr_eq (f : FmtSpec) (hv : f.valid = true) (a : Bytes) (hz : (f.width.head? == some 48) = false) :
    fmtStr (goFmt f) a = cFmtStr f a := by
  rw [goFmt_eq f hv]
  simp only [fmtStr, cFmtStr, pad, hz]
  by_cases hwn : (f.width.dropWhile (· == 48)).isEmpty = true
  · have hW := dropZeros_empty_decVal f.width hwn
    simp only [hwn, if_true, hW, Nat.zero_sub, spaces, List.replicate_zero, List.append_nil, List.nil_append]
    cases f.prec <;> simp
  · simp only [hwn]
    cases f.prec <;> cases f.flags.contains 45 <;> simp [spaces]

theorem fmtChar_eq (f : FmtSpec) (hv : f.valid = true) (a : Int) (hz : (f.width.head? == some 48) = false)
    (h0 : 0 ≤ a) (h1 : a < 128) :
    fmtChar (goFmt f) a = cFmtStr { f with prec := none } [(a % 256).toNat] := by
  rw [goFmt_eq f hv]
  have he : encodeRune a = [(a % 256).toNat] := by
    have h2 : a.toNat < 128 := by omega
    have h3 : (a % 256).toNat = a.toNat := by omega
    have hn1 : ¬ a < 0 := by omega
    have hn2 : ¬ a > 1114111 := by omega
    have hn3 : ¬ (55296 ≤ a ∧ a ≤ 57343) := by omega
    simp [encodeRune, hn1, hn2, hn3, h2, h3]
  simp only [fmtChar, cFmtStr, he, hz]
  by_cases hwn : (f.width.dropWhile (· == 48)).isEmpty = true
  · have hW := dropZeros_empty_decVal f.width hwn
    simp [hwn, hW, spaces]
  · simp only [hwn]
    by_cases hW : decVal f.width = 0
    · simp [hW, spaces]
    · cases f.flags.contains 45 <;> simp [spaces, hW]

/-! ### integers -/

def cDigits (cv : Conv) (mag : Nat) : Bytes :=
  match cv with
  | .o => baseDigits 8 false mag
  | .x => baseDigits 16 false mag
  | .X => baseDigits 16 true mag
  | _ => natDigits mag

def cPrefix (cv : Conv) (sharp plus space : Bool) (v : Int) (digits : Bytes) : Bytes :=
  match cv with
  | .d => if v < 0 then [45] else if plus then [43] else if space then [32] else []
  | .o => if sharp && digits.head? != some 48 then [48] else []
  | .x => if sharp && v.natAbs != 0 then [48, 120] else []
  | .X => if sharp && v.natAbs != 0 then [48, 88] else []
  | _ => []

/-- where C puts the padding: after the body (`-` flag), as zeros between prefix and digits (`0` flag without a
precision), else as spaces in front -/
def cLayout (minus zeroFill : Bool) (W : Nat) (pre digits : Bytes) : Bytes :=
  if minus then pre ++ digits ++ spaces (W - (pre ++ digits).length)
  else if zeroFill then pre ++ spaces (W - (pre ++ digits).length) 48 ++ digits
  else spaces (W - (pre ++ digits).length) ++ (pre ++ digits)

/-- `cFmtInt` with the flags, width and precision as values -/
def cInt (sharp plus minus space zero : Bool) (W : Nat) (P : Option Nat) (cv : Conv) (v : Int) : Bytes :=
  let digits := if P == some 0 && v.natAbs == 0 then [] else cDigits cv v.natAbs
  let digits := spaces ((P.getD 0) - digits.length) 48 ++ digits
  cLayout minus (zero && P.isNone) W (cPrefix cv sharp plus space v digits) digits

theorem cFmtInt_eq (f : FmtSpec) (v : Int) :
    cFmtInt f v = cInt (f.flags.contains 35) (f.flags.contains 43) (f.flags.contains 45) (f.flags.contains 32)
      (f.width.head? == some 48) (decVal f.width) (f.prec.map decVal) f.conv v := by
  obtain ⟨c, fl, w, p, cv⟩ := f
  cases cv <;> rfl

theorem fmtInteger_wid0 (g : Fmt) (v : Int) (b : Nat) (u : Bool) (h : g.wid = none) :
    fmtInteger g v b u = fmtInteger { g with wid := some 0 } v b u := by
  simp only [fmtInteger, h, pad, Option.getD_none, Option.getD_some, Option.isSome_none, Option.isSome_some,
    Bool.and_false, Bool.and_true, Nat.zero_sub, spaces, List.replicate_zero, List.append_nil, List.nil_append]
  simp

/-- Go fills with zeros up to a precision `n` it derives from the width and then pads prefix and digits as one string
with spaces; C puts the zeros between prefix and digits: the same bytes.  `pre` is the sign or `#` prefix, `D` the digits. -/
theorem layout_eq (g : Fmt) (W : Nat) (hw : g.wid = some W) (hz : g.zero = false) (zero : Bool) (P : Option Nat)
    (pre D : Bytes) (n : Nat)
    (hn : n = match P with | some p => p | none => if zero && !g.minus then W - pre.length else 0) :
    pad g (pre ++ (spaces (n - D.length) 48 ++ D)) =
      cLayout g.minus (zero && P.isNone) W pre (spaces (P.getD 0 - D.length) 48 ++ D) := by
  subst hn
  cases P with
  | some p => cases hm : g.minus <;> simp [cLayout, pad, spaces, hw, hz, hm]
  | none =>
    cases hm : g.minus <;> cases zero <;> simp [cLayout, pad, spaces, hw, hz, hm]
    rw [show W - (pre.length + (W - pre.length - D.length + D.length)) = 0 by omega,
      show W - pre.length - D.length = W - (pre.length + D.length) by omega]
    rfl

/-- the sign `fmt.fmtInteger` puts in front -/
def goSign (f : Fmt) (v : Int) : Bytes := if v < 0 then [45] else if f.plus then [43] else if f.space then [32] else []

/-- the `#` prefix `fmt.fmtInteger` puts in front of the zero-filled digits `ds` -/
def goSharp (f : Fmt) (base : Nat) (upper : Bool) (ds : Bytes) : Bytes :=
  if f.sharp then
    if base == 8 then (if ds.head? == some 48 then [] else [48])
    else if base == 16 then [48, if upper then 88 else 120] else []
  else []

/-- the precision `fmt.fmtInteger` fills to: the given one, or for the `0` flag the width less the sign -/
def goPrec (f : Fmt) (v : Int) : Nat :=
  match f.prec with
  | some p => p
  | none =>
    if f.zero && !f.minus && f.wid.isSome then (f.wid.getD 0) - (if v < 0 || f.plus || f.space then 1 else 0) else 0

def goDigits (f : Fmt) (v : Int) (base : Nat) (upper : Bool) : Bytes :=
  let ds := if base == 10 then natDigits v.natAbs else baseDigits base upper v.natAbs
  spaces (goPrec f v - ds.length) 48 ++ ds

theorem sign_cons (a : Prop) [Decidable a] (b c : Bool) (X : Bytes) :
    (if a then 45 :: X else if b then 43 :: X else if c then 32 :: X else X) =
      (if a then [45] else if b then [43] else if c then [32] else []) ++ X := by
  by_cases a <;> cases b <;> cases c <;> simp [*]

theorem sharp_cons (s b8 hd b16 : Bool) (x : Nat) (ds : Bytes) :
    (if s then if b8 then (if hd then ds else 48 :: ds) else if b16 then 48 :: x :: ds else ds else ds) =
      (if s then if b8 then (if hd then [] else [48]) else if b16 then [48, x] else [] else []) ++ ds := by
  cases s <;> cases b8 <;> cases hd <;> cases b16 <;> rfl

/-- `fmt.fmtInteger` outside the blank case: prefixes, zero-filled digits, padding with spaces -/
theorem fmtInteger_eq (f : Fmt) (v : Int) (base : Nat) (upper : Bool) (h : (f.prec == some 0 && v.natAbs == 0) = false) :
    fmtInteger f v base upper =
      pad { f with zero := false } (goSign f v ++ (goSharp f base upper (goDigits f v base upper) ++ goDigits f v base upper)) := by
  refine (if_neg (by simp [h]) : fmtInteger f v base upper = _).trans ?_
  exact congrArg _ ((sign_cons _ _ _ _).trans (congrArg _ (sharp_cons _ _ _ _ _ _)))

theorem goSign_length (f : Fmt) (v : Int) : (goSign f v).length = if v < 0 || f.plus || f.space then 1 else 0 := by
  unfold goSign
  by_cases hv : v < 0 <;> cases f.plus <;> cases f.space <;> simp [hv]

theorem nonblank {P : Option Nat} {v : Int} (h : ¬ (P = some 0 ∧ v.natAbs = 0)) : (P == some 0 && v.natAbs == 0) = false := by
  simpa using h

/-- the blank case of both: precision 0 and value 0 print the padding only, provided C prints no prefix -/
theorem fmtInt_blank (f : Fmt) (W : Nat) (hw : f.wid = some W) (cv : Conv) (base : Nat) (upper : Bool) (hP : f.prec = some 0)
    (hpre : cPrefix cv f.sharp f.plus f.space 0 [] = []) :
    fmtInteger f 0 base upper = cInt f.sharp f.plus f.minus f.space f.zero W f.prec cv 0 := by
  cases f.minus <;> simp [fmtInteger, cInt, cLayout, hP, hw, hpre, spaces]

theorem fmtInt_d (f : Fmt) (W : Nat) (hw : f.wid = some W) (v : Int)
    (hs : ¬ (v = 0 ∧ f.prec = some 0 ∧ (f.plus = true ∨ f.space = true))) :
    fmtInteger f v 10 false = cInt f.sharp f.plus f.minus f.space f.zero W f.prec .d v := by
  by_cases hblank : f.prec = some 0 ∧ v.natAbs = 0
  · obtain ⟨hP, hv0⟩ := hblank
    obtain rfl : v = 0 := by omega
    have hp : f.plus = false := by cases h : f.plus <;> simp_all
    have hsp : f.space = false := by cases h : f.space <;> simp_all
    exact fmtInt_blank f W hw .d 10 false hP (by simp [cPrefix, hp, hsp])
  · have hc := nonblank hblank
    have h0 : ∀ ds, goSharp f 10 false ds = [] := by intro ds; unfold goSharp; cases f.sharp <;> rfl
    rw [fmtInteger_eq _ _ _ _ hc, h0]
    simp only [cInt, hc]
    refine layout_eq { f with zero := false } W hw rfl f.zero f.prec _ (natDigits v.natAbs) _ ?_
    simp only [goPrec, goSign_length, hw]
    cases f.prec <;> simp

def convBase : Conv → Nat
  | .o => 8 | .x => 16 | .X => 16 | _ => 10
def convUpper : Conv → Bool
  | .X => true | _ => false

theorem fmtInt_oxX (cv : Conv) (hcv : cv = .o ∨ cv = .x ∨ cv = .X) (f : Fmt) (W : Nat) (hw : f.wid = some W)
    (hp : f.plus = false) (hsp : f.space = false) (v : Int) (h0 : 0 ≤ v)
    (hs : ¬ (f.sharp = true ∧ (v = 0 ∨ f.zero = true))) :
    fmtInteger f v (convBase cv) (convUpper cv) = cInt f.sharp false f.minus false f.zero W f.prec cv v := by
  by_cases hblank : f.prec = some 0 ∧ v.natAbs = 0
  · obtain ⟨hP, hv0⟩ := hblank
    obtain rfl : v = 0 := by omega
    have hsh : f.sharp = false := by cases h : f.sharp <;> simp_all
    have := fmtInt_blank f W hw cv (convBase cv) (convUpper cv) hP (by rcases hcv with rfl | rfl | rfl <;> simp [cPrefix, hsh])
    rwa [hp, hsp] at this
  · have hc := nonblank hblank
    have hneg : ¬ v < 0 := by omega
    have hsg : goSign f v = [] := by simp [goSign, hneg, hp, hsp]
    have hD : goDigits f v (convBase cv) (convUpper cv) =
        spaces (goPrec f v - (cDigits cv v.natAbs).length) 48 ++ cDigits cv v.natAbs := by
      rcases hcv with rfl | rfl | rfl <;> rfl
    rw [fmtInteger_eq _ _ _ _ hc, hsg, hD]
    simp only [cInt, hc]
    generalize hds : spaces (f.prec.getD 0 - (cDigits cv v.natAbs).length) 48 ++ cDigits cv v.natAbs = ds
    -- with `#` there is no zero filling from the width: Go computes its `#` prefix from the digits C looks at
    have hpre : goSharp f (convBase cv) (convUpper cv)
        (spaces (goPrec f v - (cDigits cv v.natAbs).length) 48 ++ cDigits cv v.natAbs) =
        cPrefix cv f.sharp false false v ds := by
      cases hsh : f.sharp with
      | false => rcases hcv with rfl | rfl | rfl <;> simp [goSharp, cPrefix, hsh]
      | true =>
        have hz : f.zero = false := by cases h : f.zero <;> simp_all
        have hv0 : v.natAbs ≠ 0 := by intro h; apply hs; exact ⟨hsh, Or.inl (by omega)⟩
        have hn : goPrec f v = f.prec.getD 0 := by simp only [goPrec, hz]; cases f.prec <;> rfl
        rw [hn, hds]
        rcases hcv with rfl | rfl | rfl
        · by_cases h : ds.head? = some 48 <;> simp [goSharp, cPrefix, convBase, hsh, h]
        · simp [goSharp, cPrefix, convBase, convUpper, hsh, hv0]
        · simp [goSharp, cPrefix, convBase, convUpper, hsh, hv0]
    rw [hpre, ← hds]
    refine layout_eq { f with zero := false } W hw rfl f.zero f.prec _ _ _ ?_
    cases hP : f.prec with
    | some p => simp [goPrec, hP]
    | none =>
      cases hz : f.zero with
      | false => simp [goPrec, hP, hz]
      | true =>
        have hsh : f.sharp = false := by cases h : f.sharp <;> simp_all
        rcases hcv with rfl | rfl | rfl <;> simp [goPrec, cPrefix, hneg, hP, hz, hw, hp, hsp, hsh]

theorem goInt_eq (f : FmtSpec) (hv : f.valid = true) (a : Int) (b : Nat) (u : Bool) :
    fmtInteger (goFmt f) a b u =
      fmtInteger { sharp := f.flags.contains 35, zero := f.width.head? == some 48, plus := f.flags.contains 43,
                   minus := f.flags.contains 45, space := f.flags.contains 32, wid := some (decVal f.width),
                   prec := f.prec.map decVal } a b u := by
  rw [goFmt_eq f hv]
  by_cases hwn : (f.width.dropWhile (· == 48)).isEmpty = true
  · have hW := dropZeros_empty_decVal f.width hwn
    simp only [hwn, if_true, hW]
    exact fmtInteger_wid0 _ a b u rfl
  · simp only [hwn]; rfl

/-- **formatter equivalence**: on every valid token, in every state where the reference specifies the result, the
machine's token meaning (Go `fmt`) is the reference meaning (C printf) -/
theorem semM_eq_sem (t : Tok) (hv : t.valid = true) (s : St) (hu : unspecified t s = false) : semM t s = sem t s := by
  cases t with
  | fmt f =>
    have hfv : f.valid = true := hv
    cases hc : f.conv with
    | s =>
      simp only [unspecified, hc, Bool.or_eq_false_iff] at hu
      simp only [semM, sem, hc, fmtEffect, Conv.byte]
      simp [fmtStr_eq f hfv _ hu.1]
    | c =>
      simp only [unspecified, hc, Bool.or_eq_false_iff, decide_eq_false_iff_not] at hu
      simp only [semM, sem, hc, fmtEffect, Conv.byte]
      have ha0 : 0 ≤ (popInt s.stk).1 := by omega
      have ha1 : (popInt s.stk).1 < 128 := by omega
      simp [fmtChar_eq f hfv _ hu.1.1 ha0 ha1, hc]
    | d =>
      simp only [unspecified, hc] at hu
      simp only [semM, sem, hc, fmtEffect, Conv.byte]
      have key : fmtInteger (goFmt f) (popInt s.stk).1 10 false = cFmtInt f (popInt s.stk).1 := by
        rw [goInt_eq f hfv, cFmtInt_eq, hc]
        refine fmtInt_d _ _ rfl _ ?_
        intro ⟨h1, h2, h3⟩
        dsimp only at h2 h3
        rcases h3 with h3 | h3 <;> simp [h1, h2] at hu <;> simp at h3 <;> simp [h3] at hu
      simp [key]
    | o | x | X =>
      simp only [unspecified, hc, Bool.or_eq_false_iff, decide_eq_false_iff_not] at hu
      simp only [semM, sem, hc, fmtEffect, Conv.byte]
      have key : fmtInteger (goFmt f) (popInt s.stk).1 (convBase f.conv) (convUpper f.conv) = cFmtInt f (popInt s.stk).1 := by
        rw [goInt_eq f hfv, cFmtInt_eq, hu.1.1.2, hu.1.2]
        refine fmtInt_oxX _ (by simp [hc]) _ _ rfl rfl rfl _ (by omega) ?_
        intro ⟨h1, h2⟩
        dsimp only at h1 h2
        have := hu.2
        rw [h1] at this
        rcases h2 with h2 | h2 <;> simp [h2] at this
      simp only [hc, convBase, convUpper] at key
      simp [key]
  | _ => rfl

/-! ### the reference's "still specified" flag -/

/-- the token meaning and the test of `Spec.Terminfo5.specified` (evaluation with a "still specified" flag) -/
def semP (t : Tok) (p : St × Bool) : St × Bool := (sem t p.1, p.2 && !unspecified t p.1)
def testP (p : St × Bool) : Bool × (St × Bool) := let r := test p.1; (r.1, (r.2, p.2))

theorem specified_eq (a : Prog) (params : List Value) (svars : Vars) :
    specified a params svars = (a.evalG semP testP ({ params := pad9 params, svars := svars }, true)).2 := rfl

mutual
theorem Prog.all_imp (p q : Tok → Bool) (h : ∀ t, p t = true → q t = true) : ∀ (a : Prog), a.all p = true → a.all q = true
  | .nil, _ => rfl
  | .tok t r, ha => by
    simp only [Prog.all, Bool.and_eq_true] at ha ⊢
    exact ⟨h t ha.1, Prog.all_imp p q h r ha.2⟩
  | .cond c r, ha => by
    simp only [Prog.all, Bool.and_eq_true] at ha ⊢
    exact ⟨Chain.all_imp p q h c ha.1, Prog.all_imp p q h r ha.2⟩
theorem Chain.all_imp (p q : Tok → Bool) (h : ∀ t, p t = true → q t = true) : ∀ (c : Chain), c.all p = true → c.all q = true
  | .fi a b, ha => by
    simp only [Chain.all, Bool.and_eq_true] at ha ⊢
    exact ⟨Prog.all_imp p q h a ha.1, Prog.all_imp p q h b ha.2⟩
  | .els a b c, ha => by
    simp only [Chain.all, Bool.and_eq_true] at ha ⊢
    exact ⟨⟨Prog.all_imp p q h a ha.1.1, Prog.all_imp p q h b ha.1.2⟩, Prog.all_imp p q h c ha.2⟩
  | .elif a b n, ha => by
    simp only [Chain.all, Bool.and_eq_true] at ha ⊢
    exact ⟨⟨Prog.all_imp p q h a ha.1.1, Prog.all_imp p q h b ha.1.2⟩, Chain.all_imp p q h n ha.2⟩
end

mutual
theorem Prog.all_true (q : Tok → Bool) (h : ∀ t, q t = true) : ∀ a : Prog, a.all q = true
  | .nil => rfl
  | .tok t r => by simp [Prog.all, h, Prog.all_true q h r]
  | .cond c r => by simp [Prog.all, Chain.all_true q h c, Prog.all_true q h r]
theorem Chain.all_true (q : Tok → Bool) (h : ∀ t, q t = true) : ∀ c : Chain, c.all q = true
  | .fi a b => by simp [Chain.all, Prog.all_true q h a, Prog.all_true q h b]
  | .els a b c => by simp [Chain.all, Prog.all_true q h a, Prog.all_true q h b, Prog.all_true q h c]
  | .elif a b n => by simp [Chain.all, Prog.all_true q h a, Prog.all_true q h b, Chain.all_true q h n]
end

/-! ### two evaluations of one tree -/

section sim
variable {σ τ : Type} {sm₁ : Tok → σ → σ} {ts₁ : σ → Bool × σ} {sm₂ : Tok → τ → τ} {ts₂ : τ → Bool × τ}
  {R : σ → τ → Prop} {D : σ → Prop} {V : Tok → Bool}
  (hsm : ∀ t, t.valid = true → V t = true → ∀ s u, R s u → R (sm₁ t s) (sm₂ t u))
  (hts : ∀ s u, R s u → R (ts₁ s).2 (ts₂ u).2 ∧ (D s ∨ (ts₁ s).1 = (ts₂ u).1))
  (hD : ∀ s u, D s → R s u) (hDt : ∀ s, D s → D (ts₁ s).2)
  (hDp : ∀ (a : Prog), a.valid = true → ∀ s, D s → D (a.evalG sm₁ ts₁ s))
  (hDc : ∀ (c : Chain), c.valid = true → ∀ s, D s → D (c.evalG sm₁ ts₁ s))
include hsm hts hD hDt hDp hDc

mutual
/-- **Simulation.**  Two evaluations of one tree stay related by `R` if the valid tokens with `V` and the test preserve
`R` and the tests agree on related states — or the first evaluation is in a state of `D`, a sink from which everything
is related (the two may then take different branches). -/
theorem evalG_sim : ∀ a : Prog, a.valid = true → a.all V = true → ∀ s u, R s u →
    R (a.evalG sm₁ ts₁ s) (a.evalG sm₂ ts₂ u)
  | .nil, _, _, _, _, h => h
  | .tok t r, hv, ha, s, u, h => by
    simp only [Prog.valid, Prog.all, Bool.and_eq_true] at hv ha
    exact evalG_sim r hv.2 ha.2 _ _ (hsm t hv.1 ha.1 s u h)
  | .cond c r, hv, ha, s, u, h => by
    simp only [Prog.valid, Prog.all, Bool.and_eq_true] at hv ha
    exact evalG_sim r hv.2 ha.2 _ _ (evalG_sim_chain c hv.1 ha.1 s u h)
theorem evalG_sim_chain : ∀ c : Chain, c.valid = true → c.all V = true → ∀ s u, R s u →
    R (c.evalG sm₁ ts₁ s) (c.evalG sm₂ ts₂ u)
  | .fi a b, hv, ha, s, u, h => by
    simp only [Chain.valid, Chain.all, Bool.and_eq_true] at hv ha
    obtain ⟨h1, hd | he⟩ := hts _ _ (evalG_sim a hv.1 ha.1 s u h)
    · refine hD _ _ ?_
      simp only [Chain.evalG]
      split
      · exact hDp b hv.2 _ (hDt _ hd)
      · exact hDt _ hd
    · simp only [Chain.evalG, he]
      split
      · exact evalG_sim b hv.2 ha.2 _ _ h1
      · exact h1
  | .els a b c, hv, ha, s, u, h => by
    simp only [Chain.valid, Chain.all, Bool.and_eq_true] at hv ha
    obtain ⟨h1, hd | he⟩ := hts _ _ (evalG_sim a hv.1.1 ha.1.1 s u h)
    · refine hD _ _ ?_
      simp only [Chain.evalG]
      split
      · exact hDp b hv.1.2 _ (hDt _ hd)
      · exact hDp c hv.2 _ (hDt _ hd)
    · simp only [Chain.evalG, he]
      split
      · exact evalG_sim b hv.1.2 ha.1.2 _ _ h1
      · exact evalG_sim c hv.2 ha.2 _ _ h1
  | .elif a b n, hv, ha, s, u, h => by
    simp only [Chain.valid, Chain.all, Bool.and_eq_true] at hv ha
    obtain ⟨h1, hd | he⟩ := hts _ _ (evalG_sim a hv.1.1 ha.1.1 s u h)
    · refine hD _ _ ?_
      simp only [Chain.evalG]
      split
      · exact hDp b hv.1.2 _ (hDt _ hd)
      · exact hDc n hv.2 _ (hDt _ hd)
    · simp only [Chain.evalG, he]
      split
      · exact evalG_sim b hv.1.2 ha.1.2 _ _ h1
      · exact evalG_sim_chain n hv.2 ha.2 _ _ h1
end
end sim

theorem evalG_inv {σ : Type} {sm : Tok → σ → σ} {ts : σ → Bool × σ} (I : σ → Prop) (V : Tok → Bool)
    (hsm : ∀ t, t.valid = true → V t = true → ∀ s, I s → I (sm t s)) (hts : ∀ s, I s → I (ts s).2) :
    (∀ a : Prog, a.valid = true → a.all V = true → ∀ s, I s → I (a.evalG sm ts s)) ∧
    (∀ c : Chain, c.valid = true → c.all V = true → ∀ s, I s → I (c.evalG sm ts s)) := by
  have h1 : ∀ t, t.valid = true → V t = true → ∀ s u : σ, s = u ∧ I s → sm t s = sm t u ∧ I (sm t s) :=
    fun t hv hV s u h => ⟨by rw [h.1], hsm t hv hV s h.2⟩
  have h2 : ∀ s u : σ, s = u ∧ I s → ((ts s).2 = (ts u).2 ∧ I (ts s).2) ∧ (False ∨ (ts s).1 = (ts u).1) :=
    fun s u h => ⟨⟨by rw [h.1], hts s h.2⟩, Or.inr (by rw [h.1])⟩
  exact ⟨fun a hv ha s h => (evalG_sim h1 h2 (fun _ _ h => h.elim) (fun _ h => h) (fun _ _ _ h => h) (fun _ _ _ h => h)
      a hv ha s s ⟨rfl, h⟩).2,
    fun c hv ha s h => (evalG_sim_chain h1 h2 (fun _ _ h => h.elim) (fun _ h => h) (fun _ _ _ h => h)
      (fun _ _ _ h => h) c hv ha s s ⟨rfl, h⟩).2⟩

/-! ### runs the reference calls specified -/

/-- the flag does not influence the states: without it the evaluation is the reference evaluation -/
theorem evalP_fst : (∀ a : Prog, a.valid = true → ∀ p, (a.evalG semP testP p).1 = a.evalG sem test p.1) ∧
    (∀ c : Chain, c.valid = true → ∀ p, (c.evalG semP testP p).1 = c.evalG sem test p.1) := by
  have hsm : ∀ t, t.valid = true → (fun _ => true) t = true → ∀ (s : St × Bool) (u : St), s.1 = u →
      (semP t s).1 = sem t u := fun t _ _ s u h => by rw [← h]; rfl
  have hts : ∀ (s : St × Bool) (u : St), s.1 = u → (testP s).2.1 = (test u).2 ∧ (False ∨ (testP s).1 = (test u).1) :=
    fun s u h => by rw [← h]; exact ⟨rfl, Or.inr rfl⟩
  exact ⟨fun a hv p => evalG_sim hsm hts (fun _ _ h => h.elim) (fun _ h => h) (fun _ _ _ h => h) (fun _ _ _ h => h)
      a hv (Prog.all_true _ (fun _ => rfl) a) p p.1 rfl,
    fun c hv p => evalG_sim_chain hsm hts (fun _ _ h => h.elim) (fun _ h => h) (fun _ _ _ h => h) (fun _ _ _ h => h)
      c hv (Chain.all_true _ (fun _ => rfl) c) p p.1 rfl⟩

/-- as long as the run stays in the specified domain, the machine's token meanings (Go's formatter) compute the states
of the flagged reference run; a run that has left it (the sink: the flag stays `false`) is not judged -/
theorem evalM_fst : (∀ a : Prog, a.valid = true → ∀ p, (a.evalG semP testP p).2 = true →
      a.evalG semM test p.1 = (a.evalG semP testP p).1) ∧
    (∀ c : Chain, c.valid = true → ∀ p, (c.evalG semP testP p).2 = true →
      c.evalG semM test p.1 = (c.evalG semP testP p).1) := by
  have hsm : ∀ t, t.valid = true → (fun _ => true) t = true → ∀ (s : St × Bool) (u : St), (s.2 = true → u = s.1) →
      ((semP t s).2 = true → semM t u = (semP t s).1) := fun t hv _ s u h h' => by
    simp only [semP, Bool.and_eq_true, Bool.not_eq_true'] at h'
    rw [h h'.1, semM_eq_sem t hv s.1 h'.2]; rfl
  have hts : ∀ (s : St × Bool) (u : St), (s.2 = true → u = s.1) →
      ((testP s).2.2 = true → (test u).2 = (testP s).2.1) ∧ (s.2 = false ∨ (testP s).1 = (test u).1) := fun s u h => by
    cases hs : s.2 with
    | false => exact ⟨fun h' => by simp [testP, hs] at h', Or.inl rfl⟩
    | true => rw [h hs]; exact ⟨fun _ => rfl, Or.inr rfl⟩
  have hD : ∀ (s : St × Bool) (u : St), s.2 = false → (s.2 = true → u = s.1) := fun s u h h' => by simp [h] at h'
  have hF := evalG_inv (sm := semP) (ts := testP) (fun p => p.2 = false) (fun _ => true)
    (fun t _ _ s h => by simp [semP, h]) (fun s h => h)
  have hFp : ∀ a : Prog, a.valid = true → ∀ s, s.2 = false → (a.evalG semP testP s).2 = false :=
    fun a hv => hF.1 a hv (Prog.all_true _ (fun _ => rfl) a)
  have hFc : ∀ c : Chain, c.valid = true → ∀ s, s.2 = false → (c.evalG semP testP s).2 = false :=
    fun c hv => hF.2 c hv (Chain.all_true _ (fun _ => rfl) c)
  exact ⟨fun a hv p h => evalG_sim hsm hts hD (fun _ h => h) hFp hFc a hv (Prog.all_true _ (fun _ => rfl) a) p p.1
      (fun _ => rfl) h,
    fun c hv p h => evalG_sim_chain hsm hts hD (fun _ h => h) hFp hFc c hv (Chain.all_true _ (fun _ => rfl) c) p p.1
      (fun _ => rfl) h⟩

theorem evalM_chain : ∀ (c : Chain), c.valid = true → ∀ (p : St × Bool), (c.evalG semP testP p).2 = true →
    c.evalG semM test p.1 = c.evalG sem test p.1 :=
  fun c hv p h => (evalM_fst.2 c hv p h).trans (evalP_fst.2 c hv p)

/-- on a run the reference calls specified, the machine's token meanings give the reference result -/
theorem evalG_semM_eq (a : Prog) (hv : a.valid = true) (params : List Value) (svars : Vars)
    (hs : specified a params svars = true) :
    a.evalG semM test { params := pad9 params, svars := svars } = eval a { params := pad9 params, svars := svars } :=
  (evalM_fst.1 a hv ({ params := pad9 params, svars := svars }, true) hs).trans (evalP_fst.1 a hv _)

/-- tokens other than printf formats: the reference specifies every run of a program made of them -/
def notFmt : Tok → Bool
  | .fmt _ => false
  | _ => true

theorem unspecified_notFmt (t : Tok) (hv : t.valid = true) (hn : notFmt t = true) (s : St) : unspecified t s = false := by
  cases t <;> simp_all [unspecified, notFmt, Tok.valid]

theorem specP : (∀ a : Prog, a.valid = true → a.all notFmt = true → ∀ p : St × Bool, p.2 = true →
      (a.evalG semP testP p).2 = true) ∧
    (∀ c : Chain, c.valid = true → c.all notFmt = true → ∀ p : St × Bool, p.2 = true → (c.evalG semP testP p).2 = true) :=
  evalG_inv (fun p : St × Bool => p.2 = true) notFmt
    (fun t hv hn s h => by simp [semP, h, unspecified_notFmt t hv hn]) (fun s h => h)

theorem specP_chain : ∀ (c : Chain), c.valid = true → c.all notFmt = true → ∀ (p : St × Bool), p.2 = true →
    (c.evalG semP testP p).2 = true := specP.2

theorem specified_of_notFmt (a : Prog) (hv : a.valid = true) (hn : a.all notFmt = true) (params : List Value)
    (svars : Vars) : specified a params svars = true :=
  specP.1 a hv hn _ rfl

end Tcell.TParm
