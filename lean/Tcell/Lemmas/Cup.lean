import Tcell.Lemmas.TPuts
import Tcell.Lemmas.TParmRefine
import Tcell.Base.Dec
/-
C15 and layer B: decimal rendering round trip for the model's `natDigits` / `itoa` and the reference's `readDec`; the
cursor-address decoders invert the encoders for every position; what `TParm` returns for the parameterised strings of
the database, for all parameter values.  The strings fall into a few families (`decProg`: literal pieces with `%p_i %d`
between them; cursor addresses; `%p_i %{k} %+ %d`; the three-way selection `idxCond` of the palette strings), each a
composition of fragments (`Runs`): a string that sets two colours is two one-colour fragments side by side.
-/
namespace Tcell.TParm
open Tcell.Spec.TermCaps

theorem natDigitsAux_eq (fuel n : Nat) (acc : Bytes) (h : n < fuel) :
    natDigitsAux fuel n acc = Dec.showDec n ++ acc := by
  induction fuel generalizing n acc with
  | zero => omega
  | succ fuel ih =>
    rw [Dec.showDec_eq]
    simp only [natDigitsAux]
    by_cases h10 : n < 10
    · simp [h10]
    · simp only [h10, if_false]
      rw [ih (n / 10) _ (by omega)]
      simp

theorem natDigits_eq (n : Nat) : natDigits n = Dec.showDec n := by
  simp [natDigits, natDigitsAux_eq (n + 1) n [] (by omega)]

theorem natDigits_digits (n : Nat) : ∀ c ∈ natDigits n, isDigit c = true := by
  rw [natDigits_eq]; exact Dec.showDec_allDigits n

theorem natDigits_ne_nil (n : Nat) : natDigits n ≠ [] := by
  rw [natDigits_eq]; exact Dec.showDec_ne_nil n

theorem decVal_snoc (a : Bytes) (d : Nat) : decVal (a ++ [d]) = decVal a * 10 + (d - 48) := by
  simp [decVal, List.foldl_append]

theorem decVal_showDec (n : Nat) : decVal (Dec.showDec n) = n := by
  induction n using Nat.strongRecOn with
  | _ n ih =>
    rw [Dec.showDec_eq]
    by_cases h : n < 10
    · simp [h, decVal]
    · simp only [h, if_false]
      rw [decVal_snoc, ih (n / 10) (by omega)]
      omega

theorem decVal_natDigits (n : Nat) : decVal (natDigits n) = n := by
  rw [natDigits_eq]; exact decVal_showDec n

theorem readDec_natDigits (n c : Nat) (rest : Bytes) (hc : isDigit c = false) :
    readDec (natDigits n ++ c :: rest) = some (n, c :: rest) := by
  have h := takeWhile_all_append isDigit (natDigits n) (c :: rest) (natDigits_digits n)
    (by intro x hx; simp at hx; subst hx; exact hc)
  unfold readDec
  simp only [h.1, h.2, decVal_natDigits]
  have := natDigits_ne_nil n
  cases hd : natDigits n with
  | nil => exact absurd hd this
  | cons x xs => simp

theorem itoa_nonneg (n : Nat) : itoa (n : Int) = natDigits n := by
  simp [itoa]

/-- every decoder inverts its encoder, for ALL positions -/
theorem decode_encode (fam : CupFamily) (r c : Nat) : fam.decode (fam.encode r c) = some (r, c) := by
  cases fam with
  | ansi =>
    simp only [CupFamily.encode, List.cons_append, List.nil_append, List.append_assoc, CupFamily.decode]
    rw [readDec_natDigits (r + 1) 59 _ (by decide)]
    simp only
    rw [readDec_natDigits (c + 1) 72 _ (by decide)]
    simp
  | vt52 => simp [CupFamily.encode, CupFamily.decode]
  | wyse => simp [CupFamily.encode, CupFamily.decode]
  | hp =>
    simp only [CupFamily.encode, List.cons_append, List.nil_append, List.append_assoc, CupFamily.decode]
    rw [readDec_natDigits r 121 _ (by decide)]
    simp only
    rw [readDec_natDigits c 67 _ (by decide)]
    rfl

/-! ### the families of parameterised strings the database uses, as program fragments -/

open Tcell.Spec.Terminfo5

/-- parameter `i` (counted from 1) read as a number -/
def argInt (ps : List Value) (i : Nat) : Int := (ps.getD (i - 1) (.str [])).toInt

theorem put_put (s : St) (a b : Bytes) : put (put s a) b = put s (a ++ b) := by simp [put]

theorem param_valid {i : Nat} (hi : 1 ≤ i ∧ i ≤ 9) : (Tok.param i).valid = true := by simp [Tok.valid, hi]

/-- `%p_i %d` prints the parameter in decimal -/
theorem runs_pd (v : Variant) (i : Nat) (hi : 1 ≤ i ∧ i ≤ 9) :
    Runs v [37, 112, 48 + i, 37, 100] (fun s => put s (itoa (argInt s.params i))) :=
  (Runs.tok v (.param i) rfl (param_valid hi)).append (Runs.tok v .outD rfl rfl)

/-- the token `t` pushes the constant `k` (`%{k}`, `%'c'`) -/
def Pushes (v : Variant) (t : Tok) (k : Int) : Prop :=
  tokOk v t = true ∧ t.valid = true ∧ ∀ s, semM t s = { s with stk := .int k :: s.stk }

/-- `%p_i t %+` leaves `p_i + k` on the stack -/
theorem runs_paramPlus (v : Variant) (i : Nat) {t : Tok} {k : Int} (h : Pushes v t k) (hi : 1 ≤ i ∧ i ≤ 9 := by decide) :
    Runs v (37 :: 112 :: (48 + i) :: (t.render ++ [37, 43]))
      (fun s => { s with stk := .int (wrap64 (argInt s.params i + k)) :: s.stk }) := fun rest s => by
  refine (((Runs.tok v (.param i) rfl (param_valid hi)).append (Runs.tok v t h.1 h.2.1)).append
    (Runs.tok v (.bin .add) rfl rfl) rest s).trans ?_
  show runL v rest (semM (.bin .add) (semM t (semM (.param i) s))) .emit = _
  rw [h.2.2]
  rfl

/-- `ESC [ %p1 t %+ %d m`: `ESC [ p1+k m` -/
theorem tparmV_add1 (v : Variant) {t : Tok} {k : Int} (h : Pushes v t k) (n : Int) (sv : Vars) :
    tparmV v ([27, 91] ++ 37 :: 112 :: 49 :: (t.render ++ [37, 43]) ++ [37, 100] ++ [109]) [.int n] sv =
      ([27, 91] ++ itoa (wrap64 (n + k)) ++ [109], sv) := by
  refine (((((Runs.lits v [27, 91]).append (runs_paramPlus v 1 h)).append
    (Runs.tok v .outD rfl rfl)).append (Runs.lits v [109])).tparmV _ sv).trans ?_
  simp [put, semM, sem, popInt, argInt, pad9, Value.toInt]

/-- … and for two parameters: `ESC [ p1+k ; p2+k' m` -/
theorem tparmV_add2 (v : Variant) {t t' : Tok} {k k' : Int} (h : Pushes v t k) (h' : Pushes v t' k') (f g : Int)
    (sv : Vars) :
    tparmV v ([27, 91] ++ 37 :: 112 :: 49 :: (t.render ++ [37, 43]) ++ [37, 100] ++ [59] ++
        37 :: 112 :: 50 :: (t'.render ++ [37, 43]) ++ [37, 100] ++ [109]) [.int f, .int g] sv =
      ([27, 91] ++ itoa (wrap64 (f + k)) ++ [59] ++ itoa (wrap64 (g + k')) ++ [109], sv) := by
  refine ((((((((Runs.lits v [27, 91]).append (runs_paramPlus v 1 h)).append
    (Runs.tok v .outD rfl rfl)).append (Runs.lits v [59])).append
    (runs_paramPlus v 2 h')).append (Runs.tok v .outD rfl rfl)).append
    (Runs.lits v [109])).tparmV _ sv).trans ?_
  simp [put, semM, sem, popInt, argInt, pad9, Value.toInt]

/-- Eterm's `%{30}` and `%'('` -/
theorem pushes_30 (v : Variant) : Pushes v (.num [51, 48]) 30 := ⟨rfl, rfl, fun _ => rfl⟩
theorem pushes_40 (v : Variant) : Pushes v (.chr 40) 40 := ⟨rfl, rfl, fun _ => rfl⟩

/-- literal pieces with `%p_i %d`, `%p_{i+1} %d`, … between them -/
def decProg : Nat → Bytes → List Bytes → Bytes
  | _, l, [] => l
  | i, l, l' :: ls => l ++ ([37, 112, 48 + i, 37, 100] ++ decProg (i + 1) l' ls)

/-- what `decProg` prints after `acc`: the pieces with the parameters in decimal between them -/
def decOut (ps : List Value) : Nat → Bytes → List Bytes → Bytes
  | _, acc, [] => acc
  | i, acc, l :: ls => decOut ps (i + 1) (acc ++ itoa (argInt ps i) ++ l) ls

theorem decOut_append (ps : List Value) (x : Bytes) : ∀ (ls : List Bytes) (i : Nat) (acc : Bytes),
    decOut ps i (x ++ acc) ls = x ++ decOut ps i acc ls
  | [], _, _ => rfl
  | l :: ls, i, acc => by rw [decOut, decOut, List.append_assoc x, List.append_assoc x, decOut_append ps x ls]

theorem runs_decProg (v : Variant) : ∀ (ls : List Bytes) (i : Nat) (l : Bytes), 1 ≤ i → i + ls.length ≤ 10 →
    (∀ l' ∈ l :: ls, ∀ x ∈ l', x ≠ 37) → Runs v (decProg i l ls) (fun s => put s (decOut s.params i l ls))
  | [], _, l, _, _, h => Runs.lits v l (h l (by simp))
  | l' :: ls, i, l, h1, h9, h => fun rest s => by
    simp only [List.length_cons] at h9
    have := ((Runs.lits v l (h l (by simp))).append (runs_pd v i ⟨h1, by omega⟩)).append
      (runs_decProg v ls (i + 1) l' (by omega) (by omega) fun x hx => h x (by simp [hx])) rest s
    rw [List.append_assoc l] at this
    dsimp only at this ⊢
    rw [decProg, this, put_put, put_put, decOut, ← List.append_assoc, ← decOut_append]
    rfl

/-- a program of the family: `TParm` returns its pieces with the first parameters in decimal between them -/
theorem tparmV_dec (v : Variant) (l : Bytes) (ls : List Bytes) (ps : List Value) (sv : Vars)
    (h9 : ls.length ≤ 9 := by decide) (h : ∀ l' ∈ l :: ls, ∀ x ∈ l', x ≠ 37 := by decide) :
    tparmV v (decProg 1 l ls) ps sv = (decOut (pad9 ps) 1 l ls, sv) := by
  rw [(runs_decProg v ls 1 l (Nat.le_refl 1) (by omega) h).tparmV]
  simp [put]

/-- the ANSI cursor address `ESC [ %i %p1 %d ; %p2 %d H`, followed by bytes that are copied (padding):
`ESC [ row+1 ; col+1 H` in decimal -/
theorem tparmV_cup (v : Variant) (pad : Bytes) (hp : ∀ x ∈ pad, x ≠ 37) (row col : Int) (sv : Vars) :
    tparmV v (27 :: 91 :: 37 :: 105 :: decProg 1 [] [[59], 72 :: pad]) [.int row, .int col] sv =
      ([27, 91] ++ itoa (wrap64 (row + 1)) ++ [59] ++ itoa (wrap64 (col + 1)) ++ 72 :: pad, sv) := by
  have := ((Runs.lits v [27, 91]).append (Runs.tok v .incr rfl rfl)).append
    (runs_decProg v [[59], 72 :: pad] 1 [] (by decide) (by simp) (by simpa using hp))
  refine (this.tparmV _ sv).trans ?_
  simp [put, semM, sem, decOut, argInt, pad9, incParam, List.modify, Value.toInt]

/-- the offset-32 cursor addresses `x y %p1 %' ' %+ %c %p2 %' ' %+ %c`: `x y`, then row+32 and col+32 as single bytes -/
theorem tparmV_offset32 (v : Variant) (x y : Nat) (hx : x ≠ 37) (hy : y ≠ 37) (row col : Int) (sv : Vars) :
    tparmV v [x,y,37,112,49,37,39,32,39,37,43,37,99,37,112,50,37,39,32,39,37,43,37,99] [.int row, .int col] sv =
      ([x, y, (wrap64 (row + 32) % 256).toNat, (wrap64 (col + 32) % 256).toNat], sv) := by
  have plus (i : Nat) (hi : 1 ≤ i ∧ i ≤ 9) := (runs_paramPlus v i (t := .chr 32) (k := 32) ⟨rfl, rfl, fun _ => rfl⟩ hi).append
    (Runs.tok v .outC rfl rfl)
  refine ((((Runs.lits v [x, y] (by simp [hx, hy])).append (plus 1 (by decide))).append
    (plus 2 (by decide))).tparmV _ sv).trans ?_
  simp [put, semM, sem, popInt, argInt, pad9, Value.toInt]

/-- the inside of the three-way selection the palette strings make on parameter `i`:
`%p_i %{8} %< %t a %p_i %d %e %p_i %{16} %< %t b %p_i %{8} %- %d %e c %p_i %d` -/
def idxChain (i : Nat) (a b c : Bytes) : Chain :=
  .elif (ofToks [.param i, .num [56], .bin .lt]) (ofToks (a.map .lit ++ [.param i, .outD]))
    (.els (ofToks [.param i, .num [49, 54], .bin .lt]) (ofToks (b.map .lit ++ [.param i, .num [56], .bin .sub, .outD]))
      (ofToks (c.map .lit ++ [.param i, .outD])))

/-- … between `%?` and `%;` -/
def idxCond (i : Nat) (a b c : Bytes) : Bytes := 37 :: 63 :: ((idxChain i a b c).render ++ [37, 59])

/-- what it prints for the value `n` of the parameter: `a n` for the basic eight, `b (n-8)` for the bright eight, else `c n` -/
def idxOut (a b c : Bytes) (n : Int) : Bytes :=
  if n < 8 then a ++ itoa n else if n < 16 then b ++ itoa (wrap64 (n - 8)) else c ++ itoa n

theorem foldl_lits (l : Bytes) (s : St) : (l.map Tok.lit).foldl (fun s t => semM t s) s = put s l := by
  induction l generalizing s with
  | nil => simp [put]
  | cons b l ih =>
    rw [List.map_cons, List.foldl_cons, ih]
    simp [semM, sem, put]

theorem test_lt (i : Nat) (ds : Bytes) (s : St) :
    test (semM (.bin .lt) (semM (.num ds) (semM (.param i) s))) = (decide (argInt s.params i < decVal ds), s) := by
  simp only [semM, sem, pop2, popInt, BinOp.apply, test, ofBool, Value.toInt.eq_1, argInt]
  split <;> simp_all

theorem lits_valid (l : Bytes) (h : ∀ x ∈ l, x ≠ 37 ∧ x < 256) : (l.map Tok.lit).all Tok.valid = true := by
  simpa [Tok.valid] using h

/-- the selection is an else-if chain without nesting: the structural evaluator gives its meaning (`exec_chain`) -/
theorem runs_idxCond (v : Variant) (i : Nat) (a b c : Bytes) (h : ∀ x ∈ a ++ (b ++ c), x ≠ 37 ∧ x < 256)
    (hi : 1 ≤ i ∧ i ≤ 9 := by decide) :
    Runs v (idxCond i a b c) (fun s => put s (idxOut a b c (argInt s.params i))) := by
  have hp := param_valid hi
  have ha := lits_valid a fun x hx => h x (by simp [hx])
  have hb := lits_valid b fun x hx => h x (by simp [hx])
  have hc := lits_valid c fun x hx => h x (by simp [hx])
  have hv : (idxChain i a b c).valid = true := by
    simp [idxChain, Chain.valid, valid_ofToks, List.all_append, ha, hb, hc, hp]
    decide
  have hok : (idxChain i a b c).all (tokOk v) = true := by
    simp [idxChain, Chain.all, all_ofToks, List.all_append, List.all_map, Function.comp, tokOk]
  have hd : (idxChain i a b c).depth = 0 := by simp [idxChain, Chain.depth, depth_ofToks]
  intro rest s
  simp only [idxCond, List.cons_append, List.append_assoc]
  rw [runL_qm, exec_chain v _ hv hok (Or.inr hd)]
  congr 1
  simp only [idxChain, Chain.evalG, evalG_ofToks, List.foldl_cons, List.foldl_nil, List.foldl_append, foldl_lits, test_lt]
  have e1 : ∀ (l : Bytes), semM .outD (semM (.param i) (put s l)) = put s (l ++ itoa (argInt s.params i)) :=
    fun l => put_put s l _
  have e2 : semM .outD (semM (.bin .sub) (semM (.num [56]) (semM (.param i) (put s b)))) =
      put s (b ++ itoa (wrap64 (argInt s.params i - 8))) := put_put s b _
  rw [e1, e1, e2]
  simp only [show decVal [56] = 8 from rfl, show decVal [49, 54] = 16 from rfl, decide_eq_true_eq, idxOut,
    apply_ite (put s)]
  rfl

/-- a palette string for one colour: `ESC [`, the selection on `%p1`, `m` -/
theorem tparmV_idx1 (v : Variant) (a b c : Bytes) (n : Int) (sv : Vars)
    (h : ∀ x ∈ a ++ (b ++ c), x ≠ 37 ∧ x < 256 := by decide) :
    tparmV v ([27, 91] ++ idxCond 1 a b c ++ [109]) [.int n] sv = ([27, 91] ++ idxOut a b c n ++ [109], sv) := by
  have := ((Runs.lits v [27, 91]).append (runs_idxCond v 1 a b c h)).append
    (Runs.lits v [109])
  rw [this.tparmV]
  simp [put, argInt, pad9, Value.toInt]

/-- a palette string for two colours: `ESC [`, the selection on `%p1`, `;`, the selection on `%p2`, `m` -/
theorem tparmV_idx2 (v : Variant) (a b c a' b' c' : Bytes) (f g : Int) (sv : Vars)
    (h : ∀ x ∈ a ++ (b ++ c), x ≠ 37 ∧ x < 256 := by decide) (h' : ∀ x ∈ a' ++ (b' ++ c'), x ≠ 37 ∧ x < 256 := by decide) :
    tparmV v ([27, 91] ++ idxCond 1 a b c ++ [59] ++ idxCond 2 a' b' c' ++ [109]) [.int f, .int g] sv =
      ([27, 91] ++ idxOut a b c f ++ [59] ++ idxOut a' b' c' g ++ [109], sv) := by
  have := ((((Runs.lits v [27, 91]).append (runs_idxCond v 1 a b c h)).append
    (Runs.lits v [59])).append (runs_idxCond v 2 a' b' c' h')).append
    (Runs.lits v [109])
  rw [this.tparmV]
  simp [put, argInt, pad9, Value.toInt]

end Tcell.TParm

namespace Tcell.TPuts
open Tcell.TParm Tcell.Spec.TermCaps

theorem strip_append_no36 (x y : Bytes) (h : ∀ b ∈ x, b ≠ 36) : stripPadding (x ++ y) = x ++ stripPadding y := by
  induction x with
  | nil => rfl
  | cons b r ih =>
    rw [List.cons_append, strip_cons, matchPad_none_of' b _ (by intro hh; exact h b (by simp) hh.1)]
    simp only
    rw [ih (fun z hz => h z (by simp [hz]))]
    rfl

theorem strip_no36 (x : Bytes) (h : ∀ b ∈ x, b ≠ 36) : stripPadding x = x := by
  have := strip_append_no36 x [] h
  simpa [strip_nil] using this

/-- a padding specification has at least three bytes -/
theorem strip_short : ∀ (s : Bytes), s.length < 3 → stripPadding s = s
  | [], _ => rfl
  | b :: r, h => by
    have hm : matchPad (b :: r) = none := by
      cases hm : matchPad (b :: r) with
      | none => rfl
      | some rest => have := matchPad_length _ _ hm; omega
    rw [strip_cons, hm]
    exact congrArg (b :: ·) (strip_short r (Nat.lt_of_succ_lt h))

end Tcell.TPuts
