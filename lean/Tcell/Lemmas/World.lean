/-
History-level invariant of the terminfo screen's draw path together with the abstract terminal it drives
(Layer A of C01/C13).  `World` = library state + what the tty reports + the terminal + ghost flags.
-/
import Tcell.Model.Screen
import Tcell.Lemmas.Draw
namespace Tcell
open Buf

/-- side conditions on the arguments of an operation (the domain of the theorems) -/
def ScrOp.Valid (c : DrawCfg) : ScrOp → Prop
  | .setContent _ _ _ _ st => st.attrs ≠ attrInvalid
  -- Fill is documented for width-1 runes only; the tree repaired by fixes/C09-fill-zero-width.patch (`c.fillZW`) also
  -- handles zero-width / control / invalid runes, i.e. (with `RwOk.nonneg`) every rune that is not wider than one column
  | .fill r st => st.attrs ≠ attrInvalid ∧ (c.rw r = 1 ∨ (c.fillZW = true ∧ c.rw r = 0))
  | .setStyle st => st.attrs ≠ attrInvalid
  | _ => True

instance (c : DrawCfg) (op : ScrOp) : Decidable (op.Valid c) := by
  cases op <;> unfold ScrOp.Valid <;> infer_instance

structure World where
  sw : ScrW := {}
  t : ATerm := {}
  /-- nothing outside the library has touched the display since it was last completely repainted -/
  trusted : Bool := true
  /-- the default style every clean StyleDefault cell was painted with (none: unknown / mixed) -/
  d : Option Style := none
  /-- no cell has been painted since every cell was invalidated -/
  fresh : Bool := true

/-- one operation: the library's move, the terminal interpreting what was written, the ghosts -/
def World.step (c : DrawCfg) (wd : World) (op : ScrOp) : World :=
  let r := wd.sw.step c op
  match op with
  | .ttyResizeQuiet w h => { wd with sw := r.1, t := wd.t.resized w h, trusted := false }
  | .ttyResizeNotify w h =>
    { sw := r.1, t := (wd.t.resized w h).applyAll r.2, trusted := true, d := some wd.sw.s.style, fresh := false }
  | .corrupt => { wd with t := wd.t.corrupt, trusted := false }
  | .sync => { sw := r.1, t := wd.t.applyAll r.2, trusted := true, d := some wd.sw.s.style, fresh := false }
  | .show =>
    if wd.sw.ttyw = wd.sw.s.w ∧ wd.sw.ttyh = wd.sw.s.h then
      { sw := r.1, t := wd.t.applyAll r.2, trusted := wd.trusted,
        d := if wd.fresh then some wd.sw.s.style else if wd.d = some wd.sw.s.style then wd.d else none, fresh := false }
    else
      { sw := r.1, t := wd.t.applyAll r.2, trusted := true, d := some wd.sw.s.style, fresh := false }
  | _ => { wd with sw := r.1, t := wd.t.applyAll r.2 }

def World.init (w h : Int) : World :=
  { sw := ScrW.init w h, t := { w := w, h := h }, trusted := true, d := none, fresh := true }

def World.run (c : DrawCfg) (wd : World) (ops : List ScrOp) : World := ops.foldl (World.step c) wd

theorem Cell.last_eq (c c' : Cell) (h1 : c'.lastMain = c.lastMain) (h2 : c'.lastComb = c.lastComb) (h3 : c'.lastStyle = c.lastStyle) :
    c'.last = c.last := by simp [Cell.last, h1, h2, h3]

theorem merge_attrs (o n : Style) : (o.merge n).attrs = n.attrs := rfl

theorem CellStep.lock (rw : Rune → Int) (c : Cell) : CellStep rw c (c.setLock true) :=
  ⟨fun hl _ => absurd hl (by simp), id, id, id⟩

theorem CellStep.unlock (rw : Rune → Int) (c : Cell) : CellStep rw c (c.setLock false).markDirty :=
  ⟨fun _ hm => absurd rfl hm, fun _ => rfl, id, id⟩

theorem CellStep.store (rw : Rune → Int) (c : Cell) (m : Rune) (comb : List Rune) (st : Style)
    (hst : st.attrs ≠ attrInvalid) : CellStep rw c (c.store rw m comb st) := by
  refine ⟨fun hl hm => ⟨hl, hm, rfl⟩, id, fun hw => ?_, fun _ => hst⟩
  simp only [WOk, Cell.store_width, Cell.store_currMain] at hw ⊢
  by_cases hh : c.currMain = m
  · simpa [hh] using hw
  · simp [hh]

theorem CellStep.filled (rw : Rune → Int) (c : Cell) (r : Rune) (st : Style) (hst : st.attrs ≠ attrInvalid)
    (hr : rw r = 1) : CellStep rw c (c.filled r st) :=
  ⟨fun hl hm => ⟨hl, hm, rfl⟩, id, fun _ => Or.inl (by simp [Cell.filled, hr]), fun _ => hst⟩

theorem bufStep_setContent (rw : Rune → Int) (b : Buf) (x y : Int) (m : Rune) (comb : List Rune) (st : Style)
    (hst : st.attrs ≠ attrInvalid) : BufStep rw b (b.setContent rw x y m comb st) := by
  refine ⟨by simp, by simp, fun i j => ?_⟩
  have hpre : CellStep rw (b.cells i j) ((b.preDirty x y m comb).cells i j) := by
    rcases preDirty_cases b x y m comb i j with e | e <;> rw [e]
    · exact .refl _ _
    · exact .markDirty _ _
  rw [setContent_cells]
  split
  · split
    · exact hpre.trans (.store _ _ _ _ _ hst)
    · exact hpre
  · exact .refl _ _

theorem bufStep_fill (rw : Rune → Int) (b : Buf) (r : Rune) (st : Style) (hst : st.attrs ≠ attrInvalid) (hr : rw r = 1) :
    BufStep rw b (b.fill r st) :=
  ⟨rfl, rfl, fun _ _ => .filled _ _ _ _ hst hr⟩

/-- Fill of either tree (`Buf.fillV`), for the runes `ScrOp.Valid` admits: the repaired Fill stores a blank for a
zero-width rune, so this is `bufStep_fill` at the substituted rune -/
theorem bufStep_fillV (fz : Bool) (rw : Rune → Int) (h32 : rw 32 = 1) (b : Buf) (r : Rune) (st : Style)
    (hst : st.attrs ≠ attrInvalid) (hr : rw r = 1 ∨ (fz = true ∧ rw r = 0)) : BufStep rw b (b.fillV fz rw r st) := by
  rw [fillV_eq]
  rcases hr with hr | ⟨hf, hr⟩
  · rw [Cell.fillRune_ne0 fz rw r (by omega)]; exact bufStep_fill rw b r st hst hr
  · subst hf; rw [Cell.fillRune_true_zero rw r hr]; exact bufStep_fill rw b 32 st hst h32

theorem bufStep_lockCell (rw : Rune → Int) (b : Buf) (x y : Int) : BufStep rw b (b.lockCell x y) := by
  refine ⟨by simp, by simp, fun i j => ?_⟩
  rw [lockCell_cells]; split
  · exact .lock _ _
  · exact .refl _ _

theorem bufStep_unlockCell (rw : Rune → Int) (b : Buf) (x y : Int) : BufStep rw b (b.unlockCell x y) := by
  refine ⟨by simp, by simp, fun i j => ?_⟩
  rw [unlockCell_cells]; split
  · exact .unlock _ _
  · exact .refl _ _

theorem bufStep_redirty (rw : Rune → Int) (b : Buf) (x y : Int) : BufStep rw b (b.setDirty x y true) := by
  refine ⟨by simp, by simp, fun i j => ?_⟩
  rw [setDirty_true_cells]; split
  · exact .markDirty _ _
  · exact .refl _ _

theorem bufStep_lockSteps (rw : Rune → Int) (b : Buf) (lock : Bool) : LockSteps lock (BufStep rw b) :=
  ⟨fun _ _ x y h => h.trans (bufStep_lockCell rw _ x y), fun _ _ x y h => h.trans (bufStep_unlockCell rw _ x y),
    fun _ _ x y h => h.trans (bufStep_redirty rw _ x y)⟩

/-- `BlankOk` reads the stored width and rune of the cell and, for a wide rune, the lock of its right neighbour; locking
more cells keeps it -/
theorem BlankOk.of_same {b b' : Buf} {i j : Int} (h : BlankOk b i j) (hw : b'.w = b.w) (hh : b'.h = b.h)
    (hc : (b'.cells i j).width = (b.cells i j).width ∧ (b'.cells i j).currMain = (b.cells i j).currMain)
    (hl : b.locked (i + 1) j = true → (b.getContent i j).2.2.2 > 1 →
      (b'.cells (i + 1) j).lock = true ∨ (b'.cells (i + 1) j).lock = (b.cells (i + 1) j).lock) : BlankOk b' i j := by
  have hg : (b'.getContent i j).2.2.2 = (b.getContent i j).2.2.2 := by
    rw [gcw_eq, gcw_eq]; simp only [inRange_iff, hw, hh, hc.1, hc.2]
  refine ⟨hc.1 ▸ h.1, ?_⟩
  rw [hg]
  by_cases hg1 : (b.getContent i j).2.2.2 ≤ 1
  · exact Or.inr hg1
  · have hl0 := h.2.resolve_right hg1
    obtain ⟨hr, hk⟩ := (locked_true_iff ..).1 hl0
    refine Or.inl ((locked_true_iff ..).2 ⟨by simpa only [inRange_iff, hw, hh] using hr, ?_⟩)
    rcases hl hl0 (by omega) with e | e
    · exact e
    · exact e.trans hk

theorem BlankOk.dirtied {b b' : Buf} {i j : Int} (h : BlankOk b i j) (hw : b'.w = b.w) (hh : b'.h = b.h)
    (hc : ∀ i j, b'.cells i j = b.cells i j ∨ b'.cells i j = (b.cells i j).markDirty) : BlankOk b' i j :=
  h.of_same hw hh (by rcases hc i j with e | e <;> rw [e] <;> exact ⟨rfl, rfl⟩)
    (fun _ _ => Or.inr (by rcases hc (i + 1) j with e | e <;> rw [e]; rfl))

theorem setContent_blank (rw : Rune → Int) (b : Buf) (x y : Int) (m : Rune) (comb : List Rune) (st : Style) (i j : Int)
    (hm : ((b.setContent rw x y m comb st).cells i j).lastMain ≠ 0) (h : BlankOk b i j) :
    BlankOk (b.setContent rw x y m comb st) i j := by
  refine h.of_same (by simp) (by simp) ?_ (fun _ _ => Or.inr (setContent_lock ..))
  have hp : ((b.preDirty x y m comb).cells i j).width = (b.cells i j).width ∧
      ((b.preDirty x y m comb).cells i j).currMain = (b.cells i j).currMain := by
    rcases preDirty_cases b x y m comb i j with e | e <;> rw [e] <;> exact ⟨rfl, rfl⟩
  rw [setContent_cells] at hm ⊢
  split
  · rename_i hr
    split
    · -- the cell written to: it is clean afterwards only if the rune stored is the one it held, so the width stays
      rename_i hxy
      obtain ⟨rfl, rfl⟩ := hxy
      rw [if_pos hr, if_pos ⟨rfl, rfl⟩, Cell.store_lastMain] at hm
      have hmm : (b.cells i j).currMain = m :=
        Decidable.by_contra fun e => hm (preDirty_self b i j m comb hr h.1 (Or.inl (Ne.symm e)))
      rw [Cell.store_width, Cell.store_currMain, hp.2, if_neg (not_not_intro hmm)]
      exact ⟨hp.1, hmm.symm⟩
    · exact hp
  · exact ⟨rfl, rfl⟩

theorem fill_blank (b : Buf) (r : Rune) (st : Style) (i j : Int) : BlankOk (b.fill r st) i j := by
  unfold BlankOk
  refine ⟨by simp, Or.inr ?_⟩
  rw [gcw_eq]; simp only [fill_cells, Cell.filled_width]
  split
  · simp
  · omega

/-- Fill of either tree records width 1 in every cell, so every cell satisfies `BlankOk` afterwards -/
theorem fillV_blank (fz : Bool) (rw : Rune → Int) (b : Buf) (r : Rune) (st : Style) (i j : Int) :
    BlankOk (b.fillV fz rw r st) i j := by
  rw [fillV_eq]; exact fill_blank b _ st i j

theorem lockCell_blank (b : Buf) (x y : Int) (i j : Int) (h : BlankOk b i j) : BlankOk (b.lockCell x y) i j := by
  refine h.of_same (by simp) (by simp) ?_ (fun _ _ => ?_)
  · rw [lockCell_cells]; split <;> simp
  · rw [lockCell_cells]; split
    · left; simp
    · right; rfl

/-- LockRegion(…, true) keeps what the invariant remembers about guarded blanks -/
theorem blank_lockSteps (i j : Int) : LockSteps true (BlankOk · i j) :=
  ⟨fun _ b x y h => lockCell_blank b x y i j h, nofun, nofun⟩

/-- one row of an unlocking LockRegion of the repaired tree keeps what the invariant remembers about guarded blanks: a cell
whose right neighbour gets unlocked is itself unlocked-and-dirtied (inside the row) or re-dirtied (just left of it) -/
theorem lockRowG_false_blank (b : Buf) (x y w : Int) (i j : Int) (hr : b.inRange i j) (h : BlankOk b i j)
    (hm : ((lockRowG b x y w false).cells i j).lastMain ≠ 0) : BlankOk (lockRowG b x y w false) i j := by
  have hb : lockRowG b x y w false =
      if w > 0 ∧ b.locked x y = true then redirtyLeft (lockRow b x y false w.toNat) x y else lockRow b x y false w.toNat := by
    simp only [lockRowG, true_and]
  obtain ⟨hw', hh', _⟩ := lockRow_false_cells b x y w.toNat 0 0
  have hc' := fun i j => (lockRow_false_cells b x y w.toNat i j).2.2
  generalize lockRowG b x y w false = b1 at hb hm ⊢
  generalize lockRow b x y false w.toNat = b' at hb hw' hh' hc'
  -- `b'` is the row unlocked (closed form `hc'`), `b1` is `b'` up to the dirty mark of `redirtyLeft`
  have hd : b1.w = b'.w ∧ b1.h = b'.h ∧ ∀ i j, b1.cells i j = b'.cells i j ∨ b1.cells i j = (b'.cells i j).markDirty := by
    rw [hb]; split
    · exact ⟨(redirtyLeft_cells b' x y).1, (redirtyLeft_cells b' x y).2.1, (redirtyLeft_cells b' x y).2.2.1⟩
    · exact ⟨rfl, rfl, fun _ _ => Or.inl rfl⟩
  -- it remains to see that the lock of the right neighbour of a wide rune left of a locked cell is not touched
  refine (h.of_same hw' hh' (by rw [hc']; split <;> exact ⟨rfl, rfl⟩) (fun hl hg => Or.inr ?_)).dirtied hd.1 hd.2.1 hd.2.2
  rw [hc']
  by_cases hs : j = y ∧ x ≤ i + 1 ∧ i + 1 < x + w.toNat ∧ b.inRange (i + 1) j
  · -- the neighbour is unlocked by this row, so the cell is dirty afterwards
    exfalso; apply hm
    by_cases hx : x ≤ i
    · rcases hd.2.2 i j with e | e <;> rw [e, hc', if_pos ⟨hs.1, hx, by omega, hr⟩] <;> rfl
    · obtain rfl : i = x - 1 := by omega
      rw [show x - 1 + 1 = x by omega, hs.1] at hl
      rw [hb, if_pos ⟨by omega, hl⟩, hs.1]
      refine (redirtyLeft_cells b' x y).2.2.2 ?_
      rw [← hs.1, getContent_congr b b' hw' hh' (by rw [hc', if_neg (by omega)])]; exact hg
  · rw [if_neg hs]

/-- LockRegion(…, false) of the repaired tree keeps what the invariant remembers about guarded blanks -/
theorem lockRowsG_false_blank (b : Buf) (x y w : Int) (m : Nat) (i j : Int)
    (hr : b.inRange i j) (hm : ((lockRowsG b x y w false m).cells i j).lastMain ≠ 0) (h : BlankOk b i j) :
    BlankOk (lockRowsG b x y w false m) i j := by
  induction m with
  | zero => exact h
  | succ m ih =>
    rw [lockRowsG_succ] at hm ⊢
    have s0 := (bufStep_lockSteps (fun _ => 0) b false).lockRowsG (.refl _ b) x y w m
    have s1 := (bufStep_lockSteps (fun _ => 0) _ false).lockRowG (.refl _ (lockRowsG b x y w false m)) x (y + m) w
    exact lockRowG_false_blank _ x (y + m) w i j (by simpa only [inRange_iff, s0.w, s0.h] using hr)
      (ih fun e => hm ((s1.cell i j).dirty e)) hm

/-- invariant of every reachable world -/
structure WInv (c : DrawCfg) (wd : World) : Prop where
  buf : BufOkS c wd.sw.s
  tdim : wd.t.w = wd.sw.ttyw ∧ wd.t.h = wd.sw.ttyh
  clear : wd.sw.s.clear = false
  fini : wd.sw.s.fini = false
  /-- while the library has not yet noticed a size change, nothing is known about the display -/
  mism : (wd.sw.s.w ≠ wd.sw.ttyw ∨ wd.sw.s.h ≠ wd.sw.ttyh) → ∀ x y, wd.t.grid x y = .garbage
  tr : wd.trusted = true → SyncInv c wd.d wd.sw.s wd.t
  fr : wd.fresh = true → AllDirty wd.sw.s

theorem allGarbage_grid (t : ATerm) (x y : Int) : t.allGarbage.grid x y = .garbage := rfl

theorem apply_dims (t : ATerm) (cmd : Cmd) : (t.apply cmd).w = t.w ∧ (t.apply cmd).h = t.h := by
  cases cmd with
  | put b w =>
    simp only [ATerm.apply]
    split
    · split
      · simp
      · exact ⟨rfl, rfl⟩
    · exact ⟨rfl, rfl⟩
  | insertChar =>
    simp only [ATerm.apply]; split
    · split <;> exact ⟨rfl, rfl⟩
    · exact ⟨rfl, rfl⟩
  | _ => exact ⟨rfl, rfl⟩

theorem applyAll_dims (t : ATerm) (cs : List Cmd) : (t.applyAll cs).w = t.w ∧ (t.applyAll cs).h = t.h := by
  induction cs generalizing t with
  | nil => exact ⟨rfl, rfl⟩
  | cons c cs ih =>
    have := ih (t.apply c); have h2 := apply_dims t c
    simp only [ATerm.applyAll, List.foldl_cons] at this ⊢
    exact ⟨this.1.trans h2.1, this.2.trans h2.2⟩

/-- `Buf.resize` builds its cells from old cells by `Cell.carry` and from `{}` -/
theorem resize_cells_ind {P : Cell → Prop} (b : Buf) (w h : Int) (hc : ∀ cl, P cl → P cl.carry) (h0 : P {})
    (hb : ∀ x y, P (b.cells x y)) (x y : Int) : P ((b.resize w h).cells x y) := by
  by_cases hh : b.h = h ∧ b.w = w
  · obtain ⟨rfl, rfl⟩ := hh; rw [resize_same]; exact hb x y
  · rw [resize_cells _ _ _ _ _ hh]; split
    · exact hc _ (hb x y)
    · exact h0

/-- the buffer after `resize` to the tty's size followed by Invalidate -/
theorem resize_invalidate_ok {c : DrawCfg} (hrw : RwOk c.rw) (s : Scr) (w h : Int) (hb : BufOkS c s) :
    BufOkS c { s with cx := -1, cy := -1, cells := (s.cells.resize w h).invalidate, w := w, h := h } ∧
    AllDirty { s with cx := -1, cy := -1, cells := (s.cells.resize w h).invalidate, w := w, h := h } := by
  have hc := resize_cells_ind (P := fun cl => WOk c.rw cl ∧ cl.currStyle.attrs ≠ attrInvalid) s.cells w h
    (fun cl h => h) ⟨Or.inl hrw.zero.symm, by decide⟩ (fun x y => ⟨hb.wok x y, hb.valid.2 x y⟩)
  exact ⟨{ cw := resize_w .., ch := resize_h .., wok := fun x y => wok_markDirty _ (hc x y).1,
           valid := ⟨hb.valid.1, fun x y => (hc x y).2⟩ }, fun _ _ _ => rfl⟩

theorem invalidate_ok {c : DrawCfg} (s : Scr) (hb : BufOkS c s) (cl : Bool) :
    BufOkS c { s with cells := s.cells.invalidate, clear := cl } ∧
    AllDirty { s with cells := s.cells.invalidate, clear := cl } :=
  ⟨{ cw := hb.cw, ch := hb.ch, wok := fun x y => wok_markDirty _ (hb.wok x y), valid := hb.valid }, fun _ _ _ => rfl⟩

theorem BufOkS.of_rel {c : DrawCfg} (hrw : RwOk c.rw) {s s' : Scr} (hb : BufOkS c s) (r : ScrRel s s') : BufOkS c s' :=
  { cw := by rw [r.cw, r.w]; exact hb.cw, ch := by rw [r.ch, r.h]; exact hb.ch,
    wok := fun x y => (r.cells x y).wok hrw (hb.wok x y),
    valid := ⟨by rw [r.style]; exact hb.valid.1, fun x y => by rw [(r.cells x y).2.1]; exact hb.valid.2 x y⟩ }

/-- what the terminal displays, stated on a world right after a draw whose loop started from buffer `pre` -/
structure Displays (c : DrawCfg) (pre : Buf) (wd : World) : Prop where
  /-- the draw changed neither the size, nor what the cells hold, nor the locks -/
  same : wd.sw.s.cells.w = pre.w ∧ wd.sw.s.cells.h = pre.h ∧ (∀ i j, wd.sw.s.cells.getContent i j = pre.getContent i j) ∧
    ∀ i j, (wd.sw.s.cells.cells i j).lock = (pre.cells i j).lock
  /-- every unlocked cell the draw loop visited (= not the hidden right half of a wide rune) is clean now -/
  cleaned : ∀ x y, pre.inRange x y → visitedG c pre x y = true → (pre.cells x y).lock = false →
    wd.sw.s.cells.dirty x y = false
  /-- every clean unlocked cell — in particular every visited one — shows its current content in its style: two columns wide
  for a wide rune, a blank for a wide rune in the last column, and (`nl`, repaired drawCell only) a blank of width 1 for a
  wide rune whose right neighbour is locked *now*; a two-column glyph has its continuation cell -/
  cells : ∀ x y, wd.sw.s.cells.inRange x y → (wd.sw.s.cells.cells x y).lock = false → wd.sw.s.cells.dirty x y = false →
      ∃ st' nl, wd.t.grid x y = shownOfG c wd.sw.s.w x (wd.sw.s.cells.cells x y).currMain (wd.sw.s.cells.cells x y).currComb st' nl ∧
        ((wd.sw.s.cells.cells x y).currStyle ≠ {} → st' = (wd.sw.s.cells.cells x y).currStyle) ∧
        ((wd.sw.s.cells.cells x y).currStyle = {} → ∀ d', wd.d = some d' → st' = d') ∧
        (nl = true → obsWidth c.rw (wd.sw.s.cells.cells x y).currMain > 1 →
          c.guardLocked = true ∧ wd.sw.s.cells.locked (x + 1) y = true) ∧
        (∀ b st, wd.t.grid x y = .shown b true st → x + 1 < wd.sw.s.w → wd.t.grid (x + 1) y = .cont)
  /-- the cursor is visible at the requested cell, or hidden (parked bottom-right if it cannot be hidden) -/
  cursor :
    (wd.sw.s.cells.inRange wd.sw.s.cursorx wd.sw.s.cursory →
      wd.t.cur = some (wd.sw.s.cursorx, wd.sw.s.cursory) ∧ wd.t.visible = some true ∧
      wd.t.shape = some (wd.sw.s.cursorStyle, wd.sw.s.cursorColor)) ∧
    (¬ wd.sw.s.cells.inRange wd.sw.s.cursorx wd.sw.s.cursory →
      (c.hasHide = true → wd.t.visible = some false) ∧
      (c.hasHide = false → wd.t.cur = some (wd.t.clampX wd.sw.s.w, wd.t.clampY wd.sw.s.h)))

theorem resize_same_size (s : Scr) : s.resize (some (s.w, s.h)) = s := by simp [Scr.resize]

theorem resize_diff (s : Scr) (w h : Int) (hne : ¬ (w = s.w ∧ h = s.h)) :
    s.resize (some (w, h)) = { s with cx := -1, cy := -1, cells := (s.cells.resize w h).invalidate, w := w, h := h } := by
  simp [Scr.resize, hne]

theorem CornerSafe.of_plain {c : DrawCfg} (hct : c.Plain) (s : Scr) : CornerSafe c s := by
  intro h; rw [hct.ct] at h; exact absurd h (by decide)

/-- a draw changes neither the size nor the locks: the side condition may be read off the screen the draw leaves -/
theorem CornerSafe.of_draw {c : DrawCfg} {s : Scr} (h : CornerSafe c (s.draw c).1) : CornerSafe c s := by
  have r := (draw_rel c s).1
  intro hc
  obtain ⟨h2, hul⟩ := h hc
  exact ⟨r.w ▸ h2, fun i => (r.locked i _).symm.trans (r.h ▸ hul i)⟩

/-- executable form of `CornerSafe` (the hypothesis is decidable) -/
def cornerSafeB (c : DrawCfg) (s : Scr) : Bool :=
  !c.cornerTrick || (decide (2 ≤ s.w) && (List.range s.cells.w.toNat).all fun k => !(s.cells.locked (Int.ofNat k) (s.h - 1)))

theorem cornerSafe_of_B {c : DrawCfg} {s : Scr} (h : cornerSafeB c s = true) : CornerSafe c s := by
  intro hc
  simp only [cornerSafeB, hc, Bool.not_true, Bool.false_or, Bool.and_eq_true, decide_eq_true_eq, List.all_eq_true,
    List.mem_range, Bool.not_eq_true'] at h
  refine ⟨h.1, ?_⟩
  intro i
  by_cases hi : 0 ≤ i ∧ i < s.cells.w
  · have := h.2 i.toNat (by omega)
    have e : Int.ofNat i.toNat = i := by simp [Int.toNat_of_nonneg hi.1]
    rw [e] at this; exact this
  · simp only [Buf.locked, inRange_iff]
    rw [if_neg (by omega)]

/-- THE SIDE CONDITION for one operation performed in world `wd`: if the operation draws (Show, Sync, a resize that
reaches the library), the screen it leaves — draws change neither sizes nor locks, so equally the screen the draw
starts from — satisfies `CornerSafe`: on a terminal that needs the bottom-right insert-character trick it is at least
two columns wide and no cell of its last row is locked.  Vacuous when `c.cornerTrick = false`. -/
def World.SafeAt (c : DrawCfg) (wd : World) (op : ScrOp) : Prop :=
  match op with
  | .show => CornerSafe c (wd.step c .show).sw.s
  | .sync => CornerSafe c (wd.step c .sync).sw.s
  | .ttyResizeNotify w h => CornerSafe c (wd.step c (.ttyResizeNotify w h)).sw.s
  | _ => True

/-- the side condition along a whole history -/
def World.SafeRun (c : DrawCfg) : World → List ScrOp → Prop
  | _, [] => True
  | wd, op :: ops => wd.SafeAt c op ∧ World.SafeRun c (wd.step c op) ops

theorem World.SafeAt.of_plain {c : DrawCfg} (hct : c.Plain) (wd : World) (op : ScrOp) : wd.SafeAt c op := by
  cases op <;> first | trivial | exact CornerSafe.of_plain hct _

theorem World.SafeRun.of_plain {c : DrawCfg} (hct : c.Plain) : ∀ (ops : List ScrOp) (wd : World), World.SafeRun c wd ops
  | [], _ => trivial
  | op :: ops, wd => ⟨World.SafeAt.of_plain hct wd op, World.SafeRun.of_plain hct ops _⟩

/-- Show when the tty reports the size the screen has: a draw of the screen as it is -/
theorem World.step_show_same (c : DrawCfg) {wd : World} (hf : wd.sw.s.fini = false)
    (hsz : wd.sw.ttyw = wd.sw.s.w ∧ wd.sw.ttyh = wd.sw.s.h) :
    wd.step c .show =
      { sw := { wd.sw with s := (wd.sw.s.draw c).1 }, t := wd.t.applyAll (wd.sw.s.draw c).2, trusted := wd.trusted,
        d := if wd.fresh then some wd.sw.s.style else if wd.d = some wd.sw.s.style then wd.d else none, fresh := false } := by
  simp only [World.step, ScrW.step, Scr.show, hf, hsz, resize_same_size, and_self, if_true, Bool.false_eq_true, if_false]

theorem draw_style (c : DrawCfg) (s : Scr) : (s.draw c).1.style = s.style := (draw_rel c s).1.style

/-- the world a draw leaves — `sw` holds the screen after the draw of `s` (sized like the tty), the terminal has interpreted
its commands — satisfies the invariant and displays the screen -/
theorem draw_step {c : DrawCfg} (hrw : RwOk c.rw) (hct : c.Walk) {d : Option Style} {s : Scr} {t : ATerm} (pre : BufOk c s t)
    (inv : s.clear = false → SyncInv c d s t) (hclear : s.clear = true → AllDirty s) (hf : s.fini = false)
    (hsafe : CornerSafe c (s.draw c).1) (sw : ScrW) (hs : sw.s = (s.draw c).1) (hw : sw.ttyw = s.w) (hh : sw.ttyh = s.h)
    (tr : Bool) {d' : Option Style} (hd : (if d = some s.style then d else none) = d') :
    let W : World := { sw := sw, t := t.applyAll (s.draw c).2, trusted := tr, d := d', fresh := false }
    WInv c W ∧ Displays c s.cells W := by
  subst hd
  have dp := draw_post hrw hct pre inv hclear (CornerSafe.of_draw hsafe)
  rw [← hs] at dp
  have hcw : sw.s.cells.w = s.cells.w := by rw [dp.sync.cw, dp.w_same, pre.cw]
  have hch : sw.s.cells.h = s.cells.h := by rw [dp.sync.ch, dp.h_same, pre.ch]
  have hir : ∀ i j, sw.s.cells.inRange i j ↔ s.cells.inRange i j := fun i j => by simp only [inRange_iff, hcw, hch]
  obtain ⟨c1, c2, c3, c4⟩ := dp.cursor_same
  refine ⟨{ buf := dp.sync.bufOk.toBufOkS,
            tdim := ⟨by rw [hw, ← dp.w_same]; exact dp.sync.tw, by rw [hh, ← dp.h_same]; exact dp.sync.th⟩,
            clear := dp.clear_done, fini := dp.fini_same.trans hf,
            mism := fun h => absurd h (by rw [hw, hh, dp.w_same, dp.h_same]; simp),
            tr := fun _ => dp.sync, fr := fun h => absurd h Bool.false_ne_true },
          { same := ⟨hcw, hch, dp.gc_same, dp.lock_same⟩, cleaned := fun x y hr hv hl => ?_, cells := ?_, cursor := ?_ }⟩
  · show sw.s.cells.dirty x y = false
    rw [dirty, if_pos ((hir x y).2 hr)]
    exact (Cell.isDirty_false_iff _ ((dp.lock_same x y).trans hl)).2 (dp.done x y hr hv hl)
  · -- `SyncInv.g1`, `g3` of a clean cell, whose last content is its current content
    intro x y hr hl hd
    dsimp only at hr hl hd ⊢
    obtain ⟨hm, hlast⟩ := (Cell.isDirty_false_iff _ hl).1 (by simpa [dirty, hr] using hd)
    obtain ⟨st', nl, g1, g2, g3, g4⟩ := dp.sync.g1 x y hr hl hm
    simp only [Cell.last, Cell.content] at hlast; injection hlast with e1 e2; injection e2 with e2 e3
    rw [e1, e2] at g1; rw [e3] at g2 g3; rw [e1] at g4
    refine ⟨st', nl, g1, g2, g3, fun a1 a2 => ⟨(g4 a1 a2).1, (g4 a1 a2).2.2.resolve_right fun h => ?_⟩, dp.sync.g3 x y hr hl hm⟩
    rw [getContent_wok hrw _ x y hr (dp.sync.wok x y)] at h; simp only at h; omega
  · show (sw.s.cells.inRange sw.s.cursorx sw.s.cursory → _) ∧ (¬ sw.s.cells.inRange sw.s.cursorx sw.s.cursory → _ ∧ (_ → _ = _))
    rw [c1, c2, c3, c4, hir]
    refine ⟨dp.cursor.1, fun hr => ⟨(dp.cursor.2 hr).1, fun hh => ?_⟩⟩
    rw [(dp.cursor.2 hr).2 hh]
    simp only [ATerm.clampX, ATerm.clampY, pre.tw, pre.th, pre.cw, pre.ch, dp.sync.tw, dp.sync.th, dp.w_same, dp.h_same]

/-- a draw that repaints everything (`AllDirty`) — after a requested clear, or on a display nothing is known about —
leaves a trusted world in which every StyleDefault cell is shown in the screen style -/
theorem repaint_step {c : DrawCfg} (hrw : RwOk c.rw) (hct : c.Walk) {s : Scr} {t : ATerm} (hb : BufOkS c s) (hall : AllDirty s)
    (hf : s.fini = false) (htw : t.w = s.w) (hth : t.h = s.h) (hg : s.clear = false → ∀ x y, t.grid x y = .garbage)
    (hsafe : CornerSafe c (s.draw c).1) (sw : ScrW) (hs : sw.s = (s.draw c).1) (hw : sw.ttyw = s.w) (hh : sw.ttyh = s.h)
    {st : Style} (hst : s.style = st) :
    let W : World := { sw := sw, t := t.applyAll (s.draw c).2, trusted := true, d := some st, fresh := false }
    WInv c W ∧ Displays c s.cells W ∧ W.trusted = true ∧ W.d = some W.sw.s.style :=
  have pre : BufOk c s t := ⟨hb, htw, hth⟩
  have h := draw_step hrw hct pre (fun hc => SyncInv.fresh pre hall (hg hc)) (fun _ => hall) hf hsafe sw hs hw hh true
    ((if_pos rfl).trans (congrArg some hst))
  ⟨h.1, h.2, rfl, congrArg some (hst.symm.trans ((draw_style c s).symm.trans (congrArg Scr.style hs.symm)))⟩

/-- Show: the invariant is kept, and if the display was trusted (or the size change is noticed now) it is right afterwards -/
theorem show_step_c {c : DrawCfg} (hrw : RwOk c.rw) (hct : c.Walk) {wd : World} (inv : WInv c wd)
    (hsafe : CornerSafe c (wd.step c .show).sw.s) :
    WInv c (wd.step c .show) ∧
    ((wd.trusted = true ∨ ¬ (wd.sw.ttyw = wd.sw.s.w ∧ wd.sw.ttyh = wd.sw.s.h)) →
      Displays c (wd.sw.s.resize (some (wd.sw.ttyw, wd.sw.ttyh))).cells (wd.step c .show)) := by
  by_cases hsz : wd.sw.ttyw = wd.sw.s.w ∧ wd.sw.ttyh = wd.sw.s.h
  · rw [World.step_show_same c inv.fini hsz] at hsafe ⊢
    rw [show wd.sw.s.resize (some (wd.sw.ttyw, wd.sw.ttyh)) = wd.sw.s by rw [hsz.1, hsz.2, resize_same_size]]
    cases htr : wd.trusted
    · -- untrusted: only the buffer part survives
      have r := draw_rel c wd.sw.s
      have b0 : BufOkS c { wd.sw.s with clear := false } := { inv.buf with }
      have td := applyAll_dims wd.t (wd.sw.s.draw c).2
      exact ⟨{ buf := b0.of_rel hrw r.1, tdim := ⟨td.1.trans inv.tdim.1, td.2.trans inv.tdim.2⟩, clear := r.2,
               fini := r.1.fini.trans inv.fini, mism := fun h => absurd h (by rw [r.1.w, r.1.h, hsz.1, hsz.2]; simp),
               tr := fun h => absurd h Bool.false_ne_true, fr := fun h => absurd h Bool.false_ne_true },
             fun h => h.elim (fun h => absurd h Bool.false_ne_true) (fun h => absurd hsz h)⟩
    · -- a fresh display has been painted in no style yet: the invariant holds for the current one
      have sinv : SyncInv c (if wd.fresh then some wd.sw.s.style else wd.d) wd.sw.s wd.t := by
        split
        · exact (inv.tr htr).of_allDirty (inv.fr ‹_›)
        · exact inv.tr htr
      exact (draw_step hrw hct sinv.bufOk (fun _ => sinv) (fun h => absurd (inv.clear.symm.trans h) (by decide)) inv.fini hsafe
        { wd.sw with s := _ } rfl hsz.1 hsz.2 _ (by cases wd.fresh <;> simp)).imp_right fun h _ => h
  · -- the size change is noticed: resize + invalidate, then a full repaint of a display nothing is known about
    have hstep : wd.step c .show =
        { sw := { wd.sw with s := ((wd.sw.s.resize (some (wd.sw.ttyw, wd.sw.ttyh))).draw c).1 },
          t := wd.t.applyAll ((wd.sw.s.resize (some (wd.sw.ttyw, wd.sw.ttyh))).draw c).2, trusted := true,
          d := some wd.sw.s.style, fresh := false } := by
      simp only [World.step, ScrW.step, Scr.show, inv.fini, hsz, if_false, Bool.false_eq_true]
    rw [hstep] at hsafe ⊢
    rw [resize_diff _ _ _ hsz] at hsafe ⊢
    obtain ⟨okb, okd⟩ := resize_invalidate_ok hrw wd.sw.s wd.sw.ttyw wd.sw.ttyh inv.buf
    exact (repaint_step hrw hct okb okd inv.fini inv.tdim.1 inv.tdim.2 (fun _ => inv.mism (by omega)) hsafe
      { wd.sw with s := _ } rfl rfl rfl rfl).imp_right fun h _ => h.1

/-- `Scr.resize`: the screen has the size asked for, the buffer facts survive -/
theorem resize_ok {c : DrawCfg} (hrw : RwOk c.rw) {s : Scr} (hb : BufOkS c s) (w h : Int) :
    let s' := s.resize (some (w, h))
    BufOkS c s' ∧ s'.w = w ∧ s'.h = h ∧ s'.style = s.style ∧ s'.fini = s.fini ∧ s'.clear = s.clear := by
  by_cases hs : w = s.w ∧ h = s.h
  · rw [hs.1, hs.2, resize_same_size]; exact ⟨hb, rfl, rfl, rfl, rfl, rfl⟩
  · rw [resize_diff _ _ _ hs]; exact ⟨(resize_invalidate_ok hrw _ _ _ hb).1, rfl, rfl, rfl, rfl, rfl⟩

/-- the screen Sync / the resize branch hand to draw: buffer facts intact, everything dirty, sized like the tty -/
theorem prep_ok {c : DrawCfg} (hrw : RwOk c.rw) (s : Scr) (w h : Int) (hb : BufOkS c s) (hf : s.fini = false) (hc : s.clear = false) :
    (BufOkS c (s.prepSync (some (w, h))) ∧ AllDirty (s.prepSync (some (w, h))) ∧ (s.prepSync (some (w, h))).w = w ∧
      (s.prepSync (some (w, h))).h = h ∧ (s.prepSync (some (w, h))).style = s.style ∧ (s.prepSync (some (w, h))).fini = false ∧
      (s.prepSync (some (w, h))).clear = true) ∧
    (BufOkS c (s.prepResize (some (w, h))) ∧ AllDirty (s.prepResize (some (w, h))) ∧ (s.prepResize (some (w, h))).w = w ∧
      (s.prepResize (some (w, h))).h = h ∧ (s.prepResize (some (w, h))).style = s.style ∧
      (s.prepResize (some (w, h))).fini = false ∧ (s.prepResize (some (w, h))).clear = false) := by
  unfold Scr.prepSync Scr.prepResize
  simp only
  have b1 := resize_ok hrw (s := s.forgetCursor) { hb with } w h
  generalize s.forgetCursor.resize (some (w, h)) = s1 at b1
  obtain ⟨b, e1, e2, e3, e4, e5⟩ := b1
  exact ⟨⟨(invalidate_ok s1 b true).1, (invalidate_ok s1 b true).2, e1, e2, e3, e4.trans hf, trivial⟩,
    ⟨(invalidate_ok s1 b s1.clear).1, (invalidate_ok s1 b s1.clear).2, e1, e2, e3, e4.trans hf, e5.trans hc⟩⟩

/-- Sync: whatever the display held before, afterwards it is right and trusted -/
theorem sync_step_c {c : DrawCfg} (hrw : RwOk c.rw) (hct : c.Walk) {wd : World} (inv : WInv c wd)
    (hsafe : CornerSafe c (wd.step c .sync).sw.s) :
    WInv c (wd.step c .sync) ∧ Displays c (wd.sw.s.prepSync (some (wd.sw.ttyw, wd.sw.ttyh))).cells (wd.step c .sync) ∧
    (wd.step c .sync).trusted = true ∧
    (wd.step c .sync).d = some (wd.step c .sync).sw.s.style := by
  obtain ⟨okb, okd, e1, e2, e3, e4, e5⟩ := (prep_ok hrw wd.sw.s wd.sw.ttyw wd.sw.ttyh inv.buf inv.fini inv.clear).1
  have hstep : wd.step c .sync =
      { sw := { wd.sw with s := ((wd.sw.s.prepSync (some (wd.sw.ttyw, wd.sw.ttyh))).draw c).1 },
        t := wd.t.applyAll ((wd.sw.s.prepSync (some (wd.sw.ttyw, wd.sw.ttyh))).draw c).2, trusted := true,
        d := some wd.sw.s.style, fresh := false } := by
    simp only [World.step, ScrW.step, Scr.sync, inv.fini, Bool.false_eq_true, if_false]
  rw [hstep] at hsafe ⊢
  exact repaint_step hrw hct okb okd e4 (inv.tdim.1.trans e1.symm) (inv.tdim.2.trans e2.symm)
    (fun h => absurd (e5.symm.trans h) (by decide)) hsafe { wd.sw with s := _ } rfl e1.symm e2.symm e3

/-- a window resize that reaches the library (mainLoop's resize branch): afterwards the display is right and trusted -/
theorem notify_step_c {c : DrawCfg} (hrw : RwOk c.rw) (hct : c.Walk) {wd : World} (inv : WInv c wd) (w h : Int)
    (hsafe : CornerSafe c (wd.step c (.ttyResizeNotify w h)).sw.s) :
    WInv c (wd.step c (.ttyResizeNotify w h)) ∧
    Displays c (wd.sw.s.prepResize (some (w, h))).cells (wd.step c (.ttyResizeNotify w h)) ∧
    (wd.step c (.ttyResizeNotify w h)).trusted = true ∧
    (wd.step c (.ttyResizeNotify w h)).d = some (wd.step c (.ttyResizeNotify w h)).sw.s.style := by
  obtain ⟨okb, okd, e1, e2, e3, e4, _⟩ := (prep_ok hrw wd.sw.s w h inv.buf inv.fini inv.clear).2
  have hstep : wd.step c (.ttyResizeNotify w h) =
      { sw := { s := ((wd.sw.s.prepResize (some (w, h))).draw c).1, ttyw := w, ttyh := h },
        t := (wd.t.resized w h).applyAll ((wd.sw.s.prepResize (some (w, h))).draw c).2, trusted := true,
        d := some wd.sw.s.style, fresh := false } := by
    simp only [World.step, ScrW.step, Scr.onResize]
  rw [hstep] at hsafe ⊢
  exact repaint_step hrw hct okb okd e4 (t := wd.t.resized w h) e1.symm e2.symm (fun _ _ _ => rfl) hsafe
    { s := _, ttyw := w, ttyh := h } rfl e1.symm e2.symm e3

theorem winv_bufop {c : DrawCfg} {wd : World} (inv : WInv c wd) (b' : Buf) (hb : BufStep c.rw wd.sw.s.cells b')
    (hblank : c.guardLocked = true → ∀ i j, wd.sw.s.cells.inRange i j → (b'.cells i j).lastMain ≠ 0 →
      BlankOk wd.sw.s.cells i j → BlankOk b' i j) :
    WInv c { wd with sw := { wd.sw with s := { wd.sw.s with cells := b' } } } :=
  { inv with
    buf := { cw := hb.w.trans inv.buf.cw, ch := hb.h.trans inv.buf.ch,
             wok := fun i j => (hb.cell i j).wok (inv.buf.wok i j),
             valid := ⟨inv.buf.valid.1, fun i j => (hb.cell i j).valid (inv.buf.valid.2 i j)⟩ },
    tr := fun h => (inv.tr h).bufStep hb rfl rfl rfl hblank,
    fr := fun h x y hr => (hb.cell x y).dirty (inv.fr h x y (by simpa [inRange_iff, hb.w, hb.h] using hr)) }

/-- every operation preserves the world invariant -/
theorem step_inv_c {c : DrawCfg} (hrw : RwOk c.rw) (hct : c.Walk) {wd : World} (inv : WInv c wd) (op : ScrOp)
    (hv : op.Valid c) (hsafe : wd.SafeAt c op) : WInv c (wd.step c op) := by
  cases op with
  | setContent x y m comb st =>
    exact winv_bufop inv _ (bufStep_setContent c.rw _ x y m comb st hv)
      (fun _ i j _ hm hb => setContent_blank c.rw _ x y m comb st i j hm hb)
  | fill r st =>
    exact winv_bufop inv _ (bufStep_fillV c.fillZW c.rw hrw.space _ r st hv.1 hv.2) (fun _ i j _ _ _ => fillV_blank c.fillZW c.rw _ r st i j)
  | lockRegion x y w h lock =>
    refine winv_bufop inv _ ?_ fun hg i j hr hm hb => ?_
    · split
      · exact (bufStep_lockSteps c.rw _ lock).lockRowsG (.refl _ _) x y w _
      · exact (bufStep_lockSteps c.rw _ lock).lockRows (.refl _ _) x y w _
    · rw [if_pos hg] at hm ⊢
      cases lock
      · exact lockRowsG_false_blank _ x y w _ i j hr hm hb
      · exact (blank_lockSteps i j).lockRowsG hb x y w _
  | setStyle st =>
    simp only [World.step, ScrW.step, inv.fini, Bool.false_eq_true, if_false, ATerm.applyAll, List.foldl_nil]
    exact { inv with buf := { inv.buf with valid := ⟨hv, inv.buf.valid.2⟩ }, fini := rfl,
                     tr := fun h => { inv.tr h with valid := ⟨hv, inv.buf.valid.2⟩ } }
  | showCursor _ _ | setCursorStyle _ _ =>
    exact { inv with buf := { inv.buf with }, tr := fun h => (inv.tr h).congr rfl rfl rfl rfl rfl rfl rfl }
  | «show» => exact (show_step_c hrw hct inv hsafe).1
  | sync => exact (sync_step_c hrw hct inv hsafe).1
  | ttyResizeQuiet w h =>
    exact { inv with tdim := ⟨rfl, rfl⟩, mism := fun _ _ _ => rfl, tr := fun h => absurd h Bool.false_ne_true }
  | ttyResizeNotify w h => exact (notify_step_c hrw hct inv w h hsafe).1
  | corrupt =>
    exact { inv with mism := fun _ _ _ => rfl, tr := fun h => absurd h Bool.false_ne_true }

theorem empty_resize_cells (w h i j : Int) : (Buf.empty.resize w h).cells i j = {} :=
  resize_cells_ind (P := (· = {})) Buf.empty w h (fun _ e => by subst e; rfl) rfl (fun _ _ => rfl) i j

theorem init_inv {c : DrawCfg} (hrw : RwOk c.rw) (w h : Int) : WInv c (World.init w h) := by
  have hc : ∀ i j, (World.init w h).sw.s.cells.cells i j = {} := empty_resize_cells w h
  have hb : BufOkS c (World.init w h).sw.s :=
    { cw := resize_w .., ch := resize_h .., wok := fun x y => Or.inl (by rw [hc]; exact hrw.zero.symm),
      valid := ⟨show ({} : Style).attrs ≠ attrInvalid by decide, fun x y => by rw [hc]; decide⟩ }
  have hall : AllDirty (World.init w h).sw.s := fun x y _ => by rw [hc]
  exact { buf := hb, tdim := ⟨rfl, rfl⟩, clear := rfl, fini := rfl, mism := fun h => absurd h (by simp [World.init, ScrW.init]),
          tr := fun _ => SyncInv.fresh ⟨hb, rfl, rfl⟩ hall (fun _ _ => rfl), fr := fun _ => hall }

/-- every world reachable from Init by valid operations satisfies the invariant — on corner-trick terminals as long as
the side condition held at every draw -/
theorem reach_inv_c {c : DrawCfg} (hrw : RwOk c.rw) (hct : c.Walk) (w h : Int) (ops : List ScrOp)
    (hv : ∀ op ∈ ops, op.Valid c) (hsafe : World.SafeRun c (World.init w h) ops) : WInv c ((World.init w h).run c ops) := by
  suffices H : ∀ wd, WInv c wd → World.SafeRun c wd ops → WInv c (wd.run c ops) from H _ (init_inv hrw w h) hsafe
  clear hsafe
  induction ops with
  | nil => intro wd h _; exact h
  | cons op ops ih =>
    intro wd hw hs
    simp only [World.run, List.foldl_cons]
    exact ih (fun o ho => hv o (List.mem_cons_of_mem _ ho)) _ (step_inv_c hrw hct hw op (hv op (List.mem_cons_self ..)) hs.1) hs.2

theorem step_inv {c : DrawCfg} (hrw : RwOk c.rw) (hct : c.Plain) {wd : World} (inv : WInv c wd) (op : ScrOp)
    (hv : op.Valid c) : WInv c (wd.step c op) :=
  step_inv_c hrw hct.walk inv op hv (World.SafeAt.of_plain hct wd op)

/-- the draw of a Show on a trusted display of unchanged size: `DrawPost.writes` and `DrawPost.covers` say which cells it
sends payload to and which cells the payloads occupy; the side condition, stated on the screen the Show leaves, holds of
the screen it starts from -/
theorem show_drawPost {c : DrawCfg} (hrw : RwOk c.rw) (hct : c.Walk) {wd : World} (inv : WInv c wd)
    (hsafe : CornerSafe c (wd.step c .show).sw.s) (htr : wd.trusted = true)
    (hsz : wd.sw.ttyw = wd.sw.s.w ∧ wd.sw.ttyh = wd.sw.s.h) :
    CornerSafe c wd.sw.s ∧
    DrawPost c (if wd.d = some wd.sw.s.style then wd.d else none) wd.sw.s wd.t (wd.step c .show).sw.s (wd.step c .show).t := by
  rw [World.step_show_same c inv.fini hsz] at hsafe ⊢
  exact ⟨CornerSafe.of_draw hsafe, draw_post hrw hct (inv.tr htr).bufOk (fun _ => inv.tr htr)
    (fun h => absurd (inv.clear.symm.trans h) (by decide)) (CornerSafe.of_draw hsafe)⟩

end Tcell
