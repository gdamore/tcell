/-
Terminal-independent facts about a draw: whatever the display's state, a draw only *marks* cells (clean or
dirty); it never changes what they hold, their width or their lock, nor the screen's size or style (`ScrRel`).
This is the frame part of every postcondition of the draw path, and what carries the buffer part of the invariant
through draws made on a display nothing is known about.  Before that: what GetContent reports for a cell that satisfies
the width invariant, and closed forms of the SetContent and LockRegion steps the world invariant is followed through.
-/
import Tcell.Lemmas.DrawDefs
namespace Tcell
open Buf

theorem getContent_wok {rw : Rune → Int} (hrw : RwOk rw) (b : Buf) (x y : Int) (hr : b.inRange x y)
    (hw : WOk rw (b.cells x y)) :
    b.getContent x y = (obsMain rw (b.cells x y).currMain, (b.cells x y).currComb, (b.cells x y).currStyle,
                        obsWidth rw (b.cells x y).currMain) := by
  simp only [getContent, if_pos hr, obsMain, obsWidth]
  rcases hw with hw | ⟨hw, hm⟩
  · rw [hw]; split <;> rfl
  · rw [hw, hm, hrw.space]; rfl

theorem obsWidth_pos {rw : Rune → Int} (hrw : RwOk rw) (m : Rune) : 1 ≤ obsWidth rw m ∧ obsWidth rw m ≤ 2 := by
  unfold obsWidth
  split
  · exact ⟨Int.le_refl 1, by decide⟩
  · exact ⟨by have := hrw.nonneg m; omega, hrw.le2 m⟩

theorem getContent_width {rw : Rune → Int} (hrw : RwOk rw) (b : Buf) (x y : Int) (hr : b.inRange x y)
    (hw : WOk rw (b.cells x y)) : 1 ≤ (b.getContent x y).2.2.2 ∧ (b.getContent x y).2.2.2 ≤ 2 := by
  rw [getContent_wok hrw b x y hr hw]; exact obsWidth_pos hrw _

theorem gcw_eq (b : Buf) (i j : Int) : (b.getContent i j).2.2.2 =
    if b.inRange i j then (if (b.cells i j).width = 0 ∨ (b.cells i j).currMain < 32 then 1 else (b.cells i j).width) else 0 := by
  unfold getContent
  split
  · simp only; split <;> rfl
  · rfl

/-- `redirtyLeft` changes at most the dirty mark of the cell left of column `x`, and sets it when that cell holds a wide rune -/
theorem redirtyLeft_cells (b : Buf) (x y : Int) :
    (redirtyLeft b x y).w = b.w ∧ (redirtyLeft b x y).h = b.h ∧
    (∀ i j, (redirtyLeft b x y).cells i j = b.cells i j ∨ (redirtyLeft b x y).cells i j = (b.cells i j).markDirty) ∧
    ((b.getContent (x - 1) y).2.2.2 > 1 → ((redirtyLeft b x y).cells (x - 1) y).lastMain = 0) := by
  unfold redirtyLeft
  by_cases hg : (b.getContent (x - 1) y).2.2.2 > 1
  · rw [if_pos hg]
    refine ⟨setDirty_w .., setDirty_h .., fun i j => ?_, fun _ => ?_⟩
    · rw [setDirty_true_cells]; split
      · exact Or.inr rfl
      · exact Or.inl rfl
    · have hr : b.inRange (x - 1) y := by
        rw [gcw_eq] at hg; split at hg
        · assumption
        · omega
      rw [setDirty_true_cells, if_pos ⟨rfl, rfl, hr⟩]; rfl
  · rw [if_neg hg]; exact ⟨rfl, rfl, fun _ _ => Or.inl rfl, fun h => absurd h hg⟩

theorem setContent_lock (rw : Rune → Int) (b : Buf) (x y : Int) (m : Rune) (comb : List Rune) (st : Style) (i j : Int) :
    ((b.setContent rw x y m comb st).cells i j).lock = (b.cells i j).lock := by
  rw [setContent_cells]
  split
  · split
    · simp only [Cell.store_lock]
      rcases preDirty_cases b x y m comb i j with e | e <;> rw [e] <;> simp
    · rcases preDirty_cases b x y m comb i j with e | e <;> rw [e] <;> simp
  · rfl

/-- SetContent with a changed rune or combining runes marks the cell itself dirty, if a rune is stored there -/
theorem preDirty_self (b : Buf) (x y : Int) (m : Rune) (comb : List Rune) (hr : b.inRange x y) (hw : 0 < (b.cells x y).width)
    (hne : m ≠ (b.cells x y).currMain ∨ comb ≠ (b.cells x y).currComb) : ((b.preDirty x y m comb).cells x y).lastMain = 0 := by
  rw [preDirty_cells, if_pos ⟨⟨hw, hne⟩, rfl, Int.le_refl _, by omega, hr⟩]; rfl

/-- closed form of one row of an unlocking LockRegion -/
theorem lockRow_false_cells (b : Buf) (x y : Int) (n : Nat) (i j : Int) :
    (lockRow b x y false n).w = b.w ∧ (lockRow b x y false n).h = b.h ∧
    (lockRow b x y false n).cells i j =
      if j = y ∧ x ≤ i ∧ i < x + n ∧ b.inRange i j then ((b.cells i j).setLock false).markDirty else b.cells i j := by
  induction n with
  | zero => exact ⟨rfl, rfl, (if_neg (by omega)).symm⟩
  | succ n ih =>
    have key : ∀ i : Int, i < x + ((n + 1 : Nat) : Int) ↔ i < x + n ∨ i = x + n := by intro i; omega
    obtain ⟨h1, h2, h3⟩ := ih
    have hr : (lockRow b x y false n).inRange (x + n) y ↔ b.inRange (x + n) y := by rw [inRange_iff, h1, h2]; rfl
    refine ⟨(unlockCell_w ..).trans h1, (unlockCell_h ..).trans h2, ?_⟩
    show ((lockRow b x y false n).unlockCell (x + n) y).cells i j = _
    rw [unlockCell_cells, h3]
    simp only [hr, key]
    by_cases hc : i = x + n ∧ j = y
    · obtain ⟨rfl, rfl⟩ := hc
      by_cases hr : b.inRange (x + n) j
      · rw [if_pos ⟨rfl, rfl, hr⟩, if_neg (fun h => Int.lt_irrefl _ h.2.2.1),
          if_pos ⟨rfl, Int.le_add_of_nonneg_right (Int.natCast_nonneg n), Or.inr rfl, hr⟩]
      · rw [if_neg (fun h => hr h.2.2), if_neg (fun h => hr h.2.2.2), if_neg (fun h => hr h.2.2.2)]
    · rw [if_neg (fun h => hc ⟨h.1, h.2.1⟩)]
      by_cases hs : j = y ∧ x ≤ i ∧ i < x + ↑n ∧ b.inRange i j
      · rw [if_pos hs, if_pos ⟨hs.1, hs.2.1, Or.inl hs.2.2.1, hs.2.2.2⟩]
      · rw [if_neg hs, if_neg (fun h => hs ⟨h.1, h.2.1, h.2.2.1.resolve_right (fun e => hc ⟨e, h.1⟩), h.2.2.2⟩)]

/-- GetContent does not see the normalisation of a zero rune done by SetDirty(false) -/
theorem obsMain_markClean {rw : Rune → Int} (hrw : RwOk rw) (m : Rune) :
    obsMain rw (if m = 0 then 32 else m) = obsMain rw m ∧ obsWidth rw (if m = 0 then 32 else m) = obsWidth rw m := by
  by_cases h : m = 0
  · subst h; simp [obsMain, obsWidth, hrw.zero, hrw.space]
  · simp [h]

@[simp] theorem Cell.markClean_currStyle (c : Cell) : c.markClean.currStyle = c.currStyle := rfl
@[simp] theorem Cell.markClean_currComb (c : Cell) : c.markClean.currComb = c.currComb := rfl
@[simp] theorem Cell.markClean_lastComb (c : Cell) : c.markClean.lastComb = c.currComb := rfl
@[simp] theorem Cell.markClean_lastStyle (c : Cell) : c.markClean.lastStyle = c.currStyle := rfl
@[simp] theorem Cell.markClean_lastMain (c : Cell) : c.markClean.lastMain = if c.currMain = 0 then 32 else c.currMain := rfl
@[simp] theorem Cell.markDirty_lastComb (c : Cell) : c.markDirty.lastComb = c.lastComb := rfl
@[simp] theorem Cell.markDirty_lastStyle (c : Cell) : c.markDirty.lastStyle = c.lastStyle := rfl

/-- `n` is `o` after some sequence of mark-clean / mark-dirty steps -/
def MarkRel (o n : Cell) : Prop :=
  n.currComb = o.currComb ∧ n.currStyle = o.currStyle ∧ n.width = o.width ∧ n.lock = o.lock ∧
  (n.currMain = o.currMain ∨ (o.currMain = 0 ∧ n.currMain = 32))

theorem MarkRel.refl (c : Cell) : MarkRel c c := ⟨rfl, rfl, rfl, rfl, Or.inl rfl⟩

theorem MarkRel.trans {a b c : Cell} (h1 : MarkRel a b) (h2 : MarkRel b c) : MarkRel a c := by
  obtain ⟨a1, a2, a3, a4, a5⟩ := h1; obtain ⟨b1, b2, b3, b4, b5⟩ := h2
  refine ⟨b1.trans a1, b2.trans a2, b3.trans a3, b4.trans a4, ?_⟩
  rcases a5 with a5 | a5 <;> rcases b5 with b5 | b5
  · left; rw [b5, a5]
  · right; exact ⟨by rw [← a5]; exact b5.1, b5.2⟩
  · right; exact ⟨a5.1, by rw [b5, a5.2]⟩
  · exfalso; rw [a5.2] at b5; exact absurd b5.1 (by decide)

theorem MarkRel.markClean (c : Cell) : MarkRel c c.markClean := by
  refine ⟨rfl, rfl, rfl, rfl, ?_⟩
  rw [Cell.markClean_currMain]
  by_cases h : c.currMain = 0
  · exact Or.inr ⟨h, if_pos h⟩
  · exact Or.inl (if_neg h)

theorem MarkRel.markDirty (c : Cell) : MarkRel c c.markDirty := ⟨rfl, rfl, rfl, rfl, Or.inl rfl⟩

theorem MarkRel.wok {rw : Rune → Int} (hrw : RwOk rw) {o n : Cell} (h : MarkRel o n) (hw : WOk rw o) : WOk rw n := by
  obtain ⟨_, _, h3, _, h5⟩ := h
  unfold WOk at hw ⊢
  rcases h5 with h5 | h5
  · rw [h3, h5]; exact hw
  · right; rw [h3]; refine ⟨?_, h5.2⟩
    rcases hw with hw | hw
    · rw [hw, h5.1, hrw.zero]
    · exact hw.1

theorem wok_markDirty {rw : Rune → Int} (c : Cell) (h : WOk rw c) : WOk rw c.markDirty := by
  simpa [WOk] using h

theorem MarkRel.obs {rw : Rune → Int} (hrw : RwOk rw) {o n : Cell} (h : MarkRel o n) :
    obsMain rw n.currMain = obsMain rw o.currMain ∧ obsWidth rw n.currMain = obsWidth rw o.currMain := by
  rcases h.2.2.2.2 with h5 | h5
  · rw [h5]; exact ⟨rfl, rfl⟩
  · have := obsMain_markClean hrw o.currMain
    rw [h5.1] at this ⊢; rw [h5.2]; exact this

theorem setDirty_markRel (b : Buf) (x y : Int) (v : Bool) (i j : Int) : MarkRel (b.cells i j) ((b.setDirty x y v).cells i j) := by
  cases v
  · rw [setDirty_false_cells]; split
    · exact .markClean _
    · exact .refl _
  · rw [setDirty_true_cells]; split
    · exact .markDirty _
    · exact .refl _

/-- relation between the screen before and after draw-path steps -/
structure ScrRel (s s' : Scr) : Prop where
  cells : ∀ i j, MarkRel (s.cells.cells i j) (s'.cells.cells i j)
  cw : s'.cells.w = s.cells.w
  ch : s'.cells.h = s.cells.h
  w : s'.w = s.w
  h : s'.h = s.h
  style : s'.style = s.style
  fini : s'.fini = s.fini
  clear : s'.clear = s.clear
  cursor : s'.cursorx = s.cursorx ∧ s'.cursory = s.cursory ∧ s'.cursorStyle = s.cursorStyle ∧ s'.cursorColor = s.cursorColor

theorem ScrRel.refl (s : Scr) : ScrRel s s :=
  { cells := fun _ _ => MarkRel.refl _, cw := rfl, ch := rfl, w := rfl, h := rfl, style := rfl, fini := rfl, clear := rfl,
    cursor := ⟨rfl, rfl, rfl, rfl⟩ }

theorem ScrRel.trans {a b c : Scr} (h1 : ScrRel a b) (h2 : ScrRel b c) : ScrRel a c :=
  { cells := fun i j => (h1.cells i j).trans (h2.cells i j), cw := h2.cw.trans h1.cw, ch := h2.ch.trans h1.ch,
    w := h2.w.trans h1.w, h := h2.h.trans h1.h, style := h2.style.trans h1.style, fini := h2.fini.trans h1.fini,
    clear := h2.clear.trans h1.clear,
    cursor := ⟨h2.cursor.1.trans h1.cursor.1, h2.cursor.2.1.trans h1.cursor.2.1, h2.cursor.2.2.1.trans h1.cursor.2.2.1,
               h2.cursor.2.2.2.trans h1.cursor.2.2.2⟩ }

theorem ScrRel.inRange {s s' : Scr} (r : ScrRel s s') (i j : Int) : s'.cells.inRange i j ↔ s.cells.inRange i j := by
  simp only [inRange_iff, r.cw, r.ch]

theorem ScrRel.lock {s s' : Scr} (r : ScrRel s s') (i j : Int) : (s'.cells.cells i j).lock = (s.cells.cells i j).lock :=
  (r.cells i j).2.2.2.1

theorem ScrRel.locked {s s' : Scr} (r : ScrRel s s') (i j : Int) : s'.cells.locked i j = s.cells.locked i j := by
  simp only [Buf.locked, inRange_iff, r.cw, r.ch, r.lock i j]

theorem ScrRel.wok {rw : Rune → Int} (hrw : RwOk rw) {s s' : Scr} (r : ScrRel s s') (hw : ∀ i j, WOk rw (s.cells.cells i j))
    (i j : Int) : WOk rw (s'.cells.cells i j) :=
  (r.cells i j).wok hrw (hw i j)

theorem ScrRel.getContent {rw : Rune → Int} (hrw : RwOk rw) {s s' : Scr} (r : ScrRel s s')
    (hw : ∀ i j, WOk rw (s.cells.cells i j)) (i j : Int) : s'.cells.getContent i j = s.cells.getContent i j := by
  by_cases hr : s.cells.inRange i j
  · obtain ⟨h1, h2, _, _, _⟩ := r.cells i j
    rw [getContent_wok hrw _ i j hr (hw i j), getContent_wok hrw _ i j ((r.inRange i j).2 hr) (r.wok hrw hw i j),
      ((r.cells i j).obs hrw).1, ((r.cells i j).obs hrw).2, h1, h2]
  · simp [Buf.getContent, hr, r.inRange i j]

/-- the frame part shared by the postconditions of the draw path (`VisitPost`, `RowPost`, `RowsPost`, `DrawPost`), field for field -/
structure ScrFrame (s s' : Scr) : Prop where
  gc_same : ∀ i j, s'.cells.getContent i j = s.cells.getContent i j
  lock_same : ∀ i j, (s'.cells.cells i j).lock = (s.cells.cells i j).lock
  w_same : s'.w = s.w
  h_same : s'.h = s.h
  style_same : s'.style = s.style
  cursor_same : s'.cursorx = s.cursorx ∧ s'.cursory = s.cursory ∧ s'.cursorStyle = s.cursorStyle ∧ s'.cursorColor = s.cursorColor
  flags_same : s'.clear = s.clear ∧ s'.fini = s.fini

theorem ScrFrame.refl (s : Scr) : ScrFrame s s :=
  ⟨fun _ _ => rfl, fun _ _ => rfl, rfl, rfl, rfl, ⟨rfl, rfl, rfl, rfl⟩, rfl, rfl⟩

theorem ScrRel.frame {rw : Rune → Int} (hrw : RwOk rw) {s s' : Scr} (r : ScrRel s s') (hw : ∀ i j, WOk rw (s.cells.cells i j)) :
    ScrFrame s s' :=
  ⟨r.getContent hrw hw, r.lock, r.w, r.h, r.style, r.cursor, r.clear, r.fini⟩

/-- replacing the buffer by the result of a SetDirty, and touching only the caches -/
theorem ScrRel.setDirty (s s' : Scr) (x y : Int) (v : Bool) (hc : s'.cells = s.cells.setDirty x y v) (hw : s'.w = s.w)
    (hh : s'.h = s.h) (hs : s'.style = s.style) (hf : s'.fini = s.fini) (hcl : s'.clear = s.clear)
    (hcu : s'.cursorx = s.cursorx ∧ s'.cursory = s.cursory ∧ s'.cursorStyle = s.cursorStyle ∧ s'.cursorColor = s.cursorColor) :
    ScrRel s s' := by
  exact { cells := fun i j => by rw [hc]; exact setDirty_markRel _ x y v i j, cw := by rw [hc]; simp, ch := by rw [hc]; simp,
          w := hw, h := hh, style := hs, fini := hf, clear := hcl, cursor := hcu }

/-- only caches changed -/
theorem ScrRel.of_eq (s s' : Scr) (hc : s'.cells = s.cells) (hw : s'.w = s.w)
    (hh : s'.h = s.h) (hs : s'.style = s.style) (hf : s'.fini = s.fini) (hcl : s'.clear = s.clear)
    (hcu : s'.cursorx = s.cursorx ∧ s'.cursory = s.cursory ∧ s'.cursorStyle = s.cursorStyle ∧ s'.cursorColor = s.cursorColor) :
    ScrRel s s' :=
  { cells := by intro i j; rw [hc]; exact MarkRel.refl _, cw := by rw [hc], ch := by rw [hc], w := hw, h := hh, style := hs,
    fini := hf, clear := hcl, cursor := hcu }

theorem Scr.drawCellPlain_clean (c : DrawCfg) (s : Scr) (x y : Int) (hd : s.cells.dirty x y = false) :
    s.drawCellPlain c x y = (s, [], s.retWidth c x y) := by
  simp [Scr.drawCellPlain, hd]

@[simp] theorem Scr.cellTextG_false (c : DrawCfg) (w x : Int) (m : Rune) (comb : List Rune) (width : Int) :
    Scr.cellTextG c w x m comb width false = Scr.cellText c w x m comb width := by
  simp [Scr.cellTextG]

/-- the text of a dirty cell at (x,y): `cellTextG` of what GetContent reports, narrowed when the guard is compiled in and
the next column is locked -/
def Scr.txAt (c : DrawCfg) (s : Scr) (x y : Int) : List Nat × Int :=
  Scr.cellTextG c s.w x (s.cells.getContent x y).1 (s.cells.getContent x y).2.1 (s.cells.getContent x y).2.2.2
    (c.guardLocked && s.cells.locked (x + 1) y)

theorem Scr.paint_eq (c : DrawCfg) (s : Scr) (x y : Int) :
    s.paint c x y =
      ({ s with curstyle := resolveStyle s.style (s.cells.getContent x y).2.2.1,
                cx := if (s.txAt c x y).2 > 1 then -1 else s.cx + (s.txAt c x y).2,
                cells := s.cells.setDirty x y false },
       (if resolveStyle s.style (s.cells.getContent x y).2.2.1 ≠ s.curstyle
          then [Cmd.setPen (resolveStyle s.style (s.cells.getContent x y).2.2.1)] else []) ++
         [Cmd.put (s.txAt c x y).1 (s.txAt c x y).2],
       (s.txAt c x y).2) := by
  simp only [Scr.paint, resolveStyle, Scr.txAt]
  rfl

theorem Scr.drawCellPlain_dirty (c : DrawCfg) (s : Scr) (x y : Int) (hd : s.cells.dirty x y = true) :
    s.drawCellPlain c x y =
      ({ s with curstyle := resolveStyle s.style (s.cells.getContent x y).2.2.1,
                cx := if (s.txAt c x y).2 > 1 then -1 else x + (s.txAt c x y).2,
                cy := y, cells := s.cells.setDirty x y false },
       (if s.cy ≠ y ∨ s.cx ≠ x then [Cmd.goto x y] else []) ++
         ((if resolveStyle s.style (s.cells.getContent x y).2.2.1 ≠ s.curstyle
            then [Cmd.setPen (resolveStyle s.style (s.cells.getContent x y).2.2.1)] else []) ++
          [Cmd.put (s.txAt c x y).1 (s.txAt c x y).2]),
       (s.txAt c x y).2) := by
  unfold Scr.drawCellPlain
  rw [if_neg (fun h => h hd)]
  by_cases hgo : s.cy ≠ y ∨ s.cx ≠ x
  · rw [if_pos hgo, if_pos hgo]; simp only [Scr.paint_eq]; rfl
  · obtain ⟨hx, hy⟩ : s.cx = x ∧ s.cy = y := by omega
    subst hx hy
    rw [if_neg hgo, if_neg hgo]; simp only [Scr.paint_eq]

theorem drawRow_succ (c : DrawCfg) (y : Int) (fuel : Nat) (x : Int) (s : Scr) :
    Scr.drawRow c y (fuel + 1) x s =
      if x < s.w then
        ((Scr.drawRow c y fuel (x + (s.visit c x y).2.2) (s.visit c x y).1).1,
         (s.visit c x y).2.1 ++ (Scr.drawRow c y fuel (x + (s.visit c x y).2.2) (s.visit c x y).1).2)
      else (s, []) := by
  simp only [Scr.drawRow, Scr.visit]

theorem drawRows_succ (c : DrawCfg) (fuel : Nat) (y : Int) (s : Scr) :
    Scr.drawRows c (fuel + 1) y s =
      if y < s.h then
        ((Scr.drawRows c fuel (y + 1) (Scr.drawRow c y s.w.toNat 0 s).1).1,
         (Scr.drawRow c y s.w.toNat 0 s).2 ++ (Scr.drawRows c fuel (y + 1) (Scr.drawRow c y s.w.toNat 0 s).1).2)
      else (s, []) := rfl

theorem draw_eq (c : DrawCfg) (s : Scr) :
    s.draw c =
      let s0 : Scr := { s with cx := -1, cy := -1, curstyle := styleInvalid }
      let r1 := s0.hideCursor c
      let r2 := if r1.1.clear then r1.1.clearScreen else (r1.1, [])
      let r3 := Scr.drawRows c r2.1.h.toNat 0 r2.1
      let r4 := r3.1.showCursor c
      (r4.1, r1.2 ++ r2.2 ++ r3.2 ++ r4.2) := by
  simp only [Scr.draw]

theorem paint_rel (c : DrawCfg) (s : Scr) (x y : Int) : ScrRel s (s.paint c x y).1 := by
  rw [Scr.paint_eq]; exact ScrRel.setDirty s _ x y false rfl rfl rfl rfl rfl rfl ⟨rfl, rfl, rfl, rfl⟩

theorem drawCellPlain_rel (c : DrawCfg) (s : Scr) (x y : Int) : ScrRel s (s.drawCellPlain c x y).1 := by
  cases hd : s.cells.dirty x y
  · rw [Scr.drawCellPlain_clean c s x y hd]; exact ScrRel.refl s
  · rw [Scr.drawCellPlain_dirty c s x y hd]
    exact ScrRel.setDirty s _ x y false rfl rfl rfl rfl rfl rfl ⟨rfl, rfl, rfl, rfl⟩

theorem drawCell_rel (c : DrawCfg) (s : Scr) (x y : Int) : ScrRel s (s.drawCell c x y).1 := by
  unfold Scr.drawCell
  split
  · exact ScrRel.refl s
  · split
    · -- bottom-right corner trick: paint, mark the neighbour dirty, repaint it
      simp only
      generalize Scr.cornerPx (s.paint c x y).1 x y = px
      generalize hs2 : ({ (s.paint c x y).1 with cy := y, cx := x - 1, cells := (s.paint c x y).1.cells.setDirty px y true } : Scr) = s2
      have h2 : ScrRel (s.paint c x y).1 s2 := hs2 ▸ ScrRel.setDirty _ _ px y true rfl rfl rfl rfl rfl rfl ⟨rfl, rfl, rfl, rfl⟩
      exact (((paint_rel c s x y).trans h2).trans (drawCellPlain_rel c s2 px y)).trans
        (ScrRel.of_eq _ _ rfl rfl rfl rfl rfl rfl ⟨rfl, rfl, rfl, rfl⟩)
    · exact drawCellPlain_rel c s x y

theorem visit_rel (c : DrawCfg) (s : Scr) (x y : Int) : ScrRel s (s.visit c x y).1 := by
  unfold Scr.visit
  simp only
  split
  · exact (drawCell_rel c s x y).trans (ScrRel.setDirty _ _ (x + 1) y true rfl rfl rfl rfl rfl rfl ⟨rfl, rfl, rfl, rfl⟩)
  · exact drawCell_rel c s x y

theorem drawRow_rel (c : DrawCfg) (y : Int) : ∀ (fuel : Nat) (x : Int) (s : Scr), ScrRel s (Scr.drawRow c y fuel x s).1 := by
  intro fuel
  induction fuel with
  | zero => intro x s; exact ScrRel.refl s
  | succ n ih =>
    intro x s
    rw [drawRow_succ]
    split
    · exact (visit_rel c s x y).trans (ih _ _)
    · exact ScrRel.refl s

theorem drawRows_rel (c : DrawCfg) : ∀ (fuel : Nat) (y : Int) (s : Scr), ScrRel s (Scr.drawRows c fuel y s).1 := by
  intro fuel
  induction fuel with
  | zero => intro y s; exact ScrRel.refl s
  | succ n ih =>
    intro y s
    rw [drawRows_succ]
    split
    · exact (drawRow_rel c y _ _ s).trans (ih _ _)
    · exact ScrRel.refl s

theorem hideCursor_rel (c : DrawCfg) (s : Scr) : ScrRel s (s.hideCursor c).1 := by
  unfold Scr.hideCursor
  split
  · exact ScrRel.refl s
  · exact ScrRel.of_eq s _ rfl rfl rfl rfl rfl rfl ⟨rfl, rfl, rfl, rfl⟩

theorem showCursor_rel (c : DrawCfg) (s : Scr) : ScrRel s (s.showCursor c).1 := by
  unfold Scr.showCursor
  simp only
  split
  · exact hideCursor_rel c s
  · exact ScrRel.of_eq s _ rfl rfl rfl rfl rfl rfl ⟨rfl, rfl, rfl, rfl⟩

/-- before the loop of draw the caches are void (no cell under the cached cursor, pen unknown) and the clear request is
consumed; nothing else on the screen has changed -/
theorem draw_start (c : DrawCfg) (s : Scr) :
    let r1 := ({ s with cx := -1, cy := -1, curstyle := styleInvalid } : Scr).hideCursor c
    ∃ a b, ¬ s.cells.inRange a b ∧ (if r1.1.clear then r1.1.clearScreen else (r1.1, [])).1 =
      { s with cx := a, cy := b, curstyle := styleInvalid, clear := false } := by
  cases hh : c.hasHide <;> cases hcl : s.clear <;>
    simp only [Scr.hideCursor, Scr.clearScreen, hh, Bool.false_eq_true, if_false, if_true]
  · exact ⟨s.cells.w, s.cells.h, fun h => Int.lt_irrefl _ h.2.2.1, by rw [← hcl]⟩
  · exact ⟨s.cells.w, s.cells.h, fun h => Int.lt_irrefl _ h.2.2.1, rfl⟩
  · exact ⟨-1, -1, fun h => absurd h.1 (by decide), by rw [← hcl]⟩
  · exact ⟨-1, -1, fun h => absurd h.1 (by decide), rfl⟩

/-- a draw relates the screen before and after by marks only, except that it consumes the `clear` request -/
theorem draw_rel (c : DrawCfg) (s : Scr) :
    ScrRel { s with clear := false } (s.draw c).1 ∧ (s.draw c).1.clear = false := by
  obtain ⟨a, b, _, e⟩ := draw_start c s
  rw [draw_eq]; simp only at e ⊢; rw [e]
  generalize hs2 : ({ s with cx := a, cy := b, curstyle := styleInvalid, clear := false } : Scr) = s2
  have r2 : ScrRel { s with clear := false } s2 := hs2 ▸ .of_eq _ _ rfl rfl rfl rfl rfl rfl ⟨rfl, rfl, rfl, rfl⟩
  have r3 := drawRows_rel c s2.h.toNat 0 s2
  have r4 := showCursor_rel c (Scr.drawRows c s2.h.toNat 0 s2).1
  exact ⟨(r2.trans r3).trans r4, by rw [r4.clear, r3.clear, ← hs2]⟩

end Tcell
