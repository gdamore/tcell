/-
Lemmas about lock skeletons (C19): the deterministic run is one of the enumerated paths, soundness of the
`balanced` checker, and its consequence for one API call.
-/
import Tcell.Model.WLock
namespace Tcell.WLock

/-- sequencing: an outcome of the first part that falls through continues with `k`, any other outcome is final -/
theorem mem_post_seq {E : Type} (sem : Sem E) (k : Sk) (ihk : ∀ (s : LS) (e : E), (run sem k s e).1 ∈ post k s)
    (r : Out × E) (l : List Out) (hb : r.1 ∈ l) :
    (match r with | (Out.fall s', e') => run sem k s' e' | r => r).1 ∈
      l.flatMap fun o => match o with | Out.fall s' => post k s' | r => [r] := by
  obtain ⟨o, e'⟩ := r
  cases o with
  | fall s' => exact List.mem_flatMap.2 ⟨_, hb, ihk s' e'⟩
  | _ => exact List.mem_flatMap.2 ⟨_, hb, by simp⟩

/-- The deterministic run of a skeleton under any evaluation of its conditions is one of the outcomes the
path semantics `post` enumerates (conditions abstracted to both branches). -/
theorem run_mem_post {E : Type} (sem : Sem E) (sk : Sk) :
    ∀ (s : LS) (e : E), (run sem sk s e).1 ∈ post sk s := by
  induction sk with
  | nil => intro s e; simp [run, post]
  | ret => intro s e; simp [run, post]
  | lock k ih => intro s e; simp only [run, post]; split <;> simp [ih]
  | unlock k ih => intro s e; simp only [run, post]; split <;> simp [ih]
  | deferUnlock k ih => intro s e; simp only [run, post]; exact ih _ _
  | setRunning b k ih => intro s e; simp only [run, post]; exact ih _ _
  | callLocking n k ih => intro s e; simp only [run, post]; split <;> simp [ih]
  | post k ih => intro s e; simp only [run, WLock.post]; exact ih _ _
  | ite c t f k iht ihf ihk =>
    intro s e
    simp only [run, post]
    refine mem_post_seq sem k ihk _ _ ?_
    split
    · exact List.mem_append_left _ (iht s e)
    · exact List.mem_append_right _ (ihf s e)
  | loop b k ihb ihk =>
    intro s e
    simp only [run, post]
    refine mem_post_seq sem k ihk _ _ ?_
    split
    · exact List.mem_append_left _ (ihb s e)
    · exact List.mem_append_right _ (by simp)

theorem exitFree_exitHeld (s : LS) (h : exitFree s = true) : exitHeld s = some false := by
  unfold exitFree at h; unfold exitHeld
  split at h
  · simp_all
  · simp_all
  · simp at h

/-- soundness of the checker.  If `balanced sk` evaluates to true then *every* execution of the
method – whatever its conditions evaluate to – entered with the mutex free never locks it twice, never unlocks a
free mutex, and has released it when the function exits (deferred unlocks included). -/
theorem balanced_sound {E : Type} (sem : Sem E) (sk : Sk) (hb : balanced sk = true) (e : E) :
    ∃ s', ((run sem sk {} e).1 = Out.fall s' ∨ (run sem sk {} e).1 = Out.returned s') ∧ exitHeld s' = some false := by
  have hm := run_mem_post sem sk {} e
  have hok : Out.ok (run sem sk {} e).1 = true := by
    unfold balanced at hb
    exact (List.all_eq_true.1 hb) _ hm
  generalize (run sem sk {} e).1 = o at hok
  cases o with
  | fall s' => exact ⟨s', Or.inl rfl, exitFree_exitHeld s' hok⟩
  | returned s' => exact ⟨s', Or.inr rfl, exitFree_exitHeld s' hok⟩
  | selfDeadlock => simp [Out.ok] at hok
  | badUnlock => simp [Out.ok] at hok

theorem callM_balanced (facts : List (String × Sk)) (name : String) (running same : Bool)
    (hb : balancedAt facts name = true) :
    ∃ r, callM facts name false running same = some (false, r) := by
  unfold callM
  unfold balancedAt at hb
  cases hl : facts.lookup name with
  | none => exact ⟨running, rfl⟩
  | some sk =>
    rw [hl] at hb
    obtain ⟨s', hs, hx⟩ := balanced_sound lsem sk hb { running := running, sameSize := same }
    simp only
    generalize hr : run lsem sk { held := false } { running := running, sameSize := same } = r at hs
    obtain ⟨o, e'⟩ := r
    rcases hs with hs | hs
    · simp only at hs; subst hs; exact ⟨e'.running, by simp [hx]⟩
    · simp only at hs; subst hs; exact ⟨e'.running, by simp [hx]⟩

end Tcell.WLock
