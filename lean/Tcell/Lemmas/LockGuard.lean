/-
The repaired drawCell (`DrawCfg.guardLocked = true`, fixes/C13-wide-left-of-locked.patch): what a draw pass paints,
as a ghost log of (column, row, columns occupied), and the proof that no entry covers a locked cell.
Generic in everything but the switch; no invariant of the history is needed (it holds from every screen state).
-/
import Tcell.Lemmas.World
namespace Tcell
open Buf

/-- ghost log of one row pass (tscreen.go:1077-1090): for every dirty cell the loop visits, the cell it paints and
the number of columns the payload occupies (`drawCell`'s return value), in order -/
def Scr.rowLog (c : DrawCfg) (y : Int) : Nat → Int → Scr → List (Int × Int × Int)
  | 0, _, _ => []
  | fuel + 1, x, s =>
    if x < s.w then
      (if s.cells.dirty x y then [(x, y, (s.visit c x y).2.2)] else []) ++
        Scr.rowLog c y fuel (x + (s.visit c x y).2.2) (s.visit c x y).1
    else []

def Scr.rowsLog (c : DrawCfg) : Nat → Int → Scr → List (Int × Int × Int)
  | 0, _, _ => []
  | fuel + 1, y, s =>
    if y < s.h then
      Scr.rowLog c y s.w.toNat 0 s ++ Scr.rowsLog c fuel (y + 1) (Scr.drawRow c y s.w.toNat 0 s).1
    else []

/-- ghost log of a whole draw (hideCursor / clearScreen / showCursor write no cell payload) -/
def Scr.drawLog (c : DrawCfg) (s : Scr) : List (Int × Int × Int) :=
  let s0 : Scr := { s with cx := -1, cy := -1, curstyle := styleInvalid }
  let r1 := s0.hideCursor c
  let r2 := if r1.1.clear then r1.1.clearScreen else (r1.1, [])
  Scr.rowsLog c r2.1.h.toNat 0 r2.1

/-- without the corner trick a dirty cell is painted with the text of `Scr.txAt`, which is as wide as the loop's step -/
theorem visit_width_dirty {c : DrawCfg} (hct : c.cornerTrick = false) (s : Scr) (x y : Int) (hd : s.cells.dirty x y = true) :
    (s.visit c x y).2.2 = (s.txAt c x y).2 := by
  simp only [Scr.visit, Scr.drawCell, hd, hct, Scr.drawCellPlain_dirty c s x y hd, Bool.false_eq_true, and_false, not_true_eq_false,
    if_false]

/-- what the log entries of a pass guarantee, relative to the locks of a reference state `s0` -/
def LogOk (s0 : Scr) (e : Int × Int × Int) : Prop :=
  s0.cells.locked e.1 e.2.1 = false ∧ (e.2.2 > 1 → s0.cells.locked (e.1 + 1) e.2.1 = false)

theorem rowLog_ok {c : DrawCfg} (hct : c.cornerTrick = false) (hg : c.guardLocked = true) (s0 : Scr) (y : Int) :
    ∀ (fuel : Nat) (x : Int) (s : Scr), (∀ i j, s.cells.locked i j = s0.cells.locked i j) →
      ∀ e ∈ Scr.rowLog c y fuel x s, LogOk s0 e := by
  intro fuel
  induction fuel with
  | zero => intro x s _ e he; exact absurd he List.not_mem_nil
  | succ fuel ih =>
    intro x s hs e he
    simp only [Scr.rowLog] at he
    split at he
    · rcases List.mem_append.1 he with h1 | h1
      · cases hd : s.cells.dirty x y
        · simp [hd] at h1
        · obtain rfl : e = (x, y, (s.visit c x y).2.2) := by simpa only [hd, if_true, List.mem_singleton] using h1
          exact ⟨(hs x y).symm.trans (dirty_unlocked _ _ _ hd), fun hw =>
            (hs (x + 1) y).symm.trans (txAt_wide_unlocked c s x y hg (visit_width_dirty hct s x y hd ▸ hw))⟩
      · exact ih _ _ (fun i j => ((visit_rel c s x y).locked i j).trans (hs i j)) e h1
    · exact absurd he List.not_mem_nil

theorem rowsLog_ok {c : DrawCfg} (hct : c.cornerTrick = false) (hg : c.guardLocked = true) (s0 : Scr) :
    ∀ (fuel : Nat) (y : Int) (s : Scr), (∀ i j, s.cells.locked i j = s0.cells.locked i j) →
      ∀ e ∈ Scr.rowsLog c fuel y s, LogOk s0 e := by
  intro fuel
  induction fuel with
  | zero => intro y s _ e he; exact absurd he List.not_mem_nil
  | succ fuel ih =>
    intro y s hs e he
    simp only [Scr.rowsLog] at he
    split at he
    · rcases List.mem_append.1 he with h1 | h1
      · exact rowLog_ok hct hg s0 y _ _ s hs e h1
      · exact ih _ _ (fun i j => ((drawRow_rel c y _ _ s).locked i j).trans (hs i j)) e h1
    · exact absurd he List.not_mem_nil

/-- **No payload of a draw pass covers a locked cell** (repaired drawCell): every log entry is addressed to an unlocked
cell, and a payload wider than one column is only written when the next column is not locked — whatever the state. -/
theorem drawLog_ok {c : DrawCfg} (hct : c.cornerTrick = false) (hg : c.guardLocked = true) (s : Scr) :
    ∀ e ∈ s.drawLog c, LogOk s e := by
  refine rowsLog_ok hct hg s _ _ _ fun i j => ?_
  have e1 := (hideCursor_rel c { s with cx := -1, cy := -1, curstyle := styleInvalid }).locked i j
  split <;> exact e1

end Tcell
