import Tcell.Model.Parser
/-
Generic lemmas about `tryParsers` / `step1` / `collectAux`: `tryParsers` in closed form (`tryParsers_eq`: the first
parser that completes or is order dependent decides, `firstHit`; otherwise fall-through or wait), its corollaries for
parsers that are `Silent`, the Boolean tests on byte strings as propositions, what `parseRune` does by the class of the
first byte, and one productive iteration of `collectAux`.
-/
namespace Tcell.Lemmas.Collect
open Tcell Tcell.Model

/-- the parser neither completes nor is order dependent -/
def Silent (v : Verdict) : Prop := v = .part ∨ v = .reject

/-- the first verdict in parser order that is `complete` or `ambiguous` -/
def firstHit (st : PState) (b : Bytes) : List (PState → Bytes → Verdict) → Option Verdict
  | [] => none
  | p :: ps =>
    match p st b with
    | .complete n evs st' => some (.complete n evs st')
    | .ambiguous => some .ambiguous
    | _ => firstHit st b ps

def anyPart (st : PState) (b : Bytes) (ps : List (PState → Bytes → Verdict)) : Bool := ps.any (fun p => p st b == .part)

/-- `tryParsers` in closed form; the counter `k` only records whether a parser already passed was partial -/
theorem tryParsers_eq (st : PState) (b : Bytes) (e : Bool) : ∀ (ps : List (PState → Bytes → Verdict)) (k : Nat),
    tryParsers st b e ps k =
      match firstHit st b ps with
      | some (.complete n evs st') => .emit evs st' (b.drop n)
      | some _ => .ambiguous
      | none => if (k = 0 ∧ anyPart st b ps = false) ∨ e then fallThrough st b else .wait := by
  intro ps
  induction ps with
  | nil => intro k; simp [tryParsers, firstHit, anyPart]
  | cons p ps ih =>
    intro k
    unfold tryParsers firstHit
    cases hp : p st b with
    | complete n evs st' => simp
    | ambiguous => simp
    | part =>
      simp only [ih (k + 1)]
      have : anyPart st b (p :: ps) = true := by simp [anyPart, hp]
      simp [this]
    | reject =>
      simp only [ih k]
      have : anyPart st b (p :: ps) = anyPart st b ps := by simp [anyPart, hp]
      simp [this]

theorem firstHit_mem {st : PState} {b : Bytes} {v : Verdict} : ∀ {ps : List (PState → Bytes → Verdict)},
    firstHit st b ps = some v → (∃ q ∈ ps, q st b = v) ∧ (v = .ambiguous ∨ ∃ n evs st', v = .complete n evs st')
  | [], h => by simp [firstHit] at h
  | p :: ps, h => by
    unfold firstHit at h
    cases hp : p st b with
    | complete n evs st' =>
      rw [hp] at h
      obtain rfl : Verdict.complete n evs st' = v := Option.some.inj h
      exact ⟨⟨p, List.mem_cons_self, hp⟩, Or.inr ⟨n, evs, st', rfl⟩⟩
    | ambiguous =>
      rw [hp] at h
      obtain rfl : Verdict.ambiguous = v := Option.some.inj h
      exact ⟨⟨p, List.mem_cons_self, hp⟩, Or.inl rfl⟩
    | part | reject =>
      rw [hp] at h
      obtain ⟨⟨q, hq, hv⟩, h2⟩ := firstHit_mem h
      exact ⟨⟨q, List.mem_cons_of_mem _ hq, hv⟩, h2⟩

theorem firstHit_eq_none {st : PState} {b : Bytes} : ∀ {ps : List (PState → Bytes → Verdict)},
    firstHit st b ps = none ↔ ∀ p ∈ ps, Silent (p st b)
  | [] => by simp [firstHit]
  | p :: ps => by
    cases hp : p st b <;> simp [firstHit, hp, Silent, firstHit_eq_none (ps := ps)]

theorem firstHit_append_silent (st : PState) (b : Bytes) (qs : List (PState → Bytes → Verdict)) :
    ∀ ps : List (PState → Bytes → Verdict), (∀ p ∈ ps, Silent (p st b)) → firstHit st b (ps ++ qs) = firstHit st b qs
  | [], _ => rfl
  | p :: ps, h => by
    have ih := firstHit_append_silent st b qs ps fun q hq => h q (List.mem_cons_of_mem _ hq)
    rcases h p List.mem_cons_self with hp | hp <;> simp only [List.cons_append, firstHit, hp, ih]

theorem anyPart_eq_false {st : PState} {b : Bytes} {ps : List (PState → Bytes → Verdict)} :
    anyPart st b ps = false ↔ ∀ p ∈ ps, p st b ≠ .part := by
  simp [anyPart]

theorem tryParsers_hit (st : PState) (b : Bytes) (e : Bool) (p : PState → Bytes → Verdict)
    (ps : List (PState → Bytes → Verdict)) (k : Nat) (evs : List Event) (st' : PState)
    (h : p st b = .complete k evs st') (n : Nat) :
    tryParsers st b e (p :: ps) n = .emit evs st' (b.drop k) := by
  simp [tryParsers, h]

theorem tryParsers_silent_hit (st : PState) (b : Bytes) (e : Bool) (p : PState → Bytes → Verdict)
    (ps' : List (PState → Bytes → Verdict)) (k : Nat) (evs : List Event) (st' : PState) (h : p st b = .complete k evs st')
    (ps : List (PState → Bytes → Verdict)) (hs : ∀ q ∈ ps, Silent (q st b)) (n : Nat) :
    tryParsers st b e (ps ++ p :: ps') n = .emit evs st' (b.drop k) := by
  rw [tryParsers_eq, firstHit_append_silent st b _ ps hs, firstHit, h]

theorem tryParsers_wait (st : PState) (b : Bytes) (ps : List (PState → Bytes → Verdict)) (n : Nat)
    (hs : ∀ p ∈ ps, Silent (p st b)) (hp : 0 < n ∨ ∃ p ∈ ps, p st b = .part) : tryParsers st b false ps n = .wait := by
  have : ¬ (n = 0 ∧ anyPart st b ps = false) := fun ⟨hn, ha⟩ =>
    hp.elim (by omega) fun ⟨p, hm, hpp⟩ => anyPart_eq_false.mp ha p hm hpp
  simp [tryParsers_eq, firstHit_eq_none.mpr hs, this]

theorem fallThrough_cons (st : PState) (c : Nat) (t : Bytes) : ∃ evs st', fallThrough st (c :: t) = .emit evs st' t := by
  unfold fallThrough
  by_cases hc : c = 27
  · cases t <;> simp only [hc, if_true] <;> exact ⟨_, _, rfl⟩
  · simp only [hc, if_false]; exact ⟨_, _, rfl⟩

/-- one iteration of the loop: a parser completes and its verdict is emitted, or a parser is order dependent, or the
fall-through takes one byte, or (only without timeout, or on the empty buffer) it waits -/
theorem step1_cases (cfg : Cfg) (st : PState) (b : Bytes) (e : Bool) :
    (∃ q ∈ parsers cfg, ∃ n evs st', q st b = .complete n evs st' ∧ step1 cfg st b e = .emit evs st' (b.drop n)) ∨
    ((∃ q ∈ parsers cfg, q st b = .ambiguous) ∧ step1 cfg st b e = .ambiguous) ∨
    (∃ evs st', step1 cfg st b e = .emit evs st' b.tail) ∨
    ((e = false ∨ b = []) ∧ step1 cfg st b e = .wait) := by
  unfold step1
  rw [tryParsers_eq]
  cases hf : firstHit st b (parsers cfg) with
  | some v =>
    obtain ⟨⟨q, hq, hqv⟩, rfl | ⟨n, evs, st', rfl⟩⟩ := firstHit_mem hf
    · exact .inr (.inl ⟨⟨q, hq, hqv⟩, rfl⟩)
    · exact .inl ⟨q, hq, n, evs, st', hqv, rfl⟩
  | none =>
    simp only
    split
    · rcases b with _ | ⟨c, t⟩
      · exact .inr (.inr (.inr ⟨.inr rfl, rfl⟩))
      · exact .inr (.inr (.inl (fallThrough_cons st c t)))
    · next h => exact .inr (.inr (.inr ⟨.inl (Bool.eq_false_iff.mpr fun he => h (.inr he)), rfl⟩))

theorem bytesEq_iff : ∀ {a b : Bytes}, bytesEq a b = true ↔ a = b
  | [], [] => by simp [bytesEq]
  | [], _ :: _ => by simp [bytesEq]
  | _ :: _, [] => by simp [bytesEq]
  | x :: a, y :: b => by simp [bytesEq, bytesEq_iff (a := a) (b := b)]

theorem hasPrefix_iff : ∀ {b p : Bytes}, hasPrefix b p = true ↔ p <+: b
  | _, [] => by simp [hasPrefix]
  | [], _ :: _ => by simp [hasPrefix]
  | x :: b, y :: p => by
    rw [hasPrefix, Bool.and_eq_true, hasPrefix_iff, List.cons_prefix_cons]
    exact and_congr_left' ⟨fun h => (Nat.eq_of_beq_eq_true h).symm, fun h => h ▸ Nat.beq_refl y⟩

theorem mem_keyMatches {T : KeyTable} {b : Bytes} {e : KeyEntry} :
    e ∈ keyMatches T b ↔ e ∈ T ∧ bytesEq e.seq [27] = false ∧ e.seq <+: b := by
  simp [keyMatches, hasPrefix_iff]

theorem keyPartial_iff {T : KeyTable} {b : Bytes} :
    keyPartial T b = true ↔ ∃ e ∈ T, bytesEq e.seq [27] = false ∧ b <+: e.seq := by
  simp [keyPartial, hasPrefix_iff]

def DecSilent (dec : Bytes → DecResult) (c : Nat) : Prop := ∀ p r n, dec (c :: p) ≠ .out r n

theorem runeLoop_silent (dec : Bytes → DecResult) (st : PState) (c : Nat) (t : Bytes) (h : DecSilent dec c) :
    ∀ fuel l, runeLoop dec st (c :: t) fuel (l + 1) = .part := by
  intro fuel
  induction fuel with
  | zero => intro l; rfl
  | succ f ih =>
    intro l
    unfold runeLoop
    have : (c :: t).take (l + 1) = c :: t.take l := rfl
    rw [this]
    cases hd : dec (c :: t.take l) with
    | shortSrc => exact ih (l + 1)
    | nothing => exact ih (l + 1)
    | out r n => exact absurd hd (h _ r n)

theorem parseRune_esc (dec : Bytes → DecResult) (st : PState) (t : Bytes) : parseRune dec st (27 :: t) = .reject := by
  simp [parseRune]

theorem parseRune_ctrl (dec : Bytes → DecResult) (st : PState) (c : Nat) (t : Bytes) (h : c < 32) :
    parseRune dec st (c :: t) = .reject := by
  unfold parseRune
  have h1 : ¬ (32 ≤ c ∧ c ≤ 127) := by omega
  have h2 : c < 128 := by omega
  simp [h1, h2]

theorem parseRune_low (dec : Bytes → DecResult) (st : PState) (c : Nat) (t : Bytes) (h : c < 128) :
    parseRune dec st (c :: t) = parseRune dec st [c] := by
  simp only [parseRune, h, if_true]

theorem parseRune_high (dec : Bytes → DecResult) (st : PState) (c : Nat) (t : Bytes) (h : 128 ≤ c) :
    parseRune dec st (c :: t) = runeLoop dec st (c :: t) (t.length + 1) 1 := by
  have : ¬ (32 ≤ c ∧ c ≤ 127) ∧ ¬ c < 128 := by omega
  simp only [parseRune, this, if_false, List.length_cons]

theorem parseRune_silent (dec : Bytes → DecResult) (st : PState) (c : Nat) (t : Bytes) (hc : 128 ≤ c)
    (h : DecSilent dec c) : parseRune dec st (c :: t) = .part := by
  rw [parseRune_high dec st c t hc]; exact runeLoop_silent dec st c t h _ 0

/-- an OSC 52 reply is longer than its seven prefix bytes: on a shorter buffer both clipboard parsers (pinned and
repaired) only compare with the prefix -/
theorem parseClipboardV_short (fixed : Bool) (st : PState) (b : Bytes) (h : b.length ≤ 7) :
    parseClipboardV fixed st b = if hasPrefix clipPrefix b then .part else .reject := by
  cases fixed <;> simp [parseClipboardV, parseClipboard, parseClipboardF, h]

theorem parseFunctionKey_silent (T : KeyTable) (st : PState) (b : Bytes) (h : keyMatches T b = []) :
    Silent (parseFunctionKey T st b) := by
  unfold parseFunctionKey Silent
  rw [h]
  by_cases hp : keyPartial T b <;> simp [hp]

theorem collectAux_nil (cfg : Cfg) (e : Bool) (fuel : Nat) (st : PState) :
    collectAux cfg e fuel st [] = ⟨[], st, [], false⟩ := by
  cases fuel <;> rfl

theorem collectAux_emit (cfg : Cfg) (e : Bool) (fuel : Nat) (st st' : PState) (b rest : Bytes) (hb : b ≠ [])
    (evs : List Event) (h : step1 cfg st b e = .emit evs st' rest) :
    collectAux cfg e (fuel + 1) st b =
      { collectAux cfg e fuel st' rest with evs := evs ++ (collectAux cfg e fuel st' rest).evs } := by
  cases b with
  | nil => exact absurd rfl hb
  | cons c t => simp [collectAux, h]

theorem collectAux_last (cfg : Cfg) (e : Bool) (fuel : Nat) (st st' : PState) (b : Bytes) (hb : b ≠ [])
    (evs : List Event) (h : step1 cfg st b e = .emit evs st' []) :
    collectAux cfg e (fuel + 1) st b = ⟨evs, st', [], false⟩ := by
  rw [collectAux_emit cfg e fuel st st' b [] hb evs h, collectAux_nil]; simp

theorem collect_last (cfg : Cfg) (st st' : PState) (b : Bytes) (e : Bool) (hb : b ≠ []) (evs : List Event)
    (h : step1 cfg st b e = .emit evs st' []) : collect cfg st b e = ⟨evs, st', [], false⟩ := by
  cases b with
  | nil => exact absurd rfl hb
  | cons c t => exact collectAux_last cfg e t.length st st' _ hb evs h

end Tcell.Lemmas.Collect
