/-
Layer B of C01/C13: the bottom-right corner trick at the level of bytes.

On a terminal with automatic margins that cannot switch them off, drawCell (tscreen.go:815-836) never writes into the
bottom-right cell: it writes the glyph one column to the left, moves the cursor back onto it, inserts a character
(`ich1`), which pushes the glyph into the last cell, and repaints the cell it borrowed.  Layer A (`Lemmas/DrawCorner.lean`)
carries this through the cross-Show invariant on the abstract terminal (`ATerm.insertAt`).  Here: `IchFx` for every description
whose `ich1` is (padding removed) `CSI @` (`ichFx_of`), and the first half of the trick as a whole (`corner_trick_bytes`).
-/
import Tcell.Lemmas.LayerBXtermFx
import Tcell.Lemmas.LayerBAdmit
namespace Tcell.LayerB
open Tcell Tcell.Spec.Ecma48 Tcell.Spec.Ecma48.Term
open Tcell.Render (tp)

/-- `CSI @` = ICH, one character -/
theorem ich_feed {rw} {t : Term} (g : Good rw t) : t.feed [27, 91, 64] = t.insertChars 1 := by
  have := feed_csi_plain t g.st [] 0x40 [[none]] (by simp) (by omega) rfl
  simp only [csiSeq, List.append_nil, List.cons_append, List.nil_append] at this
  rw [this]; simp [dispatchPlain, argCount, arg, flat]

theorem ichFx_of (dc : DrawCfg) (rc : RenderCfg) (h : Tcell.Spec.TermCaps.stripPadding rc.ti.insertChar = [27, 91, 64]) :
    IchFx dc rc := by
  intro t g
  simp only [Render.render, tp_strip, h]; exact ich_feed g

/-- the statement of `corner_trick_bytes` for a draw / render configuration -/
def CornerTrickFx (dc : DrawCfg) (rc : RenderCfg) : Prop :=
  ∀ {t : Term} {a : ATerm}, Rep dc rc t a → ∀ (y : Int), 0 ≤ y → y < a.h → 2 ≤ a.w → a.w < TParm.maxInt64 → a.h < TParm.maxInt64 →
    ∀ (s : Style), StyleOk s → ∀ (bytes : List Nat), PayloadOk dc.rw bytes 1 →
    let cmds := [Cmd.goto (a.w - 2) y, .setPen s, .put bytes 1, .goto (a.w - 2) y, .insertChar]
    let t' := t.feed (Render.renderAll rc cmds)
    Rep dc rc t' (a.applyAll cmds) ∧
    (a.applyAll cmds).grid (a.w - 1) y = .shown bytes false s ∧
    (t'.grid.get (a.w - 1).toNat y.toNat).runes.flatMap Utf8.encode = bytes ∧
    (t'.grid.get (a.w - 1).toNat y.toNat).pen = penOf rc s ∧ (t'.grid.get (a.w - 1).toNat y.toNat).garbage = false ∧
    t'.cursorKnown = true ∧ (t'.cx : Int) = a.w - 2 ∧ (t'.cy : Int) = y ∧ t'.pendingWrap = false ∧ t'.malformed = []

/-- **the corner trick, bytes**: from any emulator state representing the abstract terminal `a` (at least two columns wide),
    the bytes of `goto (w-2, y); setPen s; put glyph; goto (w-2, y); ich1` leave an emulator that represents the abstract
    terminal after these five commands; in it the glyph, with the rendition `penOf rc s`, is in the LAST column of row `y`,
    the cursor is known, in column `w-2`, with no wrap pending (nothing has scrolled); the tokenizer has accepted every byte -/
theorem corner_trick_bytes {dc : DrawCfg} {rc : RenderCfg} (hrw : RwB dc.rw) (fx : CapsFx dc rc) (hich : IchFx dc rc) :
    CornerTrickFx dc rc := by
  intro t a R y hy0 hyh hw hwm hhm s hs bytes hp
  intro cmds t'
  have hin : a.inGrid (a.w - 2) y := ⟨by omega, by omega, hy0, hyh⟩
  -- the four commands before `ich1`, then `ich1` in the situation they create
  obtain ⟨a4, ⟨ad4, ea4⟩, ich, hw4, hh4, hc4, _, g4⟩ :=
    trick_admits (c := dc) True hin (by omega) (by omega) hs (fun h => absurd trivial h) hp
  have hin4 : a4.inGrid (a.w - 2) y := by simpa [ATerm.inGrid, hw4, hh4] using hin
  have R4 : Rep dc rc (t.feed (Render.renderAll rc [Cmd.goto (a.w - 2) y, .setPen s, .put bytes 1, .goto (a.w - 2) y])) a4 :=
    ea4 ▸ sim_all hrw fx (fun _ => hich) _ R ad4
  have R5 := sim_insertChar hich R4 ich
  have ea : a.applyAll cmds = a4.insertAt (a.w - 2) y := by
    rw [← apply_insertChar_in a4 _ _ hc4 hin4, ← ea4]; rfl
  have et : t' = (t.feed (Render.renderAll rc [Cmd.goto (a.w - 2) y, .setPen s, .put bytes 1, .goto (a.w - 2) y])).feed
      (Render.render rc .insertChar) := by
    rw [feed_append]; simp [t', cmds, Render.renderAll]
  rw [apply_insertChar_in a4 _ _ hc4 hin4, ← et, ← ea] at R5
  -- what the abstract terminal says about the last cell and the cursor
  have hlast : (a.applyAll cmds).grid (a.w - 1) y = .shown bytes false s := by
    rw [ea, insertAt_corner_grid a4 (a.w - 2) y bytes s g4 (by omega), if_neg (by omega), if_pos ⟨rfl, by omega⟩]
  have hcur : (a.applyAll cmds).cur = some (a.w - 2, y) := by rw [ea]; exact hc4
  have hin5 : (a.applyAll cmds).inGrid (a.w - 2) y := by rw [ea]; exact hin4
  have cr := R5.cell (x := a.w - 1) ⟨by omega, by rw [ea]; show a.w - 1 < a4.w; omega, hin5.2.2⟩
  rw [hlast] at cr
  obtain ⟨ck, ccx, ccy, cpw⟩ := R5.cursor hcur hin5
  exact ⟨R5, hlast, cr.2.2.1, cr.2.2.2, cr.2.1, ck, ccx, ccy, cpw, R5.good.mal⟩

end Tcell.LayerB
