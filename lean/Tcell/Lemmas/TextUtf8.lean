import Tcell.Lemmas.TextParse
/-
C11: the UTF-8 decoder model `decUtf8` (x/text `UTF8Validator` + `utf8.DecodeRune`) obeys the codec laws for the
encoding `Utf8.encode` (Go `utf8.EncodeRune`) of every scalar value ≥ 0x80 other than U+FFFD.
-/
namespace Tcell.Lemmas.Text
open Tcell Tcell.Model

theorem decUtf8_full (b0 : Nat) (t : Bytes) (r : Int) (hb : 0x80 ≤ b0) (hd : utf8DecodeRune (b0 :: t) = (r, t.length + 1))
    (h2 : 1 ≤ t.length) (h4 : t.length ≤ 3) : decUtf8 (b0 :: t) = .out r (t.length + 1) := by
  have a1 : ¬ b0 < 0x80 := by omega
  have hv : utf8Validate ((b0 :: t).length + 1) 0 (min (b0 :: t).length 12) (b0 :: t) = t.length + 1 := by
    have c1 : ¬ 0 ≥ min (t.length + 1) 12 := by omega
    have c2 : ¬ t.length + 1 = 1 := by omega
    have c3 : ¬ t.length + 1 > 12 := by omega
    have c4 : t.length + 1 ≥ min (t.length + 1) 12 := by omega
    simp only [List.length_cons, utf8Validate, c1, a1, hd, c2, c3, c4, if_false, if_true, Nat.zero_add]
  simp only [decUtf8, hv, hd]
  rfl

theorem decUtf8_trunc (b0 : Nat) (t : Bytes) (hb : 0x80 ≤ b0) (hd : (utf8DecodeRune (b0 :: t)).2 = 1) :
    decUtf8 (b0 :: t) = .nothing := by
  have a1 : ¬ b0 < 0x80 := by omega
  have c1 : ¬ 0 ≥ min (t.length + 1) 12 := by omega
  simp only [decUtf8, List.length_cons, utf8Validate, c1, a1, hd, if_false, if_true]

theorem utf8_char (b0 : Nat) (t : Bytes) (r : Int) (hb : 0x80 ≤ b0) (hd : utf8DecodeRune (b0 :: t) = (r, t.length + 1))
    (h2 : 1 ≤ t.length) (h4 : t.length ≤ 3) (htr : ∀ l, l < t.length → (utf8DecodeRune (b0 :: t.take l)).2 = 1)
    (hpr : 32 ≤ r ∧ r ≠ 127 ∧ r ≠ runeError) : CodecChar decUtf8 (b0 :: t, r) := by
  refine ⟨⟨b0, t, rfl, hb⟩, by simp only [List.length_cons]; omega, decUtf8_full b0 t r hb hd h2 h4, ?_, hpr⟩
  intro l h0 hl
  rw [take_cons_pos b0 t l h0]
  exact Or.inr (decUtf8_trunc b0 _ hb (htr (l - 1) (by simp only [List.length_cons] at hl; omega)))

/-! ### the bit layouts `110aaaaa 10bbbbbb`, `1110aaaa 10bbbbbb 10cccccc`, `11110aaa 10bbbbbb 10cccccc 10dddddd` -/

theorem utf8_char2 (a b : Nat) (ha : 2 ≤ a) (ha' : a ≤ 31) (hb : b ≤ 63) :
    CodecChar decUtf8 ([0xC0 + a, 0x80 + b], ((a * 64 + b : Nat) : Int)) := by
  refine utf8_char _ _ _ (by omega) (by simp +arith [utf8DecodeRune, ha, ha', hb]) (by simp) (by simp) (fun l hl => ?_)
    (by simp only [runeError]; omega)
  obtain rfl : l = 0 := by simpa using hl
  simp +arith [utf8DecodeRune, ha']

/-- no overlong form (`a = 0` needs `b ≥ 0x20`) and no surrogate (`a = 0xD` needs `b < 0x20`) -/
theorem utf8_char3 (a b c : Nat) (ha : a ≤ 15) (hb : b ≤ 63) (hc : c ≤ 63) (hlo : a = 0 → 32 ≤ b) (hsur : a = 13 → b ≤ 31)
    (hfffd : a * 4096 + b * 64 + c ≠ 0xFFFD) :
    CodecChar decUtf8 ([0xE0 + a, 0x80 + b, 0x80 + c], ((a * 4096 + b * 64 + c : Nat) : Int)) := by
  -- `simp +arith` turns the tests of `utf8DecodeRune` on `0xE0 + a`, `0x80 + b` into tests on the digits; `b1`, `b2` are
  -- the two it cannot decide, in the form it leaves them
  have b1 : (if a = 0 then 0xA0 else 0x80) ≤ b + 0x80 := by split <;> omega
  have b2 : b + 0x80 ≤ (if a = 13 then 0x9F else 0xBF) := by split <;> omega
  refine utf8_char _ _ _ (by omega) (by simp +arith [utf8DecodeRune, ha, hc, b1, b2]) (by simp) (by simp)
    (fun l hl => ?_) (by simp only [runeError]; omega)
  have : l = 0 ∨ l = 1 := by simp only [List.length_cons, List.length_nil] at hl; omega
  rcases this with rfl | rfl <;> simp +arith [utf8DecodeRune]

/-- no overlong form (`a = 0` needs `b ≥ 0x10`) and nothing above U+10FFFF (`a = 4` needs `b < 0x10`) -/
theorem utf8_char4 (a b c d : Nat) (ha : a ≤ 4) (hb : b ≤ 63) (hc : c ≤ 63) (hd : d ≤ 63) (hlo : a = 0 → 16 ≤ b)
    (hmax : a = 4 → b ≤ 15) :
    CodecChar decUtf8 ([0xF0 + a, 0x80 + b, 0x80 + c, 0x80 + d], ((a * 262144 + b * 4096 + c * 64 + d : Nat) : Int)) := by
  have b1 : (if a = 0 then 0x90 else 0x80) ≤ b + 0x80 := by split <;> omega
  have b2 : b + 0x80 ≤ (if a = 4 then 0x8F else 0xBF) := by split <;> omega
  refine utf8_char _ _ _ (by omega) (by simp +arith [utf8DecodeRune, ha, hc, hd, b1, b2]) (by simp) (by simp)
    (fun l hl => ?_) (by simp only [runeError]; omega)
  have : l = 0 ∨ l = 1 ∨ l = 2 := by simp only [List.length_cons, List.length_nil] at hl; omega
  rcases this with rfl | rfl | rfl <;> simp +arith [utf8DecodeRune]

theorem encode_eq (r : Int) (h0 : 0 ≤ r) (h1 : r ≤ 0x10FFFF) (h2 : ¬ (0xD800 ≤ r ∧ r ≤ 0xDFFF)) :
    Utf8.encode r = Utf8.encodeNat r.toNat := by
  unfold Utf8.encode Utf8.validRune
  simp [h0, h1, h2]

theorem encodeNat_codecChar (n : Nat) (h128 : 128 ≤ n) (hmax : n ≤ 0x10FFFF) (hsur : ¬ (0xD800 ≤ n ∧ n ≤ 0xDFFF))
    (hfffd : n ≠ 0xFFFD) : CodecChar decUtf8 (Utf8.encodeNat n, (n : Int)) := by
  have e1 : ¬ n < 0x80 := by omega
  simp only [Utf8.encodeNat, e1, if_false]
  -- in each case the digits of `n` become variables, so that only the first `omega` sees a division
  by_cases c2 : n < 0x800
  · simp only [c2, if_true]
    generalize ha : n / 64 = a, hb : n % 64 = b
    obtain ⟨hn, hb'⟩ : n = a * 64 + b ∧ b ≤ 63 := by omega
    clear ha hb
    exact hn ▸ utf8_char2 a b (by omega) (by omega) hb'
  · simp only [c2, if_false]
    by_cases c3 : n < 0x10000
    · simp only [c3, if_true]
      generalize ha : n / 4096 = a, hb : n / 64 % 64 = b, hc : n % 64 = c
      obtain ⟨hn, hb', hc'⟩ : n = a * 4096 + b * 64 + c ∧ b ≤ 63 ∧ c ≤ 63 := by omega
      clear ha hb hc
      exact hn ▸ utf8_char3 a b c (by omega) hb' hc' (by omega) (by omega) (by omega)
    · simp only [c3, if_false]
      generalize ha : n / 262144 = a, hb : n / 4096 % 64 = b, hc : n / 64 % 64 = c, hd : n % 64 = d
      obtain ⟨hn, hb', hc', hd'⟩ : n = a * 262144 + b * 4096 + c * 64 + d ∧ b ≤ 63 ∧ c ≤ 63 ∧ d ≤ 63 := by omega
      clear ha hb hc hd
      exact hn ▸ utf8_char4 a b c d (by omega) hb' hc' hd' (by omega) (by omega)

theorem utf8_codecChar (r : Int) (h128 : 128 ≤ r) (hmax : r ≤ 0x10FFFF) (hsur : ¬ (0xD800 ≤ r ∧ r ≤ 0xDFFF))
    (hfffd : r ≠ 0xFFFD) : CodecChar decUtf8 (Utf8.encode r, r) := by
  have := encodeNat_codecChar r.toNat (by omega) (by omega) (by omega) (by omega)
  rwa [show ((r.toNat : Nat) : Int) = r by omega, ← encode_eq r (by omega) hmax hsur] at this

end Tcell.Lemmas.Text
