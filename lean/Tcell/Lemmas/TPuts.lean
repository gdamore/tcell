import Tcell.Lemmas.TParm
/-
C15: the TPuts scanner (`strings.Index` for `$<`, then for `>`, `isPadding`) equals the grammar-directed reference on
every byte string: the bytes it writes are `stripPadding`, the delays it takes are those of `padSpecs`; subsequence.

`stripPadding` and `padSpecs` walk the string in the same way and keep complementary parts of it.  `scan` is that walk
with both parts in one list, so that every fact about the walk (fuel, `$<` found by `findMarker`, `>` found by
`findGt`) is proved once and the scanner is compared with it in one induction (`tputsAux_scan`).
-/
namespace Tcell.TPuts
open Tcell.TParm Tcell.Spec.TermCaps

/-! ### the reference walk -/

/-- the bytes `stripAux` keeps (`inl`) and the specifications `padSpecsAux` collects (`inr`), in order -/
def scanAux : Nat → Bytes → List (Nat ⊕ Bytes)
  | 0, _ => []
  | _ + 1, [] => []
  | f + 1, b :: r =>
    match matchPad (b :: r) with
    | some rest => .inr (r.tail.takeWhile (· != 62)) :: scanAux f rest
    | none => .inl b :: scanAux f r

def scan (s : Bytes) : List (Nat ⊕ Bytes) := scanAux s.length s

theorem stripAux_eq (f : Nat) (s : Bytes) : stripAux f s = (scanAux f s).filterMap Sum.getLeft? := by
  induction f generalizing s with
  | zero => rfl
  | succ f ih =>
    cases s with
    | nil => rfl
    | cons b r => simp only [stripAux, scanAux]; cases matchPad (b :: r) <;> simp [ih, List.filterMap_cons]

theorem padSpecsAux_eq (f : Nat) (s : Bytes) : padSpecsAux f s = (scanAux f s).filterMap Sum.getRight? := by
  induction f generalizing s with
  | zero => rfl
  | succ f ih =>
    cases s with
    | nil => rfl
    | cons b r => simp only [padSpecsAux, scanAux]; cases matchPad (b :: r) <;> simp [ih, List.filterMap_cons]

theorem kept_map (s : Bytes) : s.filterMap (Sum.getLeft? ∘ Sum.inl (β := Bytes)) = s := by
  induction s <;> simp [*]

theorem specs_map (s : Bytes) : s.filterMap (Sum.getRight? ∘ Sum.inl (β := Bytes)) = [] := by
  induction s <;> simp [*]

theorem strip_eq (s : Bytes) : stripPadding s = (scan s).filterMap Sum.getLeft? := stripAux_eq _ s

theorem padSpecs_eq (s : Bytes) : padSpecs s = (scan s).filterMap Sum.getRight? := padSpecsAux_eq _ s

theorem matchPad_some {s rest : Bytes} (h : matchPad s = some rest) :
    ∃ r, s = 36 :: 60 :: r ∧ r.dropWhile (· != 62) = 62 :: rest := by
  unfold matchPad at h
  split at h
  · rename_i r
    split at h
    · rename_i rest' heq
      split at h <;> cases h
      exact ⟨r, rfl, heq⟩
    · cases h
  · cases h

theorem matchPad_length (s rest : Bytes) (h : matchPad s = some rest) : rest.length + 3 ≤ s.length := by
  obtain ⟨r, rfl, hd⟩ := matchPad_some h
  have := length_dropWhile_le (· != 62) r
  rw [hd] at this
  simp only [List.length_cons] at this ⊢
  omega

theorem scanAux_fuel (f g : Nat) (s : Bytes) (hf : s.length ≤ f) (hg : s.length ≤ g) : scanAux f s = scanAux g s := by
  induction f using Nat.strongRecOn generalizing g s with
  | _ f ih =>
    cases s with
    | nil => cases f <;> cases g <;> rfl
    | cons b r =>
      cases f with
      | zero => simp at hf
      | succ f =>
        cases g with
        | zero => simp at hg
        | succ g =>
          simp only [scanAux]
          simp only [List.length_cons] at hf hg
          cases hm : matchPad (b :: r) with
          | none => simp only; rw [ih f (by omega) g r (by omega) (by omega)]
          | some rest =>
            have := matchPad_length _ _ hm
            simp only [List.length_cons] at this
            simp only; rw [ih f (by omega) g rest (by omega) (by omega)]

theorem scan_cons (b : Nat) (r : Bytes) :
    scan (b :: r) = match matchPad (b :: r) with
      | some rest => .inr (r.tail.takeWhile (· != 62)) :: scan rest
      | none => .inl b :: scan r := by
  unfold scan
  simp only [List.length_cons, scanAux]
  cases hm : matchPad (b :: r) with
  | none => rfl
  | some rest =>
    have := matchPad_length _ _ hm
    simp only [List.length_cons] at this
    simp only
    rw [scanAux_fuel _ _ _ (by omega) (Nat.le_refl _)]

theorem strip_nil : stripPadding [] = [] := rfl

theorem strip_cons (b : Nat) (r : Bytes) :
    stripPadding (b :: r) = match matchPad (b :: r) with
      | some rest => stripPadding rest
      | none => b :: stripPadding r := by
  rw [strip_eq, scan_cons]
  cases matchPad (b :: r) <;> simp [strip_eq, List.filterMap_cons]

theorem matchPad_none_of' (b : Nat) (r : Bytes) (h : ¬ (b = 36 ∧ r.head? = some 60)) : matchPad (b :: r) = none := by
  unfold matchPad
  split
  · rename_i heq
    simp only [List.cons.injEq] at heq
    obtain ⟨rfl, rfl⟩ := heq
    exact absurd ⟨rfl, by simp⟩ h
  · rfl

theorem scan_cons_plain (b : Nat) (r : Bytes) (h : ¬ (b = 36 ∧ r.head? = some 60)) : scan (b :: r) = .inl b :: scan r := by
  rw [scan_cons, matchPad_none_of' b r h]

theorem matchPad_noGt (s : Bytes) (h : ∀ b ∈ s, b ≠ 62) : matchPad s = none := by
  unfold matchPad
  split
  · rename_i r'
    split
    · rename_i rest hd
      have hmem : (62 : Nat) ∈ r'.dropWhile (· != 62) := by rw [hd]; simp
      have := (List.dropWhile_sublist _).subset hmem
      exact absurd rfl (h 62 (by simp [this]))
    · rfl
  · rfl

theorem scan_noGt (s : Bytes) (h : ∀ b ∈ s, b ≠ 62) : scan s = s.map .inl := by
  induction s with
  | nil => rfl
  | cons b r ih => rw [scan_cons, matchPad_noGt _ h, List.map_cons, ih (fun x hx => h x (by simp [hx]))]

/-! ### `strings.Index` -/

/-- what `strings.Index(s, "$<")` finds, and that the bytes in front of the first `$<` are kept -/
theorem scan_findMarker (s : Bytes) :
    match findMarker s with
    | none => scan s = s.map .inl
    | some (pre, post) => s = pre ++ 36 :: 60 :: post ∧ scan s = pre.map .inl ++ scan (36 :: 60 :: post) := by
  induction s with
  | nil => rfl
  | cons b r ih =>
    by_cases hb : b = 36 ∧ r.head? = some 60
    · cases r with
      | nil => simp at hb
      | cons c r' =>
        obtain ⟨rfl, hc⟩ := hb
        obtain rfl : c = 60 := by simpa using hc
        exact ⟨rfl, rfl⟩
    · have hs := scan_cons_plain b r hb
      have hf : findMarker (b :: r) =
          match findMarker r with | some (pre, post) => some (b :: pre, post) | none => none := by
        simp only [findMarker]; exact if_neg (by simpa using hb)
      rw [hf, hs]
      cases hr : findMarker r with
      | none => rw [hr] at ih; exact congrArg (.inl b :: ·) ih
      | some pp => rw [hr] at ih; exact ⟨congrArg (b :: ·) ih.1, congrArg (.inl b :: ·) ih.2⟩

theorem findMarker_split (s pre post : Bytes) (h : findMarker s = some (pre, post)) :
    s = pre ++ 36 :: 60 :: post := by
  have := scan_findMarker s
  rw [h] at this
  exact this.1

theorem findGt_cons_ne (b : Nat) (r : Bytes) (hb : b ≠ 62) :
    findGt (b :: r) = match findGt r with | some (pre, post) => some (b :: pre, post) | none => none := by
  rw [findGt.eq_3 b r (by intro h; exact hb h)]
  rfl

/-- `strings.Index(s, ">")` in terms of `takeWhile`/`dropWhile` -/
theorem findGt_spec (l : Bytes) :
    match findGt l with
    | none => ∀ b ∈ l, b ≠ 62
    | some (val, rest) => l.takeWhile (· != 62) = val ∧ l.dropWhile (· != 62) = 62 :: rest := by
  induction l with
  | nil => simp [findGt]
  | cons b r ih =>
    by_cases hb : b = 62
    · subst hb; simp [findGt]
    · rw [findGt_cons_ne b r hb]
      cases hr : findGt r with
      | none => rw [hr] at ih; simpa [hb] using ih
      | some p => rw [hr] at ih; simpa [hb] using ih

theorem padContent_eq (val : Bytes) : padContent val = isPadSpec val := rfl

theorem scan_marker (post : Bytes) :
    scan (36 :: 60 :: post) =
      match findGt post with
      | none => (36 :: 60 :: post).map .inl
      | some (val, rest) => if isPadSpec val then .inr val :: scan rest else .inl 36 :: .inl 60 :: scan post := by
  have hg := findGt_spec post
  cases hf : findGt post with
  | none =>
    rw [hf] at hg
    exact scan_noGt _ fun b hb => by
      simp only [List.mem_cons] at hb
      rcases hb with rfl | rfl | hb
      · decide
      · decide
      · exact hg b hb
  | some p =>
    rw [hf] at hg
    obtain ⟨hval, hd⟩ := hg
    rw [scan_cons]
    simp only
    by_cases hp : isPadSpec p.1 = true
    · have hm : matchPad (36 :: 60 :: post) = some p.2 := by
        unfold matchPad; simp only [hd, hval, hp, if_true]
      rw [hm, if_pos hp, ← hval]
      rfl
    · have hm : matchPad (36 :: 60 :: post) = none := by
        unfold matchPad; simp only [hd, hval, hp]; rfl
      rw [hm, if_neg hp]
      simp only
      rw [scan_cons_plain 60 post (by simp)]

/-! ### the code -/

/-- **the repaired scanner is the reference walk**: it appends the kept bytes to the output and, on a terminal with
a pad character, the delays of the specifications to the delays, whatever was accumulated before -/
theorem tputsAux_scan (pad : Bytes) (f : Nat) (s : Bytes) (o : Out) (hf : s.length < f) :
    tputsAux true pad f s o =
      { bytes := o.bytes ++ (scan s).filterMap Sum.getLeft?,
        delays := if pad.isEmpty then o.delays else o.delays ++ ((scan s).filterMap Sum.getRight?).map delayOf } := by
  induction f using Nat.strongRecOn generalizing s o with
  | _ f ih =>
    cases f with
    | zero => omega
    | succ f =>
      simp only [tputsAux]
      have hs := scan_findMarker s
      cases hm : findMarker s with
      | none => rw [hm] at hs; cases pad.isEmpty <;> simp [hs, kept_map, specs_map]
      | some pp =>
        obtain ⟨pre, post⟩ := pp
        rw [hm] at hs
        have hlen : s.length = pre.length + 2 + post.length := by
          rw [hs.1]; simp; omega
        rw [hs.2, scan_marker]
        simp only
        cases hg : findGt post with
        | none => cases pad.isEmpty <;> simp [kept_map, specs_map, List.filterMap_cons]
        | some vr =>
          obtain ⟨val, rest⟩ := vr
          have hrl : rest.length < post.length := by
            have h1 := findGt_spec post
            have h2 := length_dropWhile_le (· != 62) post
            rw [hg] at h1
            rw [h1.2] at h2
            exact h2
          simp only [Bool.true_and, padContent_eq]
          by_cases hp : isPadSpec val = true
          · simp only [hp, Bool.not_true, Bool.false_eq_true, if_false, if_true]
            rw [ih f (by omega) rest _ (by omega)]
            cases pad.isEmpty <;> simp [kept_map, specs_map, List.filterMap_cons]
          · have hp' : isPadSpec val = false := by simpa using hp
            simp only [hp', Bool.not_false, if_true, Bool.false_eq_true, if_false]
            rw [ih f (by omega) post _ (by omega)]
            cases pad.isEmpty <;> simp [kept_map, specs_map, List.filterMap_cons]

/-- output of the repaired scanner, with the accumulator pulled out -/
theorem tputsAux_bytes (pad : Bytes) (f : Nat) (s : Bytes) (o : Out) (hf : s.length < f) :
    (tputsAux true pad f s o).bytes = o.bytes ++ stripPadding s := by
  rw [tputsAux_scan pad f s o hf, strip_eq]

/-- the delays the repaired scanner takes (terminal with a pad character) are those of the padding specifications
of the reference grammar, in order -/
theorem tputsAux_delays (pad : Bytes) (hpad : pad.isEmpty = false) (f : Nat) (s : Bytes) (o : Out) (hf : s.length < f) :
    (tputsAux true pad f s o).delays = o.delays ++ (padSpecs s).map delayOf := by
  rw [tputsAux_scan pad f s o hf, padSpecs_eq]
  simp [hpad]

/-! ### subsequence -/

theorem matchPad_sublist (s rest : Bytes) (h : matchPad s = some rest) : rest.Sublist s := by
  obtain ⟨r, rfl, hd⟩ := matchPad_some h
  have h1 : (62 :: rest).Sublist r := hd ▸ List.dropWhile_sublist _
  exact ((List.sublist_cons_self 62 rest).trans h1).trans
    ((List.sublist_cons_self 60 r).trans (List.sublist_cons_self 36 _))

theorem strip_sublist (s : Bytes) : (stripPadding s).Sublist s := by
  generalize hn : s.length = n
  induction n using Nat.strongRecOn generalizing s with
  | _ n ih =>
    cases s with
    | nil => exact List.Sublist.refl _
    | cons b r =>
      rw [strip_cons]
      cases hm : matchPad (b :: r) with
      | none =>
        simp only
        simp only [List.length_cons] at hn
        exact List.Sublist.cons_cons b (ih r.length (by omega) r rfl)
      | some rest =>
        simp only
        have hl := matchPad_length _ _ hm
        exact (ih rest.length (by omega) rest rfl).trans (matchPad_sublist _ _ hm)

end Tcell.TPuts
