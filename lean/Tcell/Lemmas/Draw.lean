/-
The draw loop as a whole: one iteration (`visit_post`) is carried through a row (`drawRow_post`), the rows (`drawRows_post`)
and a complete draw with its prelude and final showCursor (`draw_post`).  Each postcondition (`RowPost`, `RowsPost`, `DrawPost`)
takes its frame part from `ScrRel` (Lemmas/DrawBuf.lean) and adds the invariant, which cells were cleaned, and where payload went.
-/
import Tcell.Lemmas.DrawCorner
namespace Tcell
open Buf

/-- one loop iteration preserves the pass invariant, whatever the cell's state — the bottom-right corner trick included -/
theorem visit_post {c : DrawCfg} (hrw : RwOk c.rw) (hct : c.Walk) {d : Option Style} {s : Scr} {t : ATerm}
    {x y : Int} (inv : PassInv c d s t x y) (hr : s.cells.inRange x y) (hcc : CornerCtx c s x y) :
    VisitPost c d s t x y (s.visit c x y).1 (t.applyAll (s.visit c x y).2.1) (s.visit c x y).2.2 := by
  cases hd : s.cells.dirty x y
  · exact visit_clean hrw hct inv hr hd
  · by_cases hcor : y = s.h - 1 ∧ x = s.w - 1 ∧ c.cornerTrick = true
    · obtain ⟨h2, hul, gh⟩ := hcc hcor.2.2 hcor.1 (by omega)
      exact visit_corner hrw hct inv hr hd hcor h2 hul gh
    · exact visit_dirty hrw inv hr hd hcor

theorem stepW_unlocked (c : DrawCfg) {b : Buf} {x y : Int} (h : b.locked (x + 1) y = false) :
    stepW c b x y = (b.getContent x y).2.2.2 := by
  simp [stepW, h]

theorem cornerCtx_step {c : DrawCfg} (hrw : RwOk c.rw) {d : Option Style} {s : Scr} {t : ATerm} {x y : Int} {s' : Scr} {t' : ATerm}
    {wd : Int} (inv : PassInv c d s t x y) (hr : s.cells.inRange x y) (hcc : CornerCtx c s x y)
    (vp : VisitPost c d s t x y s' t' wd) : CornerCtx c s' (x + wd) y := by
  intro hc hy hlt
  rw [vp.h_same] at hy; rw [vp.w_same] at hlt
  have hwd := vp.wd_pos
  obtain ⟨h2, hul, gh⟩ := hcc hc hy (by omega)
  have hx : 0 ≤ x := by simp only [inRange_iff] at hr; omega
  -- on a row without locks the draw loop and the `px` loop both step by GetContent's width
  have hraw := rawW_eq (getContent_width hrw s.cells x y hr (inv.wok x y)).1
  have hwdeq : wd = rawW s.cells x y := by
    rcases vp.wd_eq with h | h
    · rw [h, hraw, stepW_unlocked c (hul _)]
    · omega
  have hraw' : rawW s'.cells x y = rawW s.cells x y := rawW_congr _ _ _ _ (vp.gc_same x y)
  refine ⟨by rw [vp.w_same]; exact h2, fun i => ?_, ?_, fun _ => ?_⟩
  · rw [locked_congr _ _ (by rw [vp.inv.cw, vp.w_same, inv.cw]) (by rw [vp.inv.ch, vp.h_same, inv.ch]) vp.lock_same]
    exact hul i
  · rw [hwdeq]; exact gh.reach.snoc.congr (fun i => vp.gc_same i y)
  · obtain ⟨d1, d2⟩ := vp.done (unlocked_of_locked_false _ _ _ hr (hul x))
    exact ⟨x, hx, gh.reach.congr (fun i => vp.gc_same i y), by rw [hraw', hwdeq], d1, d2,
      fun hw => vp.nb (by omega) (by omega)⟩

theorem visitsG_ge (c : DrawCfg) (b : Buf) (y : Int) (fuel : Nat) (x0 i : Int) (h : b.w ≤ x0) :
    visitsG c b y fuel x0 i = false := by
  cases fuel with
  | zero => rfl
  | succ n => simp only [visitsG]; rw [if_neg (by omega)]

theorem stepW_congr (c : DrawCfg) (b b' : Buf) (x y : Int) (hw : b'.w = b.w) (hh : b'.h = b.h)
    (h0 : b'.cells x y = b.cells x y) (h1 : b'.cells (x + 1) y = b.cells (x + 1) y) : stepW c b' x y = stepW c b x y := by
  simp only [stepW, getContent, Buf.locked, dirty, inRange_iff, hw, hh, h0, h1]

theorem stepW_nonneg {c : DrawCfg} (hrw : RwOk c.rw) (b : Buf) (hw : ∀ i j, WOk c.rw (b.cells i j)) (x y : Int) :
    0 ≤ stepW c b x y := by
  have h : 0 ≤ (b.getContent x y).2.2.2 := by
    by_cases hr : b.inRange x y
    · have := getContent_width hrw b x y hr (hw x y); omega
    · simp [getContent, hr]
  unfold stepW; split <;> omega

/-- the walk from column `a` on only reads the cells of row `y` from column `a` on -/
theorem visitsG_congr_from (c : DrawCfg) (b b' : Buf) (y a : Int) (hw : b'.w = b.w) (hh : b'.h = b.h)
    (hc : ∀ i, a ≤ i → b'.cells i y = b.cells i y) (hpos : ∀ i, a ≤ i → 0 ≤ stepW c b i y) :
    ∀ (f : Nat) (x0 i : Int), a ≤ x0 → visitsG c b' y f x0 i = visitsG c b y f x0 i := by
  intro f
  induction f with
  | zero => intro x0 i _; rfl
  | succ m ih =>
    intro x0 i hx0
    simp only [visitsG, hw]
    rw [stepW_congr c b b' x0 y hw hh (hc x0 hx0) (hc (x0 + 1) (by omega))]
    rw [ih _ _ (by have := hpos x0 hx0; omega)]

theorem visitedG_congr_row (c : DrawCfg) (b b' : Buf) (y : Int) (hw : b'.w = b.w) (hh : b'.h = b.h)
    (hc : ∀ i, b'.cells i y = b.cells i y) (hpos : ∀ i, 0 ≤ stepW c b i y) (x : Int) :
    visitedG c b' x y = visitedG c b x y := by
  simp only [visitedG, hw]
  exact visitsG_congr_from c b b' y 0 hw hh (fun i _ => hc i) (fun i _ => hpos i) _ _ _ (Int.le_refl 0)

/-- when the walk does not depend on the Dirty flags (pinned drawCell, or the walk fix) it is determined by contents,
locks and dimensions -/
theorem visitsG_static (c : DrawCfg) (hs : c.guardLocked = false ∨ c.walkGuard = true) (b b' : Buf) (hw : b'.w = b.w)
    (hh : b'.h = b.h) (hg : ∀ i j, b'.getContent i j = b.getContent i j)
    (hl : ∀ i j, (b'.cells i j).lock = (b.cells i j).lock) (y : Int) :
    ∀ (f : Nat) (x0 i : Int), visitsG c b' y f x0 i = visitsG c b y f x0 i := by
  have hstep : ∀ x, stepW c b' x y = stepW c b x y := by
    intro x; unfold stepW; rw [hg, locked_congr b b' hw hh hl]
    rcases hs with h | h <;> simp [h]
  intro f
  induction f with
  | zero => intro x0 i; rfl
  | succ m ih => intro x0 i; simp only [visitsG, hw, hstep, ih]

theorem visitedG_static (c : DrawCfg) (hs : c.guardLocked = false ∨ c.walkGuard = true) (b b' : Buf) (hw : b'.w = b.w)
    (hh : b'.h = b.h) (hg : ∀ i j, b'.getContent i j = b.getContent i j)
    (hl : ∀ i j, (b'.cells i j).lock = (b.cells i j).lock) (x y : Int) : visitedG c b' x y = visitedG c b x y := by
  simp only [visitedG, hw]; exact visitsG_static c hs b b' hw hh hg hl y _ _ _

/-- without the guard the walk is the pinned one -/
theorem visitsG_eq_visits (c : DrawCfg) (hg : c.guardLocked = false) (b : Buf) (y : Int) :
    ∀ (f : Nat) (x0 i : Int), visitsG c b y f x0 i = visits c.rw b y f x0 i := by
  intro f
  induction f with
  | zero => intro x0 i; rfl
  | succ m ih => intro x0 i; simp only [visitsG, visits, stepW, hg, ih]; simp

theorem visitedG_eq_visited (c : DrawCfg) (hg : c.guardLocked = false) (b : Buf) (x y : Int) :
    visitedG c b x y = visited c.rw b x y := by
  simp only [visitedG, visited]; exact visitsG_eq_visits c hg b y _ _ _

/-- what a pass over (the rest of) a row guarantees -/
structure RowPost (c : DrawCfg) (d : Option Style) (s : Scr) (t : ATerm) (x0 y : Int) (fuel : Nat)
    (s' : Scr) (t' : ATerm) : Prop where
  sync : SyncInv c d s' t'
  kcur : s'.cells.inRange s'.cx s'.cy → t'.cur = some (s'.cx, s'.cy)
  kpen : s'.curstyle ≠ styleInvalid → t'.pen = some s'.curstyle
  gc_same : ∀ i j, s'.cells.getContent i j = s.cells.getContent i j
  lock_same : ∀ i j, (s'.cells.cells i j).lock = (s.cells.cells i j).lock
  other_same : ∀ i j, (j ≠ y ∨ i < x0) → s'.cells.cells i j = s.cells.cells i j
  done : ∀ i, visitsG c s.cells y fuel x0 i = true → (s.cells.cells i y).lock = false →
    (s'.cells.cells i y).lastMain ≠ 0 ∧ (s'.cells.cells i y).last = (s'.cells.cells i y).content
  w_same : s'.w = s.w
  h_same : s'.h = s.h
  style_same : s'.style = s.style
  cursor_same : s'.cursorx = s.cursorx ∧ s'.cursory = s.cursory ∧ s'.cursorStyle = s.cursorStyle ∧ s'.cursorColor = s.cursorColor
  flags_same : s'.clear = s.clear ∧ s'.fini = s.fini
  vis_same : t'.visible = t.visible ∧ t'.shape = t.shape
  /-- cells that received payload in this pass were dirty when the pass reached them, and lie in this row right of x0 -/
  writes : ∃ ws, t'.writes = ws ++ t.writes ∧ ∀ p ∈ ws,
    (p.2 = y ∧ x0 ≤ p.1 ∧ s.cells.dirty p.1 p.2 = true ∧ visitsG c s.cells y fuel x0 p.1 = true) ∨
    (c.cornerTrick = true ∧ y = s.h - 1 ∧ p.2 = y ∧ x0 ≤ s.w - 1 ∧ s.cells.dirty (s.w - 1) y = true ∧
      visitsG c s.cells y fuel x0 (s.w - 1) = true ∧
      (p.1 = s.w - 2 ∨ p.1 = Scr.coverStart s.cells y (s.w - 1).toNat 0 (s.w - 1)))
  covers : ∃ cs, t'.covered = cs ++ t.covered ∧ (c.guardLocked = true → ∀ p ∈ cs, s.cells.locked p.1 p.2 = false)

theorem RowPost.nil {c : DrawCfg} {d : Option Style} {s : Scr} {t : ATerm} {x y : Int} {fuel : Nat}
    (inv : PassInv c d s t x y) (h : ∀ i, visitsG c s.cells y fuel x i = false) : RowPost c d s t x y fuel s t :=
  { ScrFrame.refl s with
    sync := inv.toSyncInv, kcur := inv.kcur, kpen := inv.kpen, other_same := fun _ _ _ => rfl,
    done := fun i hv => (by rw [h i] at hv; cases hv), vis_same := ⟨rfl, rfl⟩,
    writes := ⟨[], rfl, by simp⟩, covers := ⟨[], rfl, by simp⟩ }

theorem drawRow_post {c : DrawCfg} (hrw : RwOk c.rw) (hct : c.Walk) {d : Option Style} (y : Int) :
    ∀ (fuel : Nat) (x : Int) (s : Scr) (t : ATerm), 0 ≤ x → 0 ≤ y → y < s.h → PassInv c d s t x y → CornerCtx c s x y →
      RowPost c d s t x y fuel (Scr.drawRow c y fuel x s).1 (t.applyAll (Scr.drawRow c y fuel x s).2) := by
  intro fuel
  induction fuel with
  | zero => intro x s t _ _ _ inv _; exact .nil inv (fun _ => rfl)
  | succ n ih =>
    intro x s t hx0 hy0 hy1 inv hcc
    have hrel := drawRow_rel c y (n + 1) x s
    rw [drawRow_succ] at hrel ⊢
    by_cases hlt : x < s.w
    rotate_left
    · rw [if_neg hlt]; exact .nil inv (fun i => visitsG_ge _ _ _ _ _ _ (by rw [inv.cw]; omega))
    rw [if_pos hlt] at hrel ⊢
    simp only at hrel ⊢
    have hxw : x < s.cells.w := by rw [inv.cw]; exact hlt
    have hr : s.cells.inRange x y := by have := inv.ch; simp only [inRange_iff]; omega
    have vp := visit_post hrw hct inv hr hcc
    have hvr := visit_rel c s x y
    have rp := ih (x + (s.visit c x y).2.2) (s.visit c x y).1 (t.applyAll (s.visit c x y).2.1)
      (by have := vp.wd_pos; omega) hy0 (by rw [vp.h_same]; exact hy1) vp.inv (cornerCtx_step hrw inv hr hcc vp)
    rw [applyAll_append]
    generalize s.visit c x y = v at *
    obtain ⟨s1, cmds, wd⟩ := v
    simp only at *
    have hwd := vp.wd_pos
    -- right of the visit the buffer is untouched, so the walk continues the same way on both buffers
    have hwalk : ∀ i, visitsG c s1.cells y n (x + wd) i = visitsG c s.cells y n (x + wd) i := fun i =>
      visitsG_congr_from c s.cells _ y (x + wd) hvr.cw hvr.ch (fun i' hi' => vp.other_same i' y (Or.inr (Or.inr hi')))
        (fun i' _ => stepW_nonneg hrw s.cells inv.wok i' y) n _ i (Int.le_refl _)
    -- the model's step and the spec's step reach the same columns
    have hvis : ∀ i, i ≠ x → (visitsG c s1.cells y n (x + wd) i = true ↔ visitsG c s.cells y (n + 1) x i = true) := by
      intro i hne
      rw [hwalk]; simp only [visitsG, if_pos hxw, if_neg hne]
      rcases vp.wd_eq with e | e
      · rw [e]
      · have := inv.cw
        rw [visitsG_ge _ _ _ _ _ _ (by omega), visitsG_ge _ _ _ _ _ _ (by omega)]
    -- a cell right of the visit position is untouched by the visit, so "dirty" means the same before and after
    have hkeep : ∀ i : Int, x + wd ≤ i → s1.cells.dirty i y = true → s.cells.dirty i y = true := fun i p2 p3 =>
      dirty_congr _ _ hvr.cw hvr.ch (vp.other_same i y (Or.inr (Or.inr p2))) ▸ p3
    refine { hrel.frame hrw inv.wok with
             sync := rp.sync, kcur := rp.kcur, kpen := rp.kpen, other_same := ?_, done := ?_, writes := ?_, covers := ?_,
             vis_same := ⟨rp.vis_same.1.trans vp.vis_same.1, rp.vis_same.2.trans vp.vis_same.2⟩ }
    · intro i j hne
      rw [rp.other_same i j (by omega), vp.other_same i j (by omega)]
    · intro i hv hl
      by_cases hix : i = x
      · rw [hix, rp.other_same x y (Or.inr (by omega))]; exact vp.done (hix ▸ hl)
      · exact rp.done i ((hvis i hix).2 hv) (by rw [vp.lock_same]; exact hl)
    · obtain ⟨ws, hws, hmem⟩ := rp.writes
      obtain ⟨ws1, hws1, hnil, hm1⟩ := vp.writes
      refine ⟨ws ++ ws1, by rw [hws, hws1]; simp, ?_⟩
      intro p hp
      rcases List.mem_append.1 hp with hp | hp
      · rcases hmem p hp with ⟨p1, p2, p3, p4⟩ | ⟨e1, e2, e3, e4, e5, e6, e7⟩
        · left; exact ⟨p1, by omega, by rw [p1] at p3 ⊢; exact hkeep p.1 p2 p3, (hvis p.1 (by omega)).1 p4⟩
        · right
          rw [vp.w_same] at e4 e5 e6 e7; rw [vp.h_same] at e2
          refine ⟨e1, e2, e3, by omega, hkeep _ e4 e5, (hvis _ (by omega)).1 e6, ?_⟩
          rw [coverStart_congr s.cells _ y (fun i => vp.gc_same i y)] at e7; exact e7
      · have hd : s.cells.dirty x y = true := by
          cases h : s.cells.dirty x y
          · rw [hnil h] at hp; cases hp
          · rfl
        have hself : visitsG c s.cells y (n + 1) x x = true := by simp [visitsG, hxw]
        rcases hm1 p hp with h | ⟨e1, e2, e3, e4, e5⟩
        · left; subst h; exact ⟨rfl, Int.le_refl _, hd, hself⟩
        · right; subst e3; exact ⟨e1, e2, e4, Int.le_refl _, hd, hself, e5⟩
    · obtain ⟨cs2, h2, m2⟩ := rp.covers
      obtain ⟨cs1, h1, m1⟩ := vp.covers
      refine ⟨cs2 ++ cs1, by rw [h2, h1]; simp, fun hg p hp => ?_⟩
      rcases List.mem_append.1 hp with hp | hp
      · rw [← hvr.locked]; exact m2 hg p hp
      · exact m1 hg p hp

/-- what the double loop of draw guarantees from row y0 on -/
structure RowsPost (c : DrawCfg) (d : Option Style) (s : Scr) (t : ATerm) (y0 : Int) (fuel : Nat)
    (s' : Scr) (t' : ATerm) : Prop where
  sync : SyncInv c d s' t'
  kcur : s'.cells.inRange s'.cx s'.cy → t'.cur = some (s'.cx, s'.cy)
  kpen : s'.curstyle ≠ styleInvalid → t'.pen = some s'.curstyle
  gc_same : ∀ i j, s'.cells.getContent i j = s.cells.getContent i j
  lock_same : ∀ i j, (s'.cells.cells i j).lock = (s.cells.cells i j).lock
  other_same : ∀ i j, j < y0 → s'.cells.cells i j = s.cells.cells i j
  done : ∀ y i, y0 ≤ y → y < y0 + fuel → y < s.h → visitsG c s.cells y s.w.toNat 0 i = true → (s.cells.cells i y).lock = false →
    (s'.cells.cells i y).lastMain ≠ 0 ∧ (s'.cells.cells i y).last = (s'.cells.cells i y).content
  w_same : s'.w = s.w
  h_same : s'.h = s.h
  style_same : s'.style = s.style
  cursor_same : s'.cursorx = s.cursorx ∧ s'.cursory = s.cursory ∧ s'.cursorStyle = s.cursorStyle ∧ s'.cursorColor = s.cursorColor
  flags_same : s'.clear = s.clear ∧ s'.fini = s.fini
  vis_same : t'.visible = t.visible ∧ t'.shape = t.shape
  writes : ∃ ws, t'.writes = ws ++ t.writes ∧ ∀ p ∈ ws,
    (y0 ≤ p.2 ∧ s.cells.dirty p.1 p.2 = true ∧ visitsG c s.cells p.2 s.w.toNat 0 p.1 = true) ∨
    (c.cornerTrick = true ∧ p.2 = s.h - 1 ∧ y0 ≤ p.2 ∧ s.cells.dirty (s.w - 1) (s.h - 1) = true ∧
      visitsG c s.cells (s.h - 1) s.w.toNat 0 (s.w - 1) = true ∧
      (p.1 = s.w - 2 ∨ p.1 = Scr.coverStart s.cells (s.h - 1) (s.w - 1).toNat 0 (s.w - 1)))
  covers : ∃ cs, t'.covered = cs ++ t.covered ∧ (c.guardLocked = true → ∀ p ∈ cs, s.cells.locked p.1 p.2 = false)

theorem RowsPost.nil {c : DrawCfg} {d : Option Style} {s : Scr} {t : ATerm} {y : Int} {fuel : Nat} (inv : SyncInv c d s t)
    (kc : s.cells.inRange s.cx s.cy → t.cur = some (s.cx, s.cy)) (kp : s.curstyle ≠ styleInvalid → t.pen = some s.curstyle)
    (h : fuel = 0 ∨ s.h ≤ y) : RowsPost c d s t y fuel s t :=
  { ScrFrame.refl s with
    sync := inv, kcur := kc, kpen := kp, other_same := fun _ _ _ => rfl, done := (by intro y' i h1 h2 h3; omega),
    vis_same := ⟨rfl, rfl⟩, writes := ⟨[], rfl, by simp⟩, covers := ⟨[], rfl, by simp⟩ }

theorem drawRows_post {c : DrawCfg} (hrw : RwOk c.rw) (hct : c.Walk) {d : Option Style} :
    ∀ (fuel : Nat) (y : Int) (s : Scr) (t : ATerm), 0 ≤ y → SyncInv c d s t → CornerSafe c s →
      (s.cells.inRange s.cx s.cy → t.cur = some (s.cx, s.cy)) → (s.curstyle ≠ styleInvalid → t.pen = some s.curstyle) →
      (∀ d', d = some d' → d' = s.style) →
      RowsPost c d s t y fuel (Scr.drawRows c fuel y s).1 (t.applyAll (Scr.drawRows c fuel y s).2) := by
  intro fuel
  induction fuel with
  | zero =>
    intro y s t _ inv _ kc kp _
    exact .nil inv kc kp (Or.inl rfl)
  | succ n ih =>
    intro y s t hy0 inv hsafe kc kp dc
    have hrel := drawRows_rel c (n + 1) y s
    rw [drawRows_succ] at hrel ⊢
    by_cases hlt : y < s.h
    rotate_left
    · rw [if_neg hlt]; exact .nil inv kc kp (Or.inr (by omega))
    rw [if_pos hlt] at hrel ⊢
    simp only at hrel ⊢
    have hcc : CornerCtx c s 0 y := by
      intro hc hy _
      obtain ⟨h2, hul⟩ := hsafe hc
      exact ⟨h2, by rw [hy]; exact hul, ⟨.refl 0, fun h => by omega⟩⟩
    have rp := drawRow_post hrw hct y s.w.toNat 0 s t (by omega) hy0 hlt
      { toSyncInv := inv, kcur := kc, kpen := kp, q := by intro h; omega, dcompat := dc } hcc
    have hrr := drawRow_rel c y s.w.toNat 0 s
    rw [applyAll_append]
    generalize Scr.drawRow c y s.w.toNat 0 s = v at *
    obtain ⟨s1, cmds⟩ := v
    simp only at *
    have hsafe1 : CornerSafe c s1 := by
      intro hc
      obtain ⟨h2, hul⟩ := hsafe hc
      exact ⟨by rw [hrr.w]; exact h2, fun i => by rw [hrr.h, hrr.locked]; exact hul i⟩
    have rs := ih (y + 1) s1 (t.applyAll cmds) (by omega) rp.sync hsafe1 rp.kcur rp.kpen
      (by intro d' hd'; rw [hrr.style]; exact dc d' hd')
    -- rows other than y are untouched by the pass over row y: the walk over them and their Dirty flags are the same
    have hrowwalk : ∀ y', y' ≠ y → ∀ f i, visitsG c s1.cells y' f 0 i = visitsG c s.cells y' f 0 i := fun y' hy' f i =>
      visitsG_congr_from c s.cells _ y' 0 hrr.cw hrr.ch (fun i' _ => rp.other_same i' y' (Or.inl hy'))
        (fun i' _ => stepW_nonneg hrw s.cells inv.wok i' y') f 0 i (Int.le_refl _)
    have hdsame : ∀ i j, j ≠ y → s1.cells.dirty i j = true → s.cells.dirty i j = true := fun i j hj p2 =>
      dirty_congr _ _ hrr.cw hrr.ch (rp.other_same i j (Or.inl hj)) ▸ p2
    refine { hrel.frame hrw inv.wok with
             sync := rs.sync, kcur := rs.kcur, kpen := rs.kpen, other_same := ?_, done := ?_, writes := ?_, covers := ?_,
             vis_same := ⟨rs.vis_same.1.trans rp.vis_same.1, rs.vis_same.2.trans rp.vis_same.2⟩ }
    · intro i j hj; rw [rs.other_same i j (by omega), rp.other_same i j (Or.inl (by omega))]
    · intro y' i h1 h2 h3 hv hl
      by_cases hy : y' = y
      · rw [hy, rs.other_same i y (by omega)]; exact rp.done i (hy ▸ hv) (hy ▸ hl)
      · exact rs.done y' i (by omega) (by omega) (by rw [hrr.h]; exact h3) (by rw [hrowwalk y' hy, hrr.w]; exact hv)
          (by rw [hrr.lock]; exact hl)
    · obtain ⟨ws1, hws1, hm1⟩ := rp.writes
      obtain ⟨ws2, hws2, hm2⟩ := rs.writes
      refine ⟨ws2 ++ ws1, by rw [hws2, hws1]; simp, ?_⟩
      intro p hp
      rcases List.mem_append.1 hp with hp | hp
      · rcases hm2 p hp with ⟨p1, p2, p3⟩ | ⟨e1, e2, e3, e4, e5, e6⟩
        · left
          refine ⟨by omega, hdsame _ _ (by omega) p2, ?_⟩
          rw [hrowwalk p.2 (by omega), hrr.w] at p3; exact p3
        · right
          rw [hrr.w, hrr.h] at e4 e5 e6; rw [hrr.h] at e2
          refine ⟨e1, e2, by omega, hdsame _ _ (by omega) e4, ?_, ?_⟩
          · rw [hrowwalk (s.h - 1) (by omega)] at e5; exact e5
          · rw [coverStart_congr s.cells _ (s.h - 1) (fun i => rp.gc_same i (s.h - 1))] at e6; exact e6
      · rcases hm1 p hp with ⟨p1, _, p3, p4⟩ | ⟨e1, e2, e3, _, e5, e6, e7⟩
        · left; exact ⟨by omega, p3, by rw [p1]; exact p4⟩
        · right; subst e2
          exact ⟨e1, e3, by omega, e5, e6, e7⟩
    · obtain ⟨cs2, h2, m2⟩ := rs.covers
      obtain ⟨cs1, h1, m1⟩ := rp.covers
      refine ⟨cs2 ++ cs1, by rw [h2, h1]; simp, fun hg p hp => ?_⟩
      rcases List.mem_append.1 hp with hp | hp
      · rw [← hrr.locked]; exact m2 hg p hp
      · exact m1 hg p hp

def AllDirty (s : Scr) : Prop := ∀ x y, s.cells.inRange x y → (s.cells.cells x y).lastMain = 0

theorem SyncInv.weaken {c : DrawCfg} {d : Option Style} {s : Scr} {t : ATerm} (inv : SyncInv c d s t) :
    SyncInv c none s t :=
  { inv with
    g1 := fun x y hr hl hm =>
      let ⟨st', nl, h1, h2, _, h4⟩ := inv.g1 x y hr hl hm
      ⟨st', nl, h1, h2, fun _ _ => nofun, h4⟩ }

/-- when everything is dirty the invariant does not depend on the recorded default style -/
theorem SyncInv.of_allDirty {c : DrawCfg} {d d' : Option Style} {s : Scr} {t : ATerm} (inv : SyncInv c d s t)
    (hall : AllDirty s) : SyncInv c d' s t :=
  { inv with g1 := fun x y hr _ hm => absurd (hall x y hr) hm }

/-- the buffer-only part of the invariant -/
structure BufOkS (c : DrawCfg) (s : Scr) : Prop where
  cw : s.cells.w = s.w
  ch : s.cells.h = s.h
  wok : ∀ x y, WOk c.rw (s.cells.cells x y)
  valid : s.style.attrs ≠ attrInvalid ∧ ∀ x y, (s.cells.cells x y).currStyle.attrs ≠ attrInvalid

/-- the part of the invariant that does not speak about the terminal's contents -/
structure BufOk (c : DrawCfg) (s : Scr) (t : ATerm) : Prop extends BufOkS c s where
  tw : t.w = s.w
  th : t.h = s.h

theorem SyncInv.bufOk {c : DrawCfg} {d : Option Style} {s : Scr} {t : ATerm} (inv : SyncInv c d s t) : BufOk c s t :=
  { inv with }

/-- the invariant for a terminal about which nothing is known, when everything is dirty -/
theorem SyncInv.fresh {c : DrawCfg} {d : Option Style} {s : Scr} {t : ATerm} (pre : BufOk c s t)
    (hall : AllDirty s) (hg : ∀ x y, t.grid x y = .garbage) : SyncInv c d s t :=
  { pre with
    g1 := fun x y hr _ hm => absurd (hall x y hr) hm,
    g2 := fun x y hr _ => Or.inr (hall x y hr),
    wf := fun x y _ h => (by rw [hg] at h; cases h),
    g3 := fun x y hr _ hm => absurd (hall x y hr) hm }

/-- what a whole draw guarantees -/
structure DrawPost (c : DrawCfg) (d : Option Style) (s : Scr) (t : ATerm) (s' : Scr) (t' : ATerm) : Prop where
  sync : SyncInv c d s' t'
  gc_same : ∀ i j, s'.cells.getContent i j = s.cells.getContent i j
  lock_same : ∀ i j, (s'.cells.cells i j).lock = (s.cells.cells i j).lock
  done : ∀ x y, s.cells.inRange x y → visitedG c s.cells x y = true → (s.cells.cells x y).lock = false →
    (s'.cells.cells x y).lastMain ≠ 0 ∧ (s'.cells.cells x y).last = (s'.cells.cells x y).content
  w_same : s'.w = s.w
  h_same : s'.h = s.h
  style_same : s'.style = s.style
  cursor_same : s'.cursorx = s.cursorx ∧ s'.cursory = s.cursory ∧ s'.cursorStyle = s.cursorStyle ∧ s'.cursorColor = s.cursorColor
  clear_done : s'.clear = false
  fini_same : s'.fini = s.fini
  /-- the cursor is shown at the requested cell, or hidden / parked bottom-right when that cell is off-screen -/
  cursor :
    (s.cells.inRange s.cursorx s.cursory →
      t'.cur = some (s.cursorx, s.cursory) ∧ t'.visible = some true ∧ t'.shape = some (s.cursorStyle, s.cursorColor)) ∧
    (¬ s.cells.inRange s.cursorx s.cursory →
      (c.hasHide = true → t'.visible = some false) ∧
      (c.hasHide = false → t'.cur = some (t.clampX s.cells.w, t.clampY s.cells.h)))
  /-- payload goes to cells that were dirty and visited — and, with the bottom-right corner trick, to the second to last
  column of the last row and the cell covering it when the corner cell is repainted (`CornerWrite`) -/
  writes : ∃ ws, t'.writes = ws ++ t.writes ∧ ∀ p ∈ ws,
    (s.cells.dirty p.1 p.2 = true ∧ visitedG c s.cells p.1 p.2 = true) ∨ CornerWrite c s.cells p
  /-- with the guard compiled in, no cell a payload of this draw occupies is locked -/
  covers : ∃ cs, t'.covered = cs ++ t.covered ∧ (c.guardLocked = true → ∀ p ∈ cs, s.cells.locked p.1 p.2 = false)

/-- the commands sent before the loop of draw leave the terminal its size and logs, and its grid unless it is cleared -/
theorem draw_prelude (c : DrawCfg) (s : Scr) (t : ATerm) :
    let r1 := ({ s with cx := -1, cy := -1, curstyle := styleInvalid } : Scr).hideCursor c
    let r2 := if r1.1.clear then r1.1.clearScreen else (r1.1, [])
    let t2 := (t.applyAll r1.2).applyAll r2.2
    t2.w = t.w ∧ t2.h = t.h ∧ t2.writes = t.writes ∧ t2.covered = t.covered ∧
      (s.clear = false → t2.grid = t.grid) ∧ (s.clear = true → ∀ i j, t2.grid i j = .garbage) := by
  cases hh : c.hasHide <;> cases hcl : s.clear <;>
    simp only [Scr.hideCursor, Scr.clearScreen, hh, Bool.false_eq_true, if_false, if_true]
  · exact ⟨rfl, rfl, rfl, rfl, fun _ => rfl, nofun⟩
  · exact ⟨rfl, rfl, rfl, rfl, nofun, fun _ _ _ => rfl⟩
  · exact ⟨rfl, rfl, rfl, rfl, fun _ => rfl, nofun⟩
  · exact ⟨rfl, rfl, rfl, rfl, nofun, fun _ _ _ => rfl⟩

/-- showCursor sets caches only and moves, shows or hides the cursor: at the requested cell if it is on the screen,
else hidden, or parked bottom-right where it cannot be hidden -/
theorem showCursor_post (c : DrawCfg) (s : Scr) (t : ATerm) (htw : t.w = s.cells.w) (hth : t.h = s.cells.h) :
    let t' := t.applyAll (s.showCursor c).2
    (∃ a b e f, (s.showCursor c).1 = { s with cx := a, cy := b, cursorShaped := e, cursorTinted := f }) ∧
    t'.grid = t.grid ∧ t'.w = t.w ∧ t'.h = t.h ∧ t'.writes = t.writes ∧ t'.covered = t.covered ∧
    (s.cells.inRange s.cursorx s.cursory →
      t'.cur = some (s.cursorx, s.cursory) ∧ t'.visible = some true ∧ t'.shape = some (s.cursorStyle, s.cursorColor)) ∧
    (¬ s.cells.inRange s.cursorx s.cursory →
      (c.hasHide = true → t'.visible = some false) ∧
      (c.hasHide = false → t'.cur = some (t.clampX s.cells.w, t.clampY s.cells.h))) := by
  unfold Scr.showCursor
  by_cases hr : s.cells.inRange s.cursorx s.cursory
  · have hr' := hr
    simp only [inRange_iff] at hr'
    simp only [if_neg (show ¬ (s.cursorx < 0 ∨ s.cursory < 0 ∨ s.cursorx ≥ s.cells.w ∨ s.cursory ≥ s.cells.h) by omega)]
    rw [applyAll_cons, apply_goto t (by omega) (by omega)]
    exact ⟨⟨_, _, _, _, rfl⟩, rfl, rfl, rfl, rfl, rfl, fun _ => ⟨rfl, rfl, rfl⟩, fun h => absurd hr h⟩
  · rw [if_pos (show s.cursorx < 0 ∨ s.cursory < 0 ∨ s.cursorx ≥ s.cells.w ∨ s.cursory ≥ s.cells.h by
      simp only [inRange_iff] at hr; omega)]
    unfold Scr.hideCursor
    cases c.hasHide
    · exact ⟨⟨_, _, s.cursorShaped, s.cursorTinted, rfl⟩, rfl, rfl, rfl, rfl, rfl, fun h => absurd h hr,
        fun _ => ⟨nofun, fun _ => rfl⟩⟩
    · exact ⟨⟨s.cx, s.cy, s.cursorShaped, s.cursorTinted, rfl⟩, rfl, rfl, rfl, rfl, rfl, fun h => absurd h hr,
        fun _ => ⟨fun _ => rfl, nofun⟩⟩

theorem draw_post {c : DrawCfg} (hrw : RwOk c.rw) (hct : c.Walk) {d : Option Style} {s : Scr} {t : ATerm}
    (pre : BufOk c s t) (inv : s.clear = false → SyncInv c d s t) (hclear : s.clear = true → AllDirty s)
    (hsafe : CornerSafe c s) :
    DrawPost c (if d = some s.style then d else none) s t (s.draw c).1 (t.applyAll (s.draw c).2) := by
  have hrel := draw_rel c s
  rw [draw_eq] at hrel ⊢
  simp only at hrel ⊢
  generalize hd1 : (if d = some s.style then d else none) = d1
  have dc1 : ∀ d', d1 = some d' → d' = s.style := by
    intro d' h; rw [← hd1] at h; split at h
    · rename_i he; rw [he] at h; injection h with h; exact h.symm
    · cases h
  -- hide the cursor, clear on request
  obtain ⟨a, b, hab, hs2⟩ := draw_start c s
  obtain ⟨h2w, h2h, h2wr, h2cv, h2g, h2c⟩ := draw_prelude c s t
  rw [applyAll_append, applyAll_append, applyAll_append]
  rw [hs2] at hrel ⊢
  generalize (t.applyAll (Scr.hideCursor c { s with cx := -1, cy := -1, curstyle := styleInvalid }).2).applyAll _ = t2
    at h2w h2h h2wr h2cv h2g h2c ⊢
  have inv2 : SyncInv c d1 { s with cx := a, cy := b, curstyle := styleInvalid, clear := false } t2 := by
    cases hcl : s.clear
    · refine SyncInv.congr (s := s) (t := t) ?_ rfl rfl rfl rfl (h2g hcl) h2w h2h
      rw [← hd1]; split
      · exact inv hcl
      · exact (inv hcl).weaken
    · exact SyncInv.fresh { pre with tw := h2w.trans pre.tw, th := h2h.trans pre.th } (hclear hcl) (h2c hcl)
  -- the double loop
  have rp := drawRows_post hrw hct (d := d1) s.h.toNat 0 _ t2 (Int.le_refl 0) inv2 hsafe (fun h => absurd h hab)
    (fun h => absurd rfl h) dc1
  simp only at rp hrel ⊢
  generalize Scr.drawRows c s.h.toNat 0 { s with cx := a, cy := b, curstyle := styleInvalid, clear := false } = r3 at rp hrel ⊢
  obtain ⟨s3, cmds3⟩ := r3
  simp only at rp hrel ⊢
  generalize t2.applyAll cmds3 = t3 at rp ⊢
  -- restore the cursor
  have hd3 : s3.cells.w = s.cells.w ∧ s3.cells.h = s.cells.h := by
    rw [rp.sync.cw, rp.sync.ch, rp.w_same, rp.h_same, pre.cw, pre.ch]; exact ⟨rfl, rfl⟩
  obtain ⟨⟨a', b', e', f', hs4⟩, k1, k2, k3, k4, k5, kc1, kc2⟩ :=
    showCursor_post c s3 t3 (by rw [rp.sync.tw, rp.sync.cw]) (by rw [rp.sync.th, rp.sync.ch])
  rw [hs4] at hrel ⊢
  have hir : s3.cells.inRange s3.cursorx s3.cursory ↔ s.cells.inRange s.cursorx s.cursory := by
    simp only [inRange_iff, hd3.1, hd3.2, rp.cursor_same.1, rp.cursor_same.2.1]
  have hvis : ∀ x y, visitsG c s.cells y s.w.toNat 0 x = visitedG c s.cells x y := by
    intro x y; rw [visitedG, pre.cw]
  exact
    { hrel.1.frame hrw pre.wok with
      sync := rp.sync.congr rfl rfl rfl rfl k1 k2 k3,
      done := fun x y hr hv hl => by
        have hy : 0 ≤ y ∧ y < s.h := by have := pre.ch; simp only [inRange_iff] at hr; omega
        exact rp.done y x hy.1 (by omega) hy.2 (by rw [hvis]; exact hv) hl
      clear_done := hrel.2, fini_same := hrel.1.fini,
      cursor := by
        have e : t3.clampX s3.cells.w = t.clampX s.cells.w ∧ t3.clampY s3.cells.h = t.clampY s.cells.h := by
          constructor <;>
            simp only [ATerm.clampX, ATerm.clampY, hd3.1, hd3.2, rp.sync.tw, rp.sync.th, rp.w_same, rp.h_same, pre.tw, pre.th]
        rw [hir] at kc1 kc2
        simp only [ rp.cursor_same.1, rp.cursor_same.2.1, rp.cursor_same.2.2.1, rp.cursor_same.2.2.2, e.1, e.2] at kc1 kc2
        exact ⟨kc1, kc2⟩
      writes := by
        obtain ⟨ws, hws, hm⟩ := rp.writes
        refine ⟨ws, by rw [k4, hws, h2wr], fun p hp => ?_⟩
        rcases hm p hp with ⟨_, p2, p3⟩ | ⟨e1, e2, _, e4, e5, e6⟩
        · exact Or.inl ⟨p2, by rw [← hvis]; exact p3⟩
        · exact Or.inr ⟨e1, by rw [pre.ch]; exact e2, by rw [pre.cw, pre.ch]; exact e4,
            by rw [pre.cw, pre.ch, ← hvis]; exact e5, by rw [pre.cw, pre.ch]; exact e6⟩
      covers := by
        obtain ⟨cs, hcs, hm⟩ := rp.covers
        exact ⟨cs, by rw [k5, hcs, h2cv], hm⟩ }

end Tcell
