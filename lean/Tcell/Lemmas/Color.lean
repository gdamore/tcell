import Tcell.Model.Color
/-
Helper lemmas for C16: the bit-level facts that turn the `&&&`/`|||` expressions of color.go into `testBit` / `%`
facts that `omega` and `simp` can finish (no `bv_decide`); and, for the regenerated tables (also those of C19), list
lookup in a table without duplicate keys and the linear check that a table is sorted.
-/
namespace Tcell.Color

/-! ### generic bit facts -/

theorem and_two_pow (c k : Nat) : c &&& 2^k = if c.testBit k then 2^k else 0 := by
  apply Nat.eq_of_testBit_eq; intro i
  rw [Nat.testBit_and]
  by_cases hk : k = i
  · subst hk; cases c.testBit k <;> simp
  · cases c.testBit k <;> simp [hk]

theorem and_two_pow_ne_zero (c k : Nat) : (c &&& 2^k != 0) = c.testBit k := by
  rw [and_two_pow]
  cases c.testBit k <;> simp

theorem or_two_pow_of_testBit (c k : Nat) (h : c.testBit k = true) : c ||| 2^k = c := by
  apply Nat.eq_of_testBit_eq; intro i
  simp only [Nat.testBit_or, Nat.testBit_two_pow]
  by_cases hk : k = i
  · subst hk; simp [h]
  · simp [hk]

/-! ### the flags as bits -/

theorem valid_eq (c : Nat) : valid c = c.testBit 32 := and_two_pow_ne_zero c 32

theorem rgbBit_eq (c : Nat) : (c &&& fIsRGB != 0) = c.testBit 33 := and_two_pow_ne_zero c 33

theorem isRGB_eq (c : Nat) : isRGB c = (c.testBit 32 && c.testBit 33) := by
  unfold isRGB fValid fIsRGB
  rw [Nat.and_or_distrib_left, and_two_pow, and_two_pow]
  cases c.testBit 32 <;> cases c.testBit 33 <;> decide

theorem testBit_or3 (a x b i : Nat) : (a ||| x ||| b).testBit i = (a.testBit i || x.testBit i || b.testBit i) := by
  simp [Nat.testBit_or]

/-! ### signed conversions -/

theorem ofSigned_lt (v : Int) : ofSigned v < 2^64 := by unfold ofSigned; omega

theorem ofSigned_of_nonneg (v : Int) (h0 : 0 ≤ v) (h1 : v < 2^64) : ofSigned v = v.toNat := by
  unfold ofSigned; omega

theorem ofSigned_natCast (n : Nat) (h : n < 2^64) : ofSigned (n : Int) = n := by
  unfold ofSigned; omega

theorem ofSigned_mod24 (v : Int) : ((ofSigned v % 2^24 : Nat) : Int) = v % 2^24 := by
  unfold ofSigned; omega

theorem ofSigned_neg_one : ofSigned (-1) = 2^64 - 1 := by decide

theorem and255_lt (x : Int) : and255 x < 256 := by unfold and255; omega

theorem and255_of_range (x : Int) (h0 : 0 ≤ x) (h1 : x < 256) : and255 x = x.toNat := by
  unfold and255; omega

/-! ### NewHexColor -/

theorem newHexColor_testBit (v : Int) (i : Nat) :
    (newHexColor v).testBit i = (decide (33 = i) || (ofSigned v).testBit i || decide (32 = i)) := by
  unfold newHexColor fIsRGB fValid
  simp only [Nat.testBit_or, Nat.testBit_two_pow]

theorem valid_newHexColor (v : Int) : valid (newHexColor v) = true := by
  rw [valid_eq, newHexColor_testBit]; simp

theorem isRGB_newHexColor (v : Int) : isRGB (newHexColor v) = true := by
  rw [isRGB_eq, newHexColor_testBit, newHexColor_testBit]; simp

theorem newHexColor_mod24 (v : Int) : newHexColor v % 2^24 = ofSigned v % 2^24 := by
  unfold newHexColor fIsRGB fValid
  rw [Nat.or_mod_two_pow, Nat.or_mod_two_pow]
  simp

theorem and_ffffff (c : Nat) : c &&& 0xffffff = c % 2^24 := Nat.and_two_pow_sub_one_eq_mod c 24

theorem and_ff (c : Nat) : c &&& 0xff = c % 2^8 := Nat.and_two_pow_sub_one_eq_mod c 8

theorem hex_of_rgbBit (c : Nat) (hv : c.testBit 32 = true) (hr : c.testBit 33 = true) : hex c = ((c % 2^24 : Nat) : Int) := by
  unfold hex
  rw [valid_eq, hv, rgbBit_eq, hr, and_ffffff]
  simp

theorem hex_newHexColor_general (v : Int) : hex (newHexColor v) = v % 2^24 := by
  rw [hex_of_rgbBit _ (by rw [newHexColor_testBit]; simp) (by rw [newHexColor_testBit]; simp),
    newHexColor_mod24, ofSigned_mod24]

theorem newHexColor_of_range (v : Int) (h0 : 0 ≤ v) (h1 : v < 2^24) : newHexColor v = 2^33 + 2^32 + v.toNat := by
  unfold newHexColor fIsRGB fValid
  rw [ofSigned_of_nonneg v h0 (by omega), Nat.or_assoc, Nat.or_comm v.toNat]
  -- disjoint bit ranges: each `|||` is a sum
  have e1 := Nat.two_pow_add_eq_or_of_lt (i := 32) (b := v.toNat) (by omega) 1
  have e2 := Nat.two_pow_add_eq_or_of_lt (i := 33) (b := 2^32 + v.toNat) (by omega) 1
  rw [Nat.mul_one] at e1 e2
  rw [← e1, ← e2]; omega

/-! ### tables as lists -/

theorem lookup_mem {α β} [BEq α] [LawfulBEq α] {l : List (α × β)} {k : α} {v : β} (h : l.lookup k = some v) : (k, v) ∈ l := by
  obtain ⟨l₁, l₂, rfl, -⟩ := List.lookup_eq_some_iff.mp h
  exact List.mem_append_right _ (List.mem_cons_self ..)

theorem lookup_of_mem {α β} [BEq α] [LawfulBEq α] {l : List (α × β)} (hd : l.Pairwise (fun p q => p.1 ≠ q.1))
    {k : α} {v : β} (hm : (k, v) ∈ l) : l.lookup k = some v := by
  induction l with
  | nil => cases hm
  | cons p t ih =>
    obtain ⟨a, b⟩ := p
    have hp := List.pairwise_cons.mp hd
    rcases List.mem_cons.mp hm with e | hm
    · cases e; exact List.lookup_cons_self
    · rw [List.lookup_cons, beq_false_of_ne (Ne.symm (hp.1 _ hm))]
      exact ih hp.2 hm

/-- adjacent elements are related: the linear check that a table is sorted -/
def chainB {α} (r : α → α → Bool) : List α → Bool
  | a :: b :: t => r a b && chainB r (b :: t)
  | _ => true

theorem pairwise_of_chainB {α} {r : α → α → Bool} (tr : ∀ a b c, r a b = true → r b c = true → r a c = true) :
    ∀ {l : List α}, chainB r l = true → l.Pairwise (fun a b => r a b = true)
  | [], _ => .nil
  | [_], _ => List.pairwise_singleton ..
  | a :: b :: t, h => by
    simp only [chainB, Bool.and_eq_true] at h
    have ih := pairwise_of_chainB tr h.2
    refine List.pairwise_cons.mpr ⟨fun c hc => ?_, ih⟩
    rcases List.mem_cons.mp hc with rfl | hc
    · exact h.1
    · exact tr _ _ _ h.1 ((List.pairwise_cons.mp ih).1 c hc)

/-- a table sorted strictly by a key has no two entries with the same key.  (Give `key` with its binder type: against a
key not yet elaborated the unifier evaluates the table in `h`.) -/
theorem pairwise_ne_of_sorted {α κ} [LT κ] [DecidableLT κ] (tr : ∀ {a b c : κ}, a < b → b < c → a < c)
    (irr : ∀ a : κ, ¬ a < a) (key : α → κ) {l : List α} (h : chainB (fun p q => decide (key p < key q)) l = true) :
    l.Pairwise (fun p q => key p ≠ key q) := by
  have hp := pairwise_of_chainB (r := fun p q => decide (key p < key q))
    (fun _ _ _ h1 h2 => decide_eq_true (tr (of_decide_eq_true h1) (of_decide_eq_true h2))) h
  apply hp.imp
  intro p q h e
  rw [e] at h
  exact irr _ (of_decide_eq_true h)

/-! ### Hex / RGB -/

theorem colorValues_range : ∀ p ∈ Gen.colorValues, 0 ≤ p.2 ∧ p.2 < 2^24 := by decide +kernel

theorem hex_of_invalid (c : Nat) (h : valid c = false) : hex c = -1 := by
  unfold hex; simp [h]

theorem hex_of_palette (c : Nat) (hv : valid c = true) (hr : c.testBit 33 = false) :
    hex c = (lookupValue c).getD (-1) := by
  unfold hex
  rw [hv, rgbBit_eq, hr]
  cases lookupValue c <;> simp

theorem hex_range (c : Nat) : hex c = -1 ∨ (0 ≤ hex c ∧ hex c < 2^24) := by
  by_cases hv : valid c = true
  · by_cases hr : c.testBit 33 = true
    · right
      rw [hex_of_rgbBit c (by rw [← valid_eq]; exact hv) hr]
      omega
    · have hr' : c.testBit 33 = false := by simpa using hr
      rw [hex_of_palette c hv hr']
      cases hl : lookupValue c with
      | none => left; rfl
      | some v => right; exact colorValues_range (c, v) (lookup_mem (by unfold lookupValue at hl; exact hl))
  · left; exact hex_of_invalid c (by simpa using hv)

theorem rgb_of_hex_neg (c : Nat) (h : hex c < 0) : rgb c = (-1, -1, -1) := by
  unfold rgb; simp [h]

theorem rgb_of_hex_nonneg (c : Nat) (h : 0 ≤ hex c) :
    rgb c = (hex c / 65536 % 256, hex c / 256 % 256, hex c % 256) := by
  unfold rgb
  have hn : ¬ (hex c < 0) := by omega
  simp only [hn, if_false]
  rw [and_ff, and_ff, and_ff, Nat.shiftRight_eq_div_pow, Nat.shiftRight_eq_div_pow]
  refine Prod.ext ?_ (Prod.ext ?_ ?_) <;> simp only [] <;> omega

/-! ### NewRGBColor -/

theorem newRGBColor_eq (r g b : Int) :
    newRGBColor r g b = newHexColor ((and255 r * 65536 + and255 g * 256 + and255 b : Nat) : Int) := by
  have hg := and255_lt g; have hb := and255_lt b
  unfold newRGBColor
  -- disjoint bit ranges: each `|||` is a sum
  rw [Nat.shiftLeft_eq, Nat.shiftLeft_eq, Nat.or_assoc, Nat.mul_comm (and255 g), Nat.mul_comm (and255 r),
    ← Nat.two_pow_add_eq_or_of_lt (by omega : and255 b < 2^8),
    ← Nat.two_pow_add_eq_or_of_lt (by omega : 2^8 * and255 g + and255 b < 2^16)]
  congr 2; omega

theorem hex_newRGBColor (r g b : Int) :
    hex (newRGBColor r g b) = (r % 256) * 65536 + (g % 256) * 256 + b % 256 := by
  rw [newRGBColor_eq, hex_newHexColor_general]
  have := and255_lt r; have := and255_lt g; have := and255_lt b
  unfold and255 at *
  omega

theorem rgb_newRGBColor_general (r g b : Int) : rgb (newRGBColor r g b) = (r % 256, g % 256, b % 256) := by
  rw [rgb_of_hex_nonneg _ (by rw [hex_newRGBColor]; omega), hex_newRGBColor]
  refine Prod.ext ?_ (Prod.ext ?_ ?_) <;> simp only [] <;> omega

/-! ### TrueColor -/

theorem trueColor_of_invalid (c : Nat) (h : valid c = false) : trueColor c = cDefault := by
  unfold trueColor; simp [h]

theorem trueColor_of_rgbBit (c : Nat) (hv : valid c = true) (hr : c.testBit 33 = true) : trueColor c = c := by
  unfold trueColor
  rw [hv, rgbBit_eq, hr]
  simp only [Bool.not_true, Bool.false_eq_true, if_false, if_true]
  exact or_two_pow_of_testBit c 32 (by rw [← valid_eq]; exact hv)

theorem trueColor_of_palette (c : Nat) (hv : valid c = true) (hr : c.testBit 33 = false) :
    trueColor c = newHexColor (hex c) := by
  unfold trueColor newHexColor
  rw [hv, rgbBit_eq, hr]
  simp only [Bool.not_true, Bool.false_eq_true, if_false]
  rw [Nat.or_comm (ofSigned (hex c)) fIsRGB]

theorem valid_default : valid cDefault = false := by decide

/-! ### CSS() and GetColor("#rrggbb") -/

theorem utf8ByteSize_ofList (l : List Char) : (String.ofList l).utf8ByteSize = (l.map Char.utf8Size).sum := by
  induction l with
  | nil => simp
  | cons c t ih =>
    rw [String.ofList_cons, String.utf8ByteSize_append, String.utf8ByteSize_singleton, ih]
    simp

theorem hexDigit?_upper : ∀ k, k < 16 → hexDigit? (upperHexDigit k) = some k := by decide
theorem upperHexDigit_size : ∀ k, k < 16 → (upperHexDigit k).utf8Size = 1 := by decide
theorem upperHexDigit_not_sign : ∀ k, k < 16 → (upperHexDigit k == '+') = false ∧ (upperHexDigit k == '-') = false := by decide

/-- the six digits `%06X` prints for a 24-bit value -/
def sixDigits (n : Nat) : List Char :=
  [upperHexDigit (n / 16 / 16 / 16 / 16 / 16), upperHexDigit (n / 16 / 16 / 16 / 16 % 16), upperHexDigit (n / 16 / 16 / 16 % 16),
   upperHexDigit (n / 16 / 16 % 16), upperHexDigit (n / 16 % 16), upperHexDigit (n % 16)]

theorem hexDigitsPad_six (n : Nat) (h : n < 2^24) : hexDigitsPad 16 6 n = sixDigits n := by
  have h5 : n / 16 / 16 / 16 / 16 / 16 < 16 := by omega
  simp [hexDigitsPad, sixDigits, h5]

theorem fmt06X_of_range (v : Int) (h0 : 0 ≤ v) (h1 : v < 2^24) : fmt06X v = sixDigits v.toNat := by
  unfold fmt06X
  rw [if_neg (by omega)]
  exact hexDigitsPad_six _ (by omega)

theorem parseHexDigits_six (n : Nat) (h : n < 2^24) : parseHexDigits 0 (sixDigits n) = some n := by
  unfold sixDigits
  simp only [parseHexDigits]
  rw [hexDigit?_upper _ (by omega)]; simp only []
  rw [hexDigit?_upper _ (by omega)]; simp only []
  rw [hexDigit?_upper _ (by omega)]; simp only []
  rw [hexDigit?_upper _ (by omega)]; simp only []
  rw [hexDigit?_upper _ (by omega)]; simp only []
  rw [hexDigit?_upper _ (by omega)]; simp only []
  congr 1; omega

theorem parseInt16_six (n : Nat) (h : n < 2^24) : parseInt16 (sixDigits n) = some (n : Int) := by
  have hs := upperHexDigit_not_sign (n / 16 / 16 / 16 / 16 / 16) (by omega)
  unfold parseInt16
  have hh : (sixDigits n).head? = some (upperHexDigit (n / 16 / 16 / 16 / 16 / 16)) := rfl
  have e1 : ((sixDigits n).head? == some '-') = false := by rw [hh]; simpa using hs.2
  have e2 : ((sixDigits n).head? == some '+') = false := by rw [hh]; simpa using hs.1
  simp only [e1, e2, Bool.or_self, Bool.false_eq_true, if_false]
  rw [parseHexDigits_six n h]
  have : (sixDigits n).isEmpty = false := rfl
  simp only [this, Bool.false_eq_true, if_false]
  have : ¬ (n ≥ 2^31) := by omega
  simp [this]

/-- no name of the regenerated ColorNames table starts with '#' (so a CSS hex string is never shadowed by a name);
`front` reads the first character only, `toList` would have the kernel decode every name -/
theorem colorNames_no_hash : ∀ p ∈ Gen.colorNames, p.1.front ≠ '#' := by decide +kernel

theorem lookupName_hash (l : List Char) : lookupName (String.ofList ('#' :: l)) = none := by
  refine List.lookup_eq_none_iff.mpr fun p hp => bne_iff_ne.mpr fun e => colorNames_no_hash p hp ?_
  rw [← e, String.front_eq, String.front?_eq, String.toList_ofList]; rfl

theorem getColor_hash_six (n : Nat) (h : n < 2^24) :
    getColor (String.ofList ('#' :: sixDigits n)) = newHexColor (n : Int) := by
  unfold getColor
  rw [lookupName_hash]
  simp only [String.toList_ofList, List.head?_cons, List.tail_cons]
  have hsz : (String.ofList ('#' :: sixDigits n)).utf8ByteSize = 7 := by
    rw [utf8ByteSize_ofList]
    unfold sixDigits
    simp only [List.map_cons, List.map_nil, List.sum_cons, List.sum_nil]
    rw [upperHexDigit_size _ (by omega), upperHexDigit_size _ (by omega), upperHexDigit_size _ (by omega),
      upperHexDigit_size _ (by omega), upperHexDigit_size _ (by omega), upperHexDigit_size _ (by omega)]
    decide
  rw [hsz, parseInt16_six n h]
  simp

theorem css_of_invalid (c : Nat) (h : valid c = false) : css c = "" := by
  unfold css; simp [h]

theorem css_of_hex_nonneg (c : Nat) (hv : valid c = true) (h0 : 0 ≤ hex c) :
    css c = String.ofList ('#' :: sixDigits (hex c).toNat) := by
  have h1 : hex c < 2^24 := by rcases hex_range c with h | h <;> omega
  unfold css
  rw [hv, fmt06X_of_range _ h0 h1]; simp

/-- `GetColor(c.CSS())` for a valid colour with a known RGB value is the canonical RGB colour of that value -/
theorem getColor_css_of_hex_nonneg (c : Nat) (hv : valid c = true) (h0 : 0 ≤ hex c) :
    getColor (css c) = newHexColor (hex c) := by
  have h1 : hex c < 2^24 := by rcases hex_range c with h | h <;> omega
  rw [css_of_hex_nonneg c hv h0, getColor_hash_six _ (by omega)]
  congr 1; omega

theorem getColor_empty : getColor "" = cDefault := by decide +kernel
theorem getColor_minus_one : getColor (String.ofList ('#' :: fmt06X (-1))) = newHexColor (-1) := by decide +kernel

end Tcell.Color
