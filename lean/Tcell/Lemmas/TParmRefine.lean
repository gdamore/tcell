import Tcell.Lemmas.TParm
/-
C07: the byte-level skip-register machine refines the structural terminfo(5) evaluator (DESIGN.md A.2).

Route.  `runL` is the loop with the fuel `tparmV` gives it; `runL_step` unfolds one iteration.  Every valid token is
executed by exactly one iteration in the emit state (`step_tokM`) and stepped over without any effect in a skip state
(`tok_skip`).  `skip_prog` / `skip_chain` are the **skip lemma**: the concrete syntax of a well-formed sub-tree leaves
a skip state unchanged (a nested `%? … %;` raises and lowers the nesting counter).  `exec_prog` / `exec_chain` then
show by induction on the AST that running the machine over `render a` computes `evalG semM test a`.
`semM` is the reference meaning of the tokens with Go's formatter in the printf tokens; `Tcell.Lemmas.TParmFmt`
proves `semM t s = sem t s` wherever the reference specifies the printf result.
`Runs v p f` says the same of any fragment `p` of a program: closed forms of concrete strings are compositions of it.
-/
namespace Tcell.TParm
open Tcell.Spec.Terminfo5

/-! ### the loop with the fuel `tparmV` uses -/

def runL (v : Variant) (inp : Bytes) (s : St) (k : Skip) : St := run v inp.length inp s k

theorem runL_nil (v : Variant) (s : St) (k : Skip) : runL v [] s k = s := by simp [runL, run]

theorem runL_step (v : Variant) (inp : Bytes) (s : St) (k : Skip) :
    runL v inp s k = runL v (step v inp s k).1 (step v inp s k).2.1 (step v inp s k).2.2 := by
  cases inp with
  | nil => rfl
  | cons b r =>
    have hs := step_length v (b :: r) s k (by simp)
    have hle : (step v (b :: r) s k).1.length ≤ r.length := by
      simp only [List.length_cons] at hs; omega
    obtain ⟨e, he⟩ := Nat.exists_eq_add_of_le hle
    show run v (r.length + 1) (b :: r) s k = _
    simp only [run]
    rw [he, run_extra_fuel _ _ _ _ _ _ (Nat.le_refl _)]
    rfl

theorem runL_of_step {v : Variant} {inp rest : Bytes} {s s' : St} {k k' : Skip}
    (hs : step v inp s k = (rest, s', k')) : runL v inp s k = runL v rest s' k' := by
  rw [runL_step v inp s k, hs]

/-! ### skip states: bytes that are stepped over -/

theorem skipOp_neutral (v : Variant) (c : Nat) (h : c ≠ 59 ∧ c ≠ 63 ∧ c ≠ 101) (k : Skip) : skipOp v c k = k := by
  cases k <;> simp [skipOp, h]

theorem skip_lits (v : Variant) (l : Bytes) {rest : Bytes} {s : St} {k : Skip} (hk : k ≠ .emit)
    (hl : ∀ b ∈ l, b ≠ 37) : runL v (l ++ rest) s k = runL v rest s k := by
  induction l with
  | nil => rfl
  | cons b l ih =>
    have hb : b ≠ 37 := hl b (by simp)
    have hst : step v (b :: (l ++ rest)) s k = (l ++ rest, s, k) := by
      simp [step, hb, hk]
    rw [List.cons_append, runL_of_step hst]
    exact ih (fun x hx => hl x (by simp [hx]))

theorem skip_pair (v : Variant) (c : Nat) {rest : Bytes} {s : St} {k : Skip} (hk : k ≠ .emit) :
    runL v (37 :: c :: rest) s k = runL v rest s (skipOp v c k) := by
  have hst : step v (37 :: c :: rest) s k = (rest, s, skipOp v c k) := by
    cases k with
    | emit => exact absurd rfl hk
    | toEnd d => simp [step]
    | toElse d => simp [step]
  exact runL_of_step hst

theorem skip_body (v : Variant) (c : Nat) (tail : Bytes) {rest : Bytes} {s : St} {k : Skip} (hk : k ≠ .emit)
    (hc : c ≠ 59 ∧ c ≠ 63 ∧ c ≠ 101) (hl : ∀ b ∈ tail, b ≠ 37) :
    runL v (37 :: c :: (tail ++ rest)) s k = runL v rest s k := by
  rw [skip_pair v c hk, skipOp_neutral v c hc]
  exact skip_lits v tail hk hl

theorem isDigit_iff (c : Nat) : isDigit c = true ↔ 48 ≤ c ∧ c ≤ 57 := by
  simp [isDigit]

theorem isFlagC_iff (c : Nat) : isFlagC c = true ↔ c = 45 ∨ c = 43 ∨ c = 35 ∨ c = 32 := by
  simp [isFlagC, or_assoc]

theorem conv_byte_cases (cv : Conv) :
    cv.byte = 100 ∨ cv.byte = 111 ∨ cv.byte = 120 ∨ cv.byte = 88 ∨ cv.byte = 115 ∨ cv.byte = 99 := by
  cases cv <;> simp [Conv.byte]

/-- the bytes of a printf token after the `%` -/
def FmtSpec.body (f : FmtSpec) : Bytes :=
  (if f.colon then [58] else []) ++ f.flags ++ f.width ++
    (match f.prec with | some p => 46 :: p | none => []) ++ [f.conv.byte]

theorem FmtSpec.render_eq (f : FmtSpec) : f.render = 37 :: FmtSpec.body f := rfl

/-- width and precision of a printf token as written: what the machine's second scanning loop collects -/
def fmtNums (f : FmtSpec) : Bytes := f.width ++ (match f.prec with | some p => 46 :: p | none => [])

theorem FmtSpec.body_eq (f : FmtSpec) :
    FmtSpec.body f = (if f.colon then [58] else []) ++ (f.flags ++ (fmtNums f ++ [f.conv.byte])) := by
  simp [FmtSpec.body, fmtNums]

theorem fmt_parts (f : FmtSpec) (hv : f.valid = true) :
    (∀ x ∈ f.flags, x = 45 ∨ x = 43 ∨ x = 35 ∨ x = 32) ∧ (∀ x ∈ fmtNums f, (48 ≤ x ∧ x ≤ 57) ∨ x = 46) := by
  simp only [FmtSpec.valid, Bool.and_eq_true, List.all_eq_true] at hv
  obtain ⟨⟨⟨⟨⟨hfl, hw⟩, hp⟩, _⟩, _⟩, _⟩ := hv
  refine ⟨fun x hx => (isFlagC_iff x).mp (hfl x hx), fun x hx => ?_⟩
  rcases List.mem_append.mp hx with hx | hx
  · exact Or.inl ((isDigit_iff x).mp (hw x hx))
  · cases hpp : f.prec with
    | none => simp [hpp] at hx
    | some p =>
      simp only [hpp, List.mem_cons] at hx
      rcases hx with hx | hx
      · exact Or.inr hx
      · exact Or.inl ((isDigit_iff x).mp (hp x (by simpa [hpp] using hx)))

theorem fmt_tail_bytes (f : FmtSpec) (hv : f.valid = true) :
    ∀ b ∈ f.flags ++ (fmtNums f ++ [f.conv.byte]), b ≠ 58 ∧ b ≠ 37 ∧ b ≠ 59 ∧ b ≠ 63 ∧ b ≠ 101 := by
  obtain ⟨hfl, hnum⟩ := fmt_parts f hv
  have hcv := conv_byte_cases f.conv
  intro b hb
  simp only [List.mem_append, List.mem_singleton] at hb
  rcases hb with hb | hb | rfl
  · have := hfl b hb; omega
  · have := hnum b hb; omega
  · omega

theorem fmt_body_bytes (f : FmtSpec) (hv : f.valid = true) :
    ∀ b ∈ FmtSpec.body f, b ≠ 37 ∧ b ≠ 59 ∧ b ≠ 63 ∧ b ≠ 101 := by
  intro b hb
  rw [FmtSpec.body_eq, List.mem_append] at hb
  rcases hb with hb | hb
  · split at hb <;> simp at hb; omega
  · exact (fmt_tail_bytes f hv b hb).2

theorem fmt_body_ne_nil (f : FmtSpec) : FmtSpec.body f ≠ [] := by
  simp [FmtSpec.body]

theorem tok_skip (v : Variant) (t : Tok) (hv : t.valid = true) {rest : Bytes} {s : St} {k : Skip} (hk : k ≠ .emit) :
    runL v (t.render ++ rest) s k = runL v rest s k := by
  cases t with
  | lit b =>
    simp only [Tok.valid, Bool.and_eq_true, bne_iff_ne, ne_eq, decide_eq_true_eq] at hv
    exact skip_lits v [b] hk (by simp [hv.1])
  | chr c =>
    -- `%'%'`: the quoted `%` pairs with the closing quote
    by_cases hc : c = 37
    · subst hc
      exact (skip_body v 39 [] hk (by decide) (by decide)).trans
        (skip_body v 39 [] hk (by decide) (by decide))
    · exact skip_body v 39 [c, 39] hk (by decide) (by simp [hc])
  | fmt f =>
    have hb := fmt_body_bytes f hv
    show runL v (37 :: FmtSpec.body f ++ rest) s k = _
    cases hbody : FmtSpec.body f with
    | nil => exact absurd hbody (fmt_body_ne_nil f)
    | cons c tail =>
      rw [hbody] at hb
      have hc := hb c (by simp)
      exact skip_body v c tail hk ⟨hc.2.1, hc.2.2.1, hc.2.2.2⟩ fun b hb' => (hb b (by simp [hb'])).1
  | num ds =>
    simp only [Tok.valid, Bool.and_eq_true, List.all_eq_true] at hv
    have hl : ∀ b ∈ ds ++ [125], b ≠ 37 := by
      intro b hb'
      rcases List.mem_append.mp hb' with hb' | hb'
      · have := (isDigit_iff b).mp (hv.1.2 b hb'); omega
      · simp only [List.mem_singleton] at hb'; omega
    simpa [Tok.render] using skip_body v 123 (ds ++ [125]) hk (by decide) hl
  | param i | setDyn i | setStat i | getDyn i | getStat i =>
    simp only [Tok.valid, Bool.and_eq_true, decide_eq_true_eq] at hv
    exact skip_body v _ [_] hk (by decide) (by simp; omega)
  | bin o => exact skip_body v o.byte [] hk (by cases o <;> decide) (by decide)
  | pct | incr | outD | outC | outS | strlen | lnot | bnot =>
    exact skip_body v _ [] hk (by decide) (by decide)

/-! ### the emit state: one iteration per token -/

/-- Go's `fmt` flags/width/precision for a printf token as the machine's two scanning loops collect them -/
def goFmt (f : FmtSpec) : Fmt :=
  parseFmt f.flags (f.width ++ (match f.prec with | some p => 46 :: p | none => []))

/-- meaning of the simple tokens as the machine computes them: the reference `sem`, except that printf tokens are
formatted by Go's `fmt` (`fmtEffect`) instead of C's printf (`cFmtInt`/`cFmtStr`) -/
def semM (t : Tok) (s : St) : St :=
  match t with
  | .fmt f => fmtEffect (goFmt f) f.conv.byte s
  | t => sem t s

/-- tokens the variant implements: `%A`/`%O` and the `#`/space flags without a colon need the repairs -/
def tokOk (v : Variant) : Tok → Bool
  | .bin .logAnd | .bin .logOr => v.logAO
  | .fmt f => v.flagNoColon || f.colon || f.flags.isEmpty
  | _ => true

theorem tokOk_repaired (t : Tok) : tokOk repaired t = true := by
  cases t <;> simp [tokOk, repaired]
  rename_i o; cases o <;> simp

theorem tokOk_pinned (t : Tok) (h : t.pinnedOk = true) : tokOk pinned t = true := by
  cases t <;> simp_all [tokOk, pinned, Tok.pinnedOk]
  rename_i o; cases o <;> simp_all

/-- the first byte of a printf token the variant implements is one that `execOp` sends to the printf path -/
theorem fmt_first_byte (v : Variant) (f : FmtSpec) (hv : f.valid = true) (hok : tokOk v (.fmt f) = true) {c : Nat}
    {r : Bytes} (hbody : FmtSpec.body f = c :: r) :
    (isDigit c || c == 120 || c == 88 || c == 111 || c == 58 || (v.flagNoColon && (c == 35 || c == 32))) = true := by
  obtain ⟨colon, flags, width, prec, conv⟩ := f
  simp only [FmtSpec.valid, Bool.and_eq_true, List.all_eq_true, tokOk] at hv hok
  obtain ⟨⟨⟨⟨⟨hfl, hw⟩, hp⟩, hcf⟩, hpw⟩, hplain⟩ := hv
  cases colon with
  | true => obtain rfl : 58 = c := (List.cons.inj hbody).1; simp
  | false =>
    cases flags with
    | cons x xs =>
      obtain rfl : x = c := (List.cons.inj hbody).1
      have hx := (isFlagC_iff x).mp (hfl x List.mem_cons_self)
      simp at hcf hok
      have : x = 35 ∨ x = 32 := by omega
      rcases this with rfl | rfl <;> simp [hok]
    | nil =>
      cases width with
      | cons d ds => obtain rfl : d = c := (List.cons.inj hbody).1; simp [hw d List.mem_cons_self]
      | nil =>
        cases prec with
        | some p => simp at hpw
        | none =>
          obtain rfl : conv.byte = c := (List.cons.inj hbody).1
          cases conv <;> simp at hplain <;> simp [Conv.byte]

theorem takeWhile_append_stop {α} (p : α → Bool) (a b : List α) (hb : ∀ x, b.head? = some x → p x = false) :
    (a ++ b).takeWhile p = a.takeWhile p ∧ (a ++ b).dropWhile p = a.dropWhile p ++ b := by
  induction a with
  | nil =>
    cases b with
    | nil => simp
    | cons x b => simp [List.takeWhile, List.dropWhile, hb x rfl]
  | cons x a ih =>
    simp only [List.cons_append, List.takeWhile, List.dropWhile]
    cases p x <;> simp [ih]

theorem takeWhile_all {α} (p : α → Bool) (a : List α) (h : ∀ x ∈ a, p x = true) :
    a.takeWhile p = a ∧ a.dropWhile p = [] := by
  induction a with
  | nil => simp
  | cons x a ih =>
    simp only [List.takeWhile, List.dropWhile, h x (by simp)]
    simp [ih (fun y hy => h y (by simp [hy]))]

theorem takeWhile_all_append {α} (p : α → Bool) (a b : List α) (h : ∀ x ∈ a, p x = true)
    (hb : ∀ x, b.head? = some x → p x = false) :
    (a ++ b).takeWhile p = a ∧ (a ++ b).dropWhile p = b := by
  have h1 := takeWhile_append_stop p a b hb
  have h2 := takeWhile_all p a h
  rw [h1.1, h1.2, h2.1, h2.2]; simp

theorem isNum_iff (c : Nat) : isNum c = true ↔ (48 ≤ c ∧ c ≤ 57) ∨ c = 46 := by
  simp [isNum, isDigit]

theorem head_mem_of_cons_eq_append {α} {c : α} {r a b : List α} (h : c :: r = a ++ b) (ha : a ≠ []) : c ∈ a := by
  cases a with
  | nil => exact absurd rfl ha
  | cons x a => simp only [List.cons_append, List.cons.injEq] at h; simp [h.1]

theorem head?_append_cons {α} {a r : List α} {c x : α} (h : (a ++ c :: r).head? = some x) : x ∈ a ∨ x = c := by
  cases a with
  | nil => exact Or.inr (Option.some.inj h).symm
  | cons y a => exact Or.inl (Option.some.inj h ▸ List.mem_cons_self)

/-- the two scanning loops of the printf path find exactly the flags and the width/precision as written -/
theorem fmt_scan (f : FmtSpec) (hv : f.valid = true) (rest : Bytes) :
    let all := f.flags ++ (fmtNums f ++ f.conv.byte :: rest)
    all.takeWhile isFlag = f.flags ∧ (all.dropWhile isFlag).takeWhile isNum = fmtNums f ∧
    (all.dropWhile isFlag).dropWhile isNum = f.conv.byte :: rest := by
  obtain ⟨hfl, hnum⟩ := fmt_parts f hv
  have hcv := conv_byte_cases f.conv
  have h1 := takeWhile_all_append isFlag f.flags (fmtNums f ++ f.conv.byte :: rest)
    (fun x hx => by have := hfl x hx; simp [isFlag]; omega)
    (fun x hx => by
      rcases head?_append_cons hx with hx' | rfl
      · have := hnum x hx'; simp [isFlag]; omega
      · simp [isFlag]; omega)
  have h2 := takeWhile_all_append isNum (fmtNums f) (f.conv.byte :: rest) (fun x hx => (isNum_iff x).mpr (hnum x hx))
    (fun x hx => by
      obtain rfl : f.conv.byte = x := by simpa using hx
      simp [isNum, isDigit]; omega)
  exact ⟨h1.1, by rw [h1.2]; exact h2.1, by rw [h1.2]; exact h2.2⟩

theorem stepFmt_render (f : FmtSpec) (hv : f.valid = true) (c : Nat) (r rest : Bytes) (s : St)
    (hcr : c :: r = FmtSpec.body f ++ rest) :
    stepFmt c r s = (rest, fmtEffect (goFmt f) f.conv.byte s) := by
  have hsc := fmt_scan f hv rest
  have hall : fmtChars c r = f.flags ++ (fmtNums f ++ f.conv.byte :: rest) := by
    rw [FmtSpec.body_eq] at hcr
    unfold fmtChars
    by_cases hcol : f.colon = true
    · simp only [hcol, if_true, List.append_assoc, List.cons_append, List.nil_append, List.cons.injEq] at hcr
      obtain ⟨rfl, rfl⟩ := hcr
      simp only [beq_self_eq_true, if_true]
      generalize hg : f.flags ++ (fmtNums f ++ f.conv.byte :: rest) = g
      cases g with
      | nil => simp at hg
      | cons x g => simp [hd0]
    · simp only [hcol, Bool.false_eq_true, if_false, List.nil_append] at hcr
      have hc := fmt_tail_bytes f hv c (head_mem_of_cons_eq_append hcr (by simp))
      simp only [beq_iff_eq, hc.1, if_false]
      rw [hcr]
      simp
  unfold stepFmt
  simp only [hall]
  rw [hsc.1, hsc.2.1, hsc.2.2]
  simp [hd0, goFmt, fmtNums]

theorem foldl_dec_ge (ds : Bytes) (acc : Nat) : acc ≤ ds.foldl (fun a c => a * 10 + (c - 48)) acc := by
  induction ds generalizing acc with
  | nil => simp
  | cons c cs ih => simp only [List.foldl_cons]; exact Nat.le_trans (by omega) (ih _)

theorem readInt_digits (ds rest : Bytes) (acc : Nat) (hd : ∀ c ∈ ds, isDigit c = true)
    (hb : ds.foldl (fun a c => a * 10 + (c - 48)) acc < 9223372036854775808) :
    readInt (ds ++ 125 :: rest) (acc : Int) = (((ds.foldl (fun a c => a * 10 + (c - 48)) acc : Nat) : Int), rest) := by
  induction ds generalizing acc with
  | nil => simp [readInt, isDigit]
  | cons c cs ih =>
    have hc : isDigit c = true := hd c (by simp)
    simp only [List.cons_append, readInt, hc, if_true, List.foldl_cons]
    simp only [List.foldl_cons] at hb
    have hge := foldl_dec_ge cs (acc * 10 + (c - 48))
    have hw : wrap64 (wrap64 ((acc : Int) * 10) + ((c - 48 : Nat) : Int)) = ((acc * 10 + (c - 48) : Nat) : Int) := by
      unfold wrap64 two63 two64
      omega
    rw [hw]
    exact ih _ (fun x hx => hd x (by simp [hx])) hb

/-- One iteration executes one token.  With the variant out of the way (`step_op`) the `switch` on a concrete character
evaluates by unfolding; what is left is the range check on the letter or digit of `%p %P %g`, the spelling of the
zero test of `%/ %m`, the digits of `%{n}` and the two scanning loops of a printf token. -/
theorem step_tokM (v : Variant) (t : Tok) (hok : tokOk v t = true) (hv : t.valid = true) (rest : Bytes) (s : St) :
    step v (t.render ++ rest) s .emit = (rest, semM t s, .emit) := by
  cases t with
  | lit b =>
    simp only [Tok.valid, Bool.and_eq_true, bne_iff_ne, ne_eq, decide_eq_true_eq] at hv
    simp [Tok.render, step, semM, sem, hv.1]
  | pct | incr | outD | outC | outS => rfl
  | chr c => exact (step_op v 39 (by decide) _ s).trans rfl
  | strlen => exact (step_op v 108 (by decide) rest s).trans rfl
  | lnot => exact (step_op v 33 (by decide) rest s).trans rfl
  | bnot => exact (step_op v 126 (by decide) rest s).trans rfl
  | param i =>
    simp only [Tok.valid, Bool.and_eq_true, decide_eq_true_eq] at hv
    refine (step_op v 112 (by decide) _ s).trans ?_
    have h1 : 49 ≤ 48 + i := Nat.add_le_add_left hv.1 48
    have h2 : 48 + i ≤ 57 := Nat.add_le_add_left hv.2 48
    simp [execOp, semM, sem, hd0, isDigit, h1, h2, Nat.add_sub_add_left 48 i 1]
  | setDyn i | getDyn i =>
    simp only [Tok.valid, decide_eq_true_eq] at hv
    refine (step_op v _ (by decide) _ s).trans ?_
    have h2 : 97 + i ≤ 122 := Nat.add_le_add_left (Nat.le_of_lt_succ hv) 97
    have h3 : ¬ (97 + i ≤ 90) := fun h => absurd (Nat.le_trans (Nat.le_add_right 97 i) h) (by decide)
    simp [execOp, semM, sem, hd0, isDigit, h2, h3]
  | setStat i | getStat i =>
    simp only [Tok.valid, decide_eq_true_eq] at hv
    refine (step_op v _ (by decide) _ s).trans ?_
    have h2 : 65 + i ≤ 90 := Nat.add_le_add_left (Nat.le_of_lt_succ hv) 65
    simp [execOp, semM, sem, hd0, isDigit, h2]
  | bin o =>
    cases o with
    | logAnd | logOr =>
      simp only [tokOk] at hok
      simp [Tok.render, BinOp.byte, step, execOp, semM, sem, isDigit, binop, pop2, BinOp.apply, hok]
    | div | mod =>
      refine (step_op v _ (by decide) rest s).trans ?_
      show (rest, binop _ s, Skip.emit) = _
      simp only [binop, semM, sem, pop2, BinOp.apply]
      by_cases h : (popInt s.stk).1 = 0 <;> simp [h]
    | _ => exact (step_op v _ (by decide) rest s).trans rfl
  | num ds =>
    simp only [Tok.valid, Bool.and_eq_true, List.all_eq_true, decide_eq_true_eq] at hv
    have hr := readInt_digits ds rest 0 hv.1.2 hv.2
    simp only [Int.natCast_zero] at hr
    show step v (37 :: 123 :: (ds ++ [125]) ++ rest) s .emit = _
    simp only [List.append_assoc, List.cons_append, List.nil_append]
    simp [step, execOp, isDigit, hr, semM, sem, decVal]
  | fmt f =>
    show step v (37 :: FmtSpec.body f ++ rest) s .emit = _
    cases hbody : FmtSpec.body f with
    | nil => exact absurd hbody (fmt_body_ne_nil f)
    | cons c r =>
      have hst := stepFmt_render f hv c (r ++ rest) rest s (by rw [hbody]; rfl)
      have hdisp := fmt_first_byte v f hv hok hbody
      have hexec : execOp v c (r ++ rest) s = (rest, semM (.fmt f) s, .emit) := by
        have hnot : c ≠ 37 ∧ c ≠ 105 ∧ c ≠ 115 ∧ c ≠ 99 ∧ c ≠ 100 := by
          simp only [Bool.or_eq_true, Bool.and_eq_true, beq_iff_eq, isDigit, decide_eq_true_eq] at hdisp
          omega
        unfold execOp
        simp only [beq_iff_eq, hnot.1, hnot.2.1, hnot.2.2.1, hnot.2.2.2.1, hnot.2.2.2.2, if_false]
        rw [if_pos hdisp, hst]
        rfl
      simp only [List.cons_append, step]
      simpa using hexec

/-! ### the skip lemma -/

/-- skip states in which `%t` and `%e` of a chain are stepped over: any skip-to-end state, and a skip-to-else state
inside a nested conditional (repaired machine only) -/
def deepV (v : Variant) : Skip → Prop
  | .emit => False
  | .toEnd _ => True
  | .toElse d => v.nesting = true ∧ d > 0

theorem deepV_ne_emit {v : Variant} {k : Skip} (h : deepV v k) : k ≠ .emit := by
  cases k <;> simp_all [deepV]

theorem skipOp_else_deep (v : Variant) (k : Skip) (h : deepV v k) : skipOp v 101 k = k := by
  cases k with
  | emit => simp [deepV] at h
  | toEnd d => simp [skipOp]
  | toElse d =>
    simp only [deepV] at h
    have : ¬ d = 0 := by omega
    simp [skipOp, h.1, h.2]

/-- what `%?` … `%;` do to a skip state of the machine with the nesting counter -/
theorem skipOp_open_close (v : Variant) (hn : v.nesting = true) (k : Skip) (hk : k ≠ .emit) :
    deepV v (skipOp v 63 k) ∧ skipOp v 59 (skipOp v 63 k) = k := by
  cases k with
  | emit => exact absurd rfl hk
  | toEnd d => simp [skipOp, hn, deepV]
  | toElse d => simp [skipOp, hn, deepV]

mutual
/-- **skip lemma**, programs: in a skip state the concrete syntax of a well-formed program is stepped over and the
skip state afterwards is the one before (the repaired machine counts nested `%?`/`%;`; the pinned machine has no
counter, there the statement holds for programs without conditionals). -/
theorem skip_prog (v : Variant) : ∀ (a : Prog), a.valid = true → (v.nesting = true ∨ a.depth = 0) →
    ∀ (rest : Bytes) (s : St) (k : Skip), k ≠ .emit → runL v (a.render ++ rest) s k = runL v rest s k
  | .nil, _, _, rest, s, k, _ => by simp [Prog.render]
  | .tok t r, hv, hd, rest, s, k, hk => by
    simp only [Prog.valid, Prog.depth, Bool.and_eq_true] at hv hd
    simp only [Prog.render, List.append_assoc]
    rw [tok_skip v t hv.1 hk]
    exact skip_prog v r hv.2 hd _ _ _ hk
  | .cond c r, hv, hd, rest, s, k, hk => by
    simp only [Prog.valid, Prog.depth, Bool.and_eq_true] at hv hd
    have hn : v.nesting = true := by
      rcases hd with h | h
      · exact h
      · omega
    have hoc := skipOp_open_close v hn k hk
    simp only [Prog.render, List.append_assoc, List.cons_append, List.nil_append]
    rw [skip_pair v 63 hk, skip_chain v c hv.1 (Or.inl hn) _ s _ hoc.1,
      skip_pair v 59 (deepV_ne_emit hoc.1), hoc.2]
    exact skip_prog v r hv.2 (Or.inl hn) _ _ _ hk
/-- skip lemma, the inside of a conditional (`test %t then %e …`): stepped over in every state of `deepV` -/
theorem skip_chain (v : Variant) : ∀ (c : Chain), c.valid = true → (v.nesting = true ∨ c.depth = 0) →
    ∀ (rest : Bytes) (s : St) (k : Skip), deepV v k → runL v (c.render ++ rest) s k = runL v rest s k
  | .fi a b, hv, hd, rest, s, k, hk => by
    simp only [Chain.valid, Chain.depth, Bool.and_eq_true, Nat.max_eq_zero_iff] at hv hd
    have hne := deepV_ne_emit hk
    simp only [Chain.render, List.append_assoc, List.cons_append, List.nil_append]
    rw [skip_prog v a hv.1 (hd.imp_right (·.1)) _ _ _ hne, skip_pair v 116 hne,
      skipOp_neutral v 116 (by decide)]
    exact skip_prog v b hv.2 (hd.imp_right (·.2)) _ _ _ hne
  | .els a b c, hv, hd, rest, s, k, hk => by
    simp only [Chain.valid, Chain.depth, Bool.and_eq_true, Nat.max_eq_zero_iff] at hv hd
    have hne := deepV_ne_emit hk
    simp only [Chain.render, List.append_assoc, List.cons_append, List.nil_append]
    rw [skip_prog v a hv.1.1 (hd.imp_right (·.1)) _ _ _ hne, skip_pair v 116 hne,
      skipOp_neutral v 116 (by decide),
      skip_prog v b hv.1.2 (hd.imp_right (·.2.1)) _ _ _ hne, skip_pair v 101 hne, skipOp_else_deep v k hk]
    exact skip_prog v c hv.2 (hd.imp_right (·.2.2)) _ _ _ hne
  | .elif a b n, hv, hd, rest, s, k, hk => by
    simp only [Chain.valid, Chain.depth, Bool.and_eq_true, Nat.max_eq_zero_iff] at hv hd
    have hne := deepV_ne_emit hk
    simp only [Chain.render, List.append_assoc, List.cons_append, List.nil_append]
    rw [skip_prog v a hv.1.1 (hd.imp_right (·.1)) _ _ _ hne, skip_pair v 116 hne,
      skipOp_neutral v 116 (by decide),
      skip_prog v b hv.1.2 (hd.imp_right (·.2.1)) _ _ _ hne, skip_pair v 101 hne, skipOp_else_deep v k hk]
    exact skip_chain v n hv.2 (hd.imp_right (·.2.2)) rest s k hk
end

/-! ### the emit state on the four conditional markers -/

theorem runL_qm (v : Variant) (rest : Bytes) (s : St) : runL v (37 :: 63 :: rest) s .emit = runL v rest s .emit :=
  runL_of_step (step_op v 63 (by decide) rest s)

theorem runL_semi (v : Variant) (rest : Bytes) (s : St) : runL v (37 :: 59 :: rest) s .emit = runL v rest s .emit :=
  runL_of_step (step_op v 59 (by decide) rest s)

theorem runL_then (v : Variant) (rest : Bytes) (s : St) :
    runL v (37 :: 116 :: rest) s .emit = runL v rest (test s).2 (if (test s).1 then .emit else .toElse 0) := by
  refine runL_of_step ((step_op v 116 (by decide) rest s).trans ?_)
  show (rest, _, if (popInt s.stk).1 == 0 then Skip.toElse 0 else Skip.emit) =
    (rest, _, if (popInt s.stk).1 != 0 then Skip.emit else Skip.toElse 0)
  cases h : (popInt s.stk).1 == 0 <;> simp [bne, h] <;> rfl

theorem runL_else (v : Variant) (rest : Bytes) (s : St) : runL v (37 :: 101 :: rest) s .emit = runL v rest s (.toEnd 0) :=
  runL_of_step (step_op v 101 (by decide) rest s)

theorem skipOp_semi_zero (v : Variant) : skipOp v 59 (.toElse 0) = .emit ∧ skipOp v 59 (.toEnd 0) = .emit ∧
    skipOp v 101 (.toElse 0) = .emit := by
  simp [skipOp]

/-! ### execution = structural evaluation -/

mutual
/-- running the machine over the concrete syntax of a well-formed program in the emit state computes what the
structural evaluator computes, and continues in the emit state with what follows -/
theorem exec_prog (v : Variant) : ∀ (a : Prog), a.valid = true → a.all (tokOk v) = true →
    (v.nesting = true ∨ a.depth ≤ 1) →
    ∀ (rest : Bytes) (s : St), runL v (a.render ++ rest) s .emit = runL v rest (a.evalG semM test s) .emit
  | .nil, _, _, _, rest, s => by simp [Prog.render, Prog.evalG]
  | .tok t r, hv, hok, hd, rest, s => by
    simp only [Prog.valid, Prog.all, Prog.depth, Bool.and_eq_true] at hv hok hd
    simp only [Prog.render, List.append_assoc, Prog.evalG]
    rw [runL_of_step (step_tokM v t hok.1 hv.1 (r.render ++ rest) s)]
    exact exec_prog v r hv.2 hok.2 hd rest _
  | .cond c r, hv, hok, hd, rest, s => by
    simp only [Prog.valid, Prog.all, Prog.depth, Bool.and_eq_true] at hv hok hd
    simp only [Prog.render, List.append_assoc, List.cons_append, List.nil_append, Prog.evalG]
    rw [runL_qm, exec_chain v c hv.1 hok.1 (hd.imp id (fun h => by omega)) _ s]
    exact exec_prog v r hv.2 hok.2 (hd.imp id (fun h => by omega)) rest _
/-- … and the same for the inside of a conditional up to and including its `%;` -/
theorem exec_chain (v : Variant) : ∀ (c : Chain), c.valid = true → c.all (tokOk v) = true →
    (v.nesting = true ∨ c.depth = 0) →
    ∀ (rest : Bytes) (s : St),
      runL v (c.render ++ 37 :: 59 :: rest) s .emit = runL v rest (c.evalG semM test s) .emit
  | .fi a b, hv, hok, hd, rest, s => by
    simp only [Chain.valid, Chain.all, Chain.depth, Bool.and_eq_true, Nat.max_eq_zero_iff] at hv hok hd
    simp only [Chain.render, List.append_assoc, List.cons_append, List.nil_append, Chain.evalG]
    rw [exec_prog v a hv.1 hok.1 (hd.imp_right fun h => by omega) _ s, runL_then]
    cases ht : (test (a.evalG semM test s)).1 with
    | true =>
      simp only [if_true]
      rw [exec_prog v b hv.2 hok.2 (hd.imp_right fun h => by omega) _ _, runL_semi]
    | false =>
      simp only [Bool.false_eq_true, if_false]
      rw [skip_prog v b hv.2 (hd.imp_right (·.2)) _ _ _ (by simp), skip_pair v 59 (by simp), (skipOp_semi_zero v).1]
  | .els a b c, hv, hok, hd, rest, s => by
    simp only [Chain.valid, Chain.all, Chain.depth, Bool.and_eq_true, Nat.max_eq_zero_iff] at hv hok hd
    simp only [Chain.render, List.append_assoc, List.cons_append, List.nil_append, Chain.evalG]
    rw [exec_prog v a hv.1.1 hok.1.1 (hd.imp_right fun h => by omega) _ s, runL_then]
    cases ht : (test (a.evalG semM test s)).1 with
    | true =>
      simp only [if_true]
      rw [exec_prog v b hv.1.2 hok.1.2 (hd.imp_right fun h => by omega) _ _, runL_else,
        skip_prog v c hv.2 (hd.imp_right (·.2.2)) _ _ _ (by simp), skip_pair v 59 (by simp), (skipOp_semi_zero v).2.1]
    | false =>
      simp only [Bool.false_eq_true, if_false]
      rw [skip_prog v b hv.1.2 (hd.imp_right (·.2.1)) _ _ _ (by simp), skip_pair v 101 (by simp),
        (skipOp_semi_zero v).2.2, exec_prog v c hv.2 hok.2 (hd.imp_right fun h => by omega) _ _, runL_semi]
  | .elif a b n, hv, hok, hd, rest, s => by
    simp only [Chain.valid, Chain.all, Chain.depth, Bool.and_eq_true, Nat.max_eq_zero_iff] at hv hok hd
    simp only [Chain.render, List.append_assoc, List.cons_append, List.nil_append, Chain.evalG]
    rw [exec_prog v a hv.1.1 hok.1.1 (hd.imp_right fun h => by omega) _ s, runL_then]
    cases ht : (test (a.evalG semM test s)).1 with
    | true =>
      simp only [if_true]
      rw [exec_prog v b hv.1.2 hok.1.2 (hd.imp_right fun h => by omega) _ _, runL_else,
        skip_chain v n hv.2 (hd.imp_right (·.2.2)) _ _ _ (by simp [deepV]), skip_pair v 59 (by simp),
        (skipOp_semi_zero v).2.1]
    | false =>
      simp only [Bool.false_eq_true, if_false]
      rw [skip_prog v b hv.1.2 (hd.imp_right (·.2.1)) _ _ _ (by simp), skip_pair v 101 (by simp),
        (skipOp_semi_zero v).2.2]
      exact exec_chain v n hv.2 hok.2 (hd.imp_right (·.2.2)) rest _
end

/-! ### program fragments -/

/-- In the emit state the machine runs over the fragment `p`, whatever follows it, with the effect `f` on the state,
and is in the emit state again afterwards (`exec_prog`: `Runs v a.render (a.evalG semM test)`). -/
def Runs (v : Variant) (p : Bytes) (f : St → St) : Prop :=
  ∀ (rest : Bytes) (s : St), runL v (p ++ rest) s .emit = runL v rest (f s) .emit

theorem Runs.append {v : Variant} {p q : Bytes} {f g : St → St} (hp : Runs v p f) (hq : Runs v q g) :
    Runs v (p ++ q) (fun s => g (f s)) := fun rest s => by rw [List.append_assoc, hp, hq]

theorem Runs.tok (v : Variant) (t : Tok) (hok : tokOk v t = true) (hv : t.valid = true) : Runs v t.render (semM t) :=
  fun rest s => runL_of_step (step_tokM v t hok hv rest s)

theorem Runs.lits (v : Variant) (l : Bytes) (h : ∀ b ∈ l, b ≠ 37 := by decide) : Runs v l (fun s => put s l) := by
  induction l with
  | nil => intro rest s; simp [put]
  | cons b l ih =>
    intro rest s
    have hst : step v (b :: (l ++ rest)) s .emit = (l ++ rest, put s [b], .emit) := by simp [step, h b (by simp)]
    rw [List.cons_append, runL_of_step hst, ih (fun x hx => h x (by simp [hx]))]
    simp [put]

theorem Runs.tparmV {v : Variant} {p : Bytes} {f : St → St} (h : Runs v p f) (ps : List Value) (sv : Vars) :
    tparmV v p ps sv = ((f { params := pad9 ps, svars := sv }).out, (f { params := pad9 ps, svars := sv }).svars) := by
  have := h [] { params := pad9 ps, svars := sv }
  rw [List.append_nil, runL_nil] at this
  exact congrArg (fun s : St => (s.out, s.svars)) this

end Tcell.TParm
