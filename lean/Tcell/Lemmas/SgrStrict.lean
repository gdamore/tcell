import Tcell.Model.Parser
import Tcell.Spec.SgrGrammar
import Tcell.Lemmas.Collect
/-
The byte loop of `parseSgrMouse`: what one iteration (`sgrStep`) does on each class of byte, and its inversion; the two
variants `sgrStepV strict` (the strict step of fixes/C02-sgr-strict.patch, `default: return false, false`, is the pinned
step on the bytes that have a `case` and a reject on all others); a completed report is at least five bytes long; and
the "no junk" invariant `okFrom_cons`: the strict loop is, byte by byte, the recogniser of the rest of an SGR report
in the sense of the independent grammar `Spec.SgrGrammar` (`sgrRun_grammar`, `sgrRun_of_grammar`).
-/
namespace Tcell.Lemmas.SgrStrict
open Tcell Tcell.Model Tcell.Spec.SgrGrammar Tcell.Lemmas.Collect

theorem inNum_iff (s : SgrSt) : inNum s = true ↔ s.state = 3 ∨ s.state = 4 ∨ s.state = 5 := by
  simp [inNum, or_assoc]

theorem sgrStep_esc (s : SgrSt) : sgrStep s 27 = if s.state ≠ 0 then .rej else .cont { s with state := 1 } := rfl
theorem sgrStep_csi8 (s : SgrSt) : sgrStep s 0x9b = if s.state ≠ 0 then .rej else .cont { s with state := 2 } := rfl
theorem sgrStep_bracket (s : SgrSt) : sgrStep s 91 = if s.state ≠ 1 then .rej else .cont { s with state := 2 } := rfl
theorem sgrStep_lt (s : SgrSt) :
    sgrStep s 60 = if s.state ≠ 2 then .rej else .cont { s with state := 3, val := 0, dig := false, neg := false } := rfl
theorem sgrStep_minus (s : SgrSt) :
    sgrStep s 45 = if !inNum s then .rej else if s.dig || s.neg then .rej else .cont { s with neg := true } := rfl
theorem sgrStep_semi (s : SgrSt) :
    sgrStep s 59 =
      if s.state = 3 then .cont { s with btn := sgrVal s, val := 0, neg := false, dig := false, state := 4 }
      else if s.state = 4 then .cont { s with x := wrap64 (sgrVal s - 1), val := 0, neg := false, dig := false, state := 5 }
      else .rej := rfl

theorem sgrStep_digit (s : SgrSt) (c : Nat) (h : 48 ≤ c ∧ c ≤ 57) :
    sgrStep s c = if !inNum s then .rej else .cont { s with val := wrap64 (s.val * 10 + ((c : Int) - 48)), dig := true } := by
  have : c ≠ 27 ∧ c ≠ 0x9b ∧ c ≠ 91 ∧ c ≠ 60 ∧ c ≠ 45 := by omega
  simp only [sgrStep, this, h, and_self, if_true, if_false]

theorem sgrStep_final (s : SgrSt) (c : Nat) (h : c = 109 ∨ c = 77) :
    sgrStep s c = if s.state ≠ 5 then .rej else .fin s.x (wrap64 (sgrVal s - 1)) s.btn (c = 109) := by
  rcases h with rfl | rfl <;> rfl

theorem sgrKnown_iff (c : Nat) : sgrKnown c = true ↔
    c = 27 ∨ c = 0x9b ∨ c = 91 ∨ c = 60 ∨ c = 45 ∨ (48 ≤ c ∧ c ≤ 57) ∨ c = 59 ∨ c = 109 ∨ c = 77 := by
  simp [sgrKnown, or_assoc]

theorem sgrStep_other (s : SgrSt) (c : Nat) (h : sgrKnown c = false) : sgrStep s c = .cont s := by
  have : c ≠ 27 ∧ c ≠ 0x9b ∧ c ≠ 91 ∧ c ≠ 60 ∧ c ≠ 45 ∧ ¬ (48 ≤ c ∧ c ≤ 57) ∧ c ≠ 59 ∧ ¬ (c = 109 ∨ c = 77) := by
    simpa [← Bool.not_eq_true, sgrKnown_iff, not_or] using h
  simp only [sgrStep, this, if_false]

theorem sgrStep_fin_inv {s : SgrSt} {c : Nat} {x y btn : Int} {rel : Bool} (h : sgrStep s c = .fin x y btn rel) :
    s.state = 5 ∧ (c = 109 ∨ c = 77) := by
  by_cases hk : sgrKnown c = true
  · rcases (sgrKnown_iff c).mp hk with rfl | rfl | rfl | rfl | rfl | hd | rfl | hf
    · rw [sgrStep_esc] at h; split at h <;> cases h
    · rw [sgrStep_csi8] at h; split at h <;> cases h
    · rw [sgrStep_bracket] at h; split at h <;> cases h
    · rw [sgrStep_lt] at h; split at h <;> cases h
    · rw [sgrStep_minus] at h; split at h <;> (try split at h) <;> cases h
    · rw [sgrStep_digit s c hd] at h; split at h <;> cases h
    · rw [sgrStep_semi] at h; split at h <;> (try split at h) <;> cases h
    · rw [sgrStep_final s c hf] at h
      split at h
      · cases h
      · exact ⟨by omega, hf⟩
  · rw [sgrStep_other s c (by simpa using hk)] at h; cases h

theorem sgrStep_cont_inv {s s' : SgrSt} {c : Nat} (h : sgrStep s c = .cont s') :
    (c = 27 ∧ s.state = 0 ∧ s' = { s with state := 1 }) ∨
    (c = 0x9b ∧ s.state = 0 ∧ s' = { s with state := 2 }) ∨
    (c = 91 ∧ s.state = 1 ∧ s' = { s with state := 2 }) ∨
    (c = 60 ∧ s.state = 2 ∧ s' = { s with state := 3, val := 0, dig := false, neg := false }) ∨
    (c = 45 ∧ inNum s = true ∧ s.dig = false ∧ s.neg = false ∧ s' = { s with neg := true }) ∨
    ((48 ≤ c ∧ c ≤ 57) ∧ inNum s = true ∧ s' = { s with val := wrap64 (s.val * 10 + ((c : Int) - 48)), dig := true }) ∨
    (c = 59 ∧ s.state = 3 ∧ s' = { s with btn := sgrVal s, val := 0, neg := false, dig := false, state := 4 }) ∨
    (c = 59 ∧ s.state = 4 ∧ s' = { s with x := wrap64 (sgrVal s - 1), val := 0, neg := false, dig := false, state := 5 }) ∨
    (sgrKnown c = false ∧ s' = s) := by
  by_cases hk : sgrKnown c = true
  · rcases (sgrKnown_iff c).mp hk with rfl | rfl | rfl | rfl | rfl | hd | rfl | hf
    · rw [sgrStep_esc] at h; split at h <;> simp_all
    · rw [sgrStep_csi8] at h; split at h <;> simp_all
    · rw [sgrStep_bracket] at h; split at h <;> simp_all
    · rw [sgrStep_lt] at h; split at h <;> simp_all
    · rw [sgrStep_minus] at h; split at h <;> (try split at h) <;> simp_all
    · rw [sgrStep_digit s c hd] at h; split at h <;> simp_all
    · rw [sgrStep_semi] at h; split at h <;> (try split at h) <;> simp_all
    · rw [sgrStep_final s c hf] at h; split at h <;> cases h
  · rw [sgrStep_other s c (by simpa using hk)] at h; simp_all

theorem sgrStepV_false (s : SgrSt) (c : Nat) : sgrStepV false s c = sgrStep s c := by simp [sgrStepV]

theorem sgrStepV_known (b : Bool) (s : SgrSt) (c : Nat) (h : sgrKnown c = true) : sgrStepV b s c = sgrStep s c := by
  simp [sgrStepV, h]

theorem sgrStepV_cases (b : Bool) (s : SgrSt) (c : Nat) :
    sgrStepV b s c = sgrStep s c ∨ (sgrStepV b s c = .rej ∧ b = true ∧ sgrKnown c = false) := by
  unfold sgrStepV
  cases b <;> cases h : sgrKnown c <;> simp

theorem sgrStepV_cont (b : Bool) (s s' : SgrSt) (c : Nat) (h : sgrStepV b s c = .cont s') : sgrStep s c = .cont s' := by
  rcases sgrStepV_cases b s c with e | ⟨e, _, _⟩
  · rw [← e]; exact h
  · rw [e] at h; cases h

theorem sgrStepV_fin (b : Bool) (s : SgrSt) (c : Nat) (x y btn : Int) (rel : Bool) (h : sgrStepV b s c = .fin x y btn rel) :
    sgrStep s c = .fin x y btn rel := by
  rcases sgrStepV_cases b s c with e | ⟨e, _, _⟩
  · rw [← e]; exact h
  · rw [e] at h; cases h

theorem sgrStepV_strict_known (s : SgrSt) (c : Nat) (h : sgrStepV true s c ≠ .rej) : sgrKnown c = true := by
  cases hk : sgrKnown c
  · exfalso; apply h; simp [sgrStepV, hk]
  · rfl

theorem sgrStepV_rej_of_pinned (b : Bool) (s : SgrSt) (c : Nat) (h : sgrStep s c = .rej) : sgrStepV b s c = .rej := by
  rcases sgrStepV_cases b s c with e | ⟨e, _, _⟩
  · rw [e]; exact h
  · exact e

theorem sgrFinish_complete (cfg : Cfg) (st : PState) (x y btn : Int) (rel : Bool) (k n : Nat) (evs : List Event) (st' : PState)
    (h : sgrFinish cfg st x y btn rel k = .complete n evs st') : n = k := by
  simp [sgrFinish] at h; exact h.1.symm

theorem sgrRun_bound (cfg : Cfg) (st : PState) (n : Nat) (evs : List Event) (st' : PState) :
    ∀ (r : Bytes) (s : SgrSt) (i : Nat), sgrRun cfg st s r i = .complete n evs st' → i + 1 ≤ n ∧ n ≤ i + r.length := by
  intro r
  induction r with
  | nil => intro s i h; simp [sgrRun] at h
  | cons c rest ih =>
    intro s i h
    unfold sgrRun at h
    cases hs : sgrStepV cfg.sgrStrict s c with
    | rej => rw [hs] at h; cases h
    | cont s' =>
      rw [hs] at h
      have := ih s' (i + 1) h
      simp only [List.length_cons]; omega
    | fin x y btn rel =>
      rw [hs] at h
      have := sgrFinish_complete cfg st x y btn rel (i + 1) n evs st' h
      simp only [List.length_cons]; omega

/-- progress of the state machine: the start state counts as 1 because `0x9B` jumps from 0 to 2 -/
def sgrRank (s : SgrSt) : Nat := if s.state = 0 then 1 else s.state

theorem sgrStep_rank (s s' : SgrSt) (c : Nat) (h : sgrStep s c = .cont s') : sgrRank s' ≤ sgrRank s + 1 := by
  rcases sgrStep_cont_inv h with ⟨_, _, rfl⟩ | ⟨_, _, rfl⟩ | ⟨_, _, rfl⟩ | ⟨_, _, rfl⟩ | ⟨_, _, _, _, rfl⟩ | ⟨_, _, rfl⟩ |
    ⟨_, _, rfl⟩ | ⟨_, _, rfl⟩ | ⟨_, rfl⟩ <;> simp only [sgrRank] <;> (repeat' split) <;> omega

theorem sgrRun_min (cfg : Cfg) (st : PState) (n : Nat) (evs : List Event) (st' : PState) :
    ∀ (r : Bytes) (s : SgrSt) (i : Nat), sgrRun cfg st s r i = .complete n evs st' → 6 ≤ sgrRank s + r.length := by
  intro r
  induction r with
  | nil => intro s i h; simp [sgrRun] at h
  | cons c rest ih =>
    intro s i h
    unfold sgrRun at h
    cases hs : sgrStepV cfg.sgrStrict s c with
    | rej => rw [hs] at h; cases h
    | cont s' =>
      rw [hs] at h
      have := ih s' (i + 1) h
      have := sgrStep_rank s s' c (sgrStepV_cont _ s s' c hs)
      simp only [List.length_cons]; omega
    | fin x y btn rel =>
      have h5 := (sgrStep_fin_inv (sgrStepV_fin _ s c x y btn rel hs)).1
      rw [sgrRank, if_neg (by omega), List.length_cons]; omega

theorem parseSgrMouse_min (cfg : Cfg) (st : PState) (a : Bytes) (n : Nat) (evs : List Event) (st' : PState)
    (h : parseSgrMouse cfg st a = .complete n evs st') : 5 ≤ a.length := by
  have := sgrRun_min cfg st n evs st' a {} 0 h
  simp only [sgrRank, if_true] at this; omega

/-- a completed report contains its `<`: no other byte leads out of the introducer states -/
theorem sgrRun_lt (cfg : Cfg) (st : PState) (n : Nat) (evs : List Event) (st' : PState) :
    ∀ (r : Bytes) (s : SgrSt) (i : Nat), s.state ≤ 2 → sgrRun cfg st s r i = .complete n evs st' → 60 ∈ r := by
  intro r
  induction r with
  | nil => intro s i _ h; simp [sgrRun] at h
  | cons c rest ih =>
    intro s i hs h
    unfold sgrRun at h
    have hn : ¬ inNum s = true := by rw [inNum_iff]; omega
    cases hstep : sgrStepV cfg.sgrStrict s c with
    | rej => rw [hstep] at h; cases h
    | cont s' =>
      rw [hstep] at h
      have : c = 60 ∨ s'.state ≤ 2 := by
        rcases sgrStep_cont_inv (sgrStepV_cont _ s s' c hstep) with ⟨_, _, rfl⟩ | ⟨_, _, rfl⟩ | ⟨_, _, rfl⟩ | ⟨rfl, _⟩ |
          ⟨_, h', _⟩ | ⟨_, h', _⟩ | ⟨_, h', _⟩ | ⟨_, h', _⟩ | ⟨_, rfl⟩
        all_goals simp_all
      rcases this with rfl | hs'
      · exact List.mem_cons_self
      · exact List.mem_cons_of_mem _ (ih s' (i + 1) hs' h)
    | fin x y btn rel =>
      have := (sgrStep_fin_inv (sgrStepV_fin _ s c x y btn rel hstep)).1
      omega

theorem sgrFinish_ne_amb (cfg : Cfg) (st : PState) (x y btn : Int) (rel : Bool) (k : Nat) :
    sgrFinish cfg st x y btn rel k ≠ .ambiguous := by
  intro h; simp [sgrFinish] at h

theorem sgrRun_ne_amb (cfg : Cfg) (st : PState) : ∀ (r : Bytes) (s : SgrSt) (i : Nat), sgrRun cfg st s r i ≠ .ambiguous := by
  intro r
  induction r with
  | nil => intro s i h; simp [sgrRun] at h
  | cons c rest ih =>
    intro s i h
    unfold sgrRun at h
    cases hs : sgrStepV cfg.sgrStrict s c with
    | rej => rw [hs] at h; cases h
    | cont s' => rw [hs] at h; exact ih s' (i + 1) h
    | fin x y btn rel => rw [hs] at h; exact sgrFinish_ne_amb _ _ _ _ _ _ _ h

theorem parseSgrMouse_short (cfg : Cfg) (st : PState) (b : Bytes) (h : b.length ≤ 4) : Silent (parseSgrMouse cfg st b) := by
  cases hv : parseSgrMouse cfg st b with
  | complete n evs st' => have := parseSgrMouse_min cfg st b n evs st' hv; omega
  | part => exact Or.inl rfl
  | reject => exact Or.inr rfl
  | ambiguous => exact absurd hv (sgrRun_ne_amb cfg st b {} 0)

/-- recogniser of what may follow the digits of the field read in number state `st` -/
def fieldTail (st : Nat) : Bytes → Bool := if st = 3 then tailB else if st = 4 then tailX else tailY

/-- `r` is what remains of a report when the loop is in state `s`; in a number state the sign is still allowed only
when neither a sign nor a digit was read -/
def okFrom (s : SgrSt) (r : Bytes) : Bool :=
  if s.state = 0 then isSgrReport r
  else if s.state = 1 then afterEsc r
  else if s.state = 2 then afterCsi r
  else inNum s && fieldTail s.state (if s.dig || s.neg then r else dropSign r)

theorem okFrom_init (r : Bytes) : okFrom {} r = isSgrReport r := rfl

theorem fieldTail_nil (st : Nat) : fieldTail st [] = false := by
  unfold fieldTail; split <;> (try split) <;> rfl

theorem okFrom_nil (s : SgrSt) : okFrom s [] = false := by
  simp [okFrom, fieldTail_nil, isSgrReport, afterEsc, afterCsi, dropSign]

theorem okFrom_num (s : SgrSt) (h : inNum s = true) (r : Bytes) :
    okFrom s r = fieldTail s.state (if s.dig || s.neg then r else dropSign r) := by
  have : s.state ≠ 0 ∧ s.state ≠ 1 ∧ s.state ≠ 2 := by have := (inNum_iff s).mp h; omega
  simp [okFrom, this, h]

theorem dropSign_ne (c : Nat) (t : Bytes) (h : c ≠ 45) : dropSign (c :: t) = c :: t := by
  unfold dropSign
  split
  · rename_i heq; injection heq with h1 _; exact absurd h1.symm (by omega)
  · rfl

theorem tailY_cons (c : Nat) (t : Bytes) :
    tailY (c :: t) = if isDigitB c then tailY t else (c == 77 || c == 109) && t.isEmpty := by
  unfold tailY
  rw [List.dropWhile_cons]
  by_cases hd : isDigitB c = true
  · rw [if_pos hd, if_pos hd]
  · rw [if_neg hd, if_neg hd]; cases t <;> simp

/-- `tailX` and `tailB`: digits, the separator, then the next field `F` -/
theorem sepTail_cons (F : Bytes → Bool) (c : Nat) (t : Bytes) :
    (match (c :: t).dropWhile isDigitB with | 59 :: r' => F (dropSign r') | _ => false) =
      if isDigitB c then (match t.dropWhile isDigitB with | 59 :: r' => F (dropSign r') | _ => false)
      else c == 59 && F (dropSign t) := by
  rw [List.dropWhile_cons]
  by_cases hd : isDigitB c = true
  · rw [if_pos hd, if_pos hd]
  · rw [if_neg hd, if_neg hd]
    by_cases h : c = 59
    · subst h; rfl
    · simp [h]

theorem tailX_cons (c : Nat) (t : Bytes) :
    tailX (c :: t) = if isDigitB c then tailX t else c == 59 && tailY (dropSign t) := sepTail_cons tailY c t

theorem tailB_cons (c : Nat) (t : Bytes) :
    tailB (c :: t) = if isDigitB c then tailB t else c == 59 && tailX (dropSign t) := sepTail_cons tailX c t

theorem fieldTail_cons (st c : Nat) (t : Bytes) :
    fieldTail st (c :: t) =
      if isDigitB c then fieldTail st t
      else if st = 3 ∨ st = 4 then c == 59 && fieldTail (st + 1) (dropSign t)
      else (c == 77 || c == 109) && t.isEmpty := by
  unfold fieldTail
  by_cases h3 : st = 3
  · subst h3; simp [tailB_cons]
  · by_cases h4 : st = 4
    · subst h4; simp [tailX_cons]
    · simp [h3, h4, tailY_cons]

theorem okFrom_cons (s : SgrSt) (c : Nat) (t : Bytes) :
    okFrom s (c :: t) = match sgrStepV true s c with
      | .rej => false
      | .cont s' => okFrom s' t
      | .fin _ _ _ _ => t.isEmpty := by
  by_cases hk : sgrKnown c = true
  · rw [sgrStepV_known true s c hk]
    rcases (sgrKnown_iff c).mp hk with rfl | rfl | rfl | rfl | hb
    · rw [sgrStep_esc]
      by_cases h : s.state = 0 <;> simp [okFrom, h, isSgrReport, afterEsc, afterCsi, dropSign, fieldTail_cons, isDigitB]
    · rw [sgrStep_csi8]
      by_cases h : s.state = 0 <;> simp [okFrom, h, isSgrReport, afterEsc, afterCsi, dropSign, fieldTail_cons, isDigitB]
    · rw [sgrStep_bracket]
      by_cases h : s.state = 1 <;> simp [okFrom, h, isSgrReport, afterEsc, afterCsi, dropSign, fieldTail_cons, isDigitB]
    · rw [sgrStep_lt]
      by_cases h : s.state = 2
      · simp [okFrom, h, afterCsi, inNum, fieldTail]
      · simp [okFrom, h, isSgrReport, afterEsc, dropSign, fieldTail_cons, isDigitB]
    -- sign, digit, separator, final byte: accepted in number states only
    · by_cases hn : inNum s = true
      · have hst := (inNum_iff s).mp hn
        rw [okFrom_num s hn]
        rcases hb with rfl | hd | rfl | hf
        · rw [sgrStep_minus]
          by_cases hd : (s.dig || s.neg) = true
          · simp [hn, hd, fieldTail_cons, isDigitB]
          · simp [hn, hd, dropSign, okFrom_num _ (show inNum { s with neg := true } = true from hn)]
        · rw [sgrStep_digit s c hd, dropSign_ne c t (by omega)]
          simp [hn, fieldTail_cons, isDigitB, hd,
            okFrom_num _ (show inNum { s with val := wrap64 (s.val * 10 + ((c : Int) - 48)), dig := true } = true from hn)]
        · rw [sgrStep_semi, dropSign_ne 59 t (by decide)]
          rcases hst with h | h | h <;> simp [h, fieldTail_cons, isDigitB, okFrom_num, inNum]
        · rw [sgrStep_final s c hf, dropSign_ne c t (by omega)]
          rcases hst with h | h | h <;> rcases hf with rfl | rfl <;> simp [h, fieldTail_cons, isDigitB]
      · have hst := mt (inNum_iff s).mpr hn
        have : okFrom s (c :: t) = false := by
          simp [okFrom, hn, isSgrReport, afterEsc, afterCsi, show c ≠ 27 ∧ c ≠ 0x9b ∧ c ≠ 91 ∧ c ≠ 60 by omega]
        rw [this]
        rcases hb with rfl | hd | rfl | hf
        · simp [sgrStep_minus, hn]
        · simp [sgrStep_digit s c hd, hn]
        · simp [sgrStep_semi, show s.state ≠ 3 ∧ s.state ≠ 4 by omega]
        · simp [sgrStep_final s c hf, show s.state ≠ 5 by omega]
  · have hc := mt (sgrKnown_iff c).mpr hk
    simp only [not_or] at hc
    have : okFrom s (c :: t) = false := by
      simp [okFrom, isSgrReport, afterEsc, afterCsi, dropSign_ne c t hc.2.2.2.2.1, fieldTail_cons, isDigitB, hc]
    rw [this]
    simp [sgrStepV, hk]

/-- invariant of the strict loop (fixes/C02-sgr-strict.patch): if it completes having consumed `n` bytes in all, the
bytes it read from here on (`n - i` of them) are what remains of an SGR report in state `s` -/
theorem sgrRun_grammar (cfg : Cfg) (hs : cfg.sgrStrict = true) (st : PState) (n : Nat) (evs : List Event) (st' : PState) :
    ∀ (r : Bytes) (s : SgrSt) (i : Nat), sgrRun cfg st s r i = .complete n evs st' → okFrom s (r.take (n - i)) = true := by
  intro r
  induction r with
  | nil => intro s i h; simp [sgrRun] at h
  | cons c rest ih =>
    intro s i h
    have hb := sgrRun_bound cfg st n evs st' (c :: rest) s i h
    unfold sgrRun at h
    rw [hs] at h
    rw [show n - i = (n - (i + 1)) + 1 by omega, List.take_succ_cons, okFrom_cons]
    cases hstep : sgrStepV true s c with
    | rej => rw [hstep] at h; cases h
    | cont s' => rw [hstep] at h; exact ih s' (i + 1) h
    | fin x y btn rel =>
      rw [hstep] at h
      have hn := sgrFinish_complete cfg st x y btn rel (i + 1) n evs st' h
      rw [show n - (i + 1) = 0 by omega]; rfl

theorem sgrRun_of_grammar (cfg : Cfg) (st : PState) (t : Bytes) :
    ∀ (r : Bytes) (s : SgrSt) (i : Nat), okFrom s r = true →
      ∃ evs st', sgrRun cfg st s (r ++ t) i = .complete (i + r.length) evs st' := by
  intro r
  induction r with
  | nil => intro s i h; rw [okFrom_nil] at h; cases h
  | cons c rest ih =>
    intro s i h
    rw [okFrom_cons] at h
    -- the strict step does not reject, so `c` has a `case` and both variants take the same step
    have hv : sgrStepV cfg.sgrStrict s c = sgrStepV true s c := by
      have hk := sgrStepV_strict_known s c (by intro e; rw [e] at h; cases h)
      rw [sgrStepV_known _ s c hk, sgrStepV_known _ s c hk]
    simp only [List.cons_append, sgrRun, hv, List.length_cons]
    cases hstep : sgrStepV true s c with
    | rej => rw [hstep] at h; cases h
    | cont s' =>
      rw [hstep] at h
      obtain ⟨evs, st', hrun⟩ := ih s' (i + 1) h
      exact ⟨evs, st', by show sgrRun cfg st s' (rest ++ t) (i + 1) = _; rw [hrun]; congr 1; omega⟩
    | fin x y btn rel =>
      rw [hstep] at h
      rw [List.isEmpty_iff.mp h]
      exact ⟨_, _, rfl⟩

end Tcell.Lemmas.SgrStrict
