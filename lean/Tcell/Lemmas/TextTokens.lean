import Tcell.Model.TextInput
import Tcell.Lemmas.Collect
/-
C11, generic part: a stream made of *tokens* each of which the parser (in a fixed state `st`) recognises atomically
(`step1` emits exactly the token's event when the buffer starts with the whole token, and waits on every non-empty
proper prefix) is delivered token by token under EVERY partition into reads (`feedAll`).
Independent of the general chunk-independence theorem of C02.
-/
namespace Tcell.Lemmas.Text
open Tcell Tcell.Model Tcell.Lemmas.Collect

structure Tok where
  bytes : Bytes
  ev : Event

/-- the parser in state `st` recognises the token atomically and stays in `st` -/
structure GoodTok (cfg : Cfg) (st : PState) (k : Tok) : Prop where
  nonempty : k.bytes ≠ []
  hit : ∀ t, step1 cfg st (k.bytes ++ t) false = .emit [k.ev] st t
  wait : ∀ l, 0 < l → l < k.bytes.length → step1 cfg st (k.bytes.take l) false = .wait

def tokBytes (ks : List Tok) : Bytes := ks.flatMap (·.bytes)

@[simp] theorem tokBytes_nil : tokBytes [] = [] := rfl
@[simp] theorem tokBytes_cons (k : Tok) (ks : List Tok) : tokBytes (k :: ks) = k.bytes ++ tokBytes ks := by
  simp [tokBytes]
@[simp] theorem tokBytes_append (a b : List Tok) : tokBytes (a ++ b) = tokBytes a ++ tokBytes b := by
  simp [tokBytes]

/-- one scan of a prefix `u` of a token stream delivers the tokens that lie wholly in `u` and leaves the started piece
of the next one, on which the parser waits -/
theorem collectAux_tokens (cfg : Cfg) (st : PState) :
    ∀ (ks : List Tok), (∀ k ∈ ks, GoodTok cfg st k) → ∀ (u v : Bytes), u ++ v = tokBytes ks → ∀ fuel, u.length ≤ fuel →
    ∃ ks1 ks2 q, ks = ks1 ++ ks2 ∧ collectAux cfg false fuel st u = ⟨ks1.map (·.ev), st, q, false⟩ ∧
      q ++ v = tokBytes ks2 ∧ (v = [] → q = []) := by
  intro ks
  induction ks with
  | nil =>
    intro _ u v h fuel _
    obtain ⟨rfl, rfl⟩ := List.append_eq_nil_iff.mp h
    exact ⟨[], [], [], rfl, collectAux_nil cfg false fuel st, rfl, fun _ => rfl⟩
  | cons k ks ih =>
    intro hg u v h fuel hf
    have hk := hg k List.mem_cons_self
    rw [tokBytes_cons] at h
    have hcases : (∃ c', u = k.bytes ++ c' ∧ tokBytes ks = c' ++ v) ∨ ∃ a as, k.bytes = u ++ a :: as ∧ v = a :: as ++ tokBytes ks := by
      rcases List.append_eq_append_iff.mp h with ⟨_ | ⟨a, as⟩, h1, h2⟩ | ⟨c', h1, h2⟩
      · exact Or.inl ⟨[], by simpa using h1.symm, by simpa using h2.symm⟩
      · exact Or.inr ⟨a, as, h1, h2⟩
      · exact Or.inl ⟨c', h1, h2⟩
    rcases hcases with ⟨c', rfl, h2⟩ | ⟨a, as, h1, h2⟩
    · -- `u` contains the first token
      have hpos := List.length_pos_iff.mpr hk.nonempty
      rw [List.length_append] at hf
      cases fuel with
      | zero => omega
      | succ f =>
        obtain ⟨ks1, ks2, q, e1, e2, e3, e4⟩ := ih (fun k' hk' => hg k' (List.mem_cons_of_mem _ hk')) c' v h2.symm f (by omega)
        refine ⟨k :: ks1, ks2, q, by rw [e1]; rfl, ?_, e3, e4⟩
        rw [collectAux_emit cfg false f st st _ c' (by simp [hk.nonempty]) _ (hk.hit c'), e2]
        rfl
    · -- `u` ends inside the first token
      refine ⟨[], k :: ks, u, rfl, ?_, by rw [tokBytes_cons, h1, h2, List.append_assoc], fun hv => by simp [hv] at h2⟩
      cases u with
      | nil => exact collectAux_nil cfg false fuel st
      | cons x xs =>
        have hw := hk.wait (x :: xs).length (by simp) (by simp [h1])
        rw [h1, List.take_left' rfl] at hw
        cases fuel with
        | zero => simp at hf
        | succ f => simp [collectAux, hw]

/-- **token streams are delivered token by token under every partition into reads**; `q` is what the previous read
left in the buffer, empty unless more input follows -/
theorem feedAll_tokens (cfg : Cfg) (st : PState) :
    ∀ (chunks : List Bytes) (ks : List Tok), (∀ k ∈ ks, GoodTok cfg st k) → ∀ (q : Bytes), (chunks.flatten = [] → q = []) →
    q ++ chunks.flatten = tokBytes ks → feedAll cfg st q chunks = ⟨ks.map (·.ev), st, [], false⟩ := by
  intro chunks
  induction chunks with
  | nil =>
    intro ks hg q hq hc
    cases hq rfl
    cases ks with
    | nil => rfl
    | cons k ks' =>
      rw [tokBytes_cons] at hc
      exact absurd (List.append_eq_nil_iff.mp hc.symm).1 (hg k List.mem_cons_self).nonempty
  | cons ch cs ih =>
    intro ks hg q _ hc
    obtain ⟨ks1, ks2, q', rfl, hcol, e3, e4⟩ := collectAux_tokens cfg st ks hg (q ++ ch) cs.flatten
      (by simpa [List.append_assoc] using hc) _ (Nat.le_refl _)
    have hrec := ih ks2 (fun k hk => hg k (List.mem_append_right _ hk)) q' e4 e3
    rw [← collect] at hcol
    simp [feedAll, hcol, hrec]

end Tcell.Lemmas.Text
