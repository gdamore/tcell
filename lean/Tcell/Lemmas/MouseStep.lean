import Tcell.Lemmas.SgrMouse
import Tcell.Lemmas.Collect
/-
One iteration of `collectEventsFromInput` on a buffer that starts with a rendered SGR / X11 mouse report.
-/
namespace Tcell.Lemmas.MouseStep
open Tcell Tcell.Model Tcell.Dec Tcell.Lemmas.SgrMouse Tcell.Lemmas.Collect

/-- the two CSI introducers -/
def IsIntro (intro : Bytes) : Prop := intro = [27, 91] ∨ intro = [0x9b]

theorem render_append (intro : Bytes) (b x y : Int) (fin : Nat) (rest : Bytes) :
    render intro b x y fin ++ rest
      = intro ++ (60 :: (showInt b ++ (59 :: (showInt x ++ (59 :: (showInt y ++ fin :: rest)))))) := by
  simp [render]

/-- the event and state the model produces for an SGR report -/
def sgrEvent (cfg : Cfg) (st : PState) (b x y : Int) (fin : Nat) : Event :=
  buildMouseEvent cfg (x - 1) (y - 1) ((sgrButtons st b (fin = 109)).1 : Int)

def sgrState (st : PState) (b : Int) (fin : Nat) : PState :=
  { st with buttondn := (sgrButtons st b (fin = 109)).2 }

theorem sgrRun_intro (cfg : Cfg) (st : PState) (intro : Bytes) (hi : IsIntro intro) (r : Bytes) :
    sgrRun cfg st {} (intro ++ r) 0 = sgrRun cfg st { state := 2 } r intro.length := by
  rcases hi with rfl | rfl <;> simp [sgrRun, sgrStepV, sgrKnown, sgrStep]

theorem parseSgr_report (cfg : Cfg) (st : PState) (intro : Bytes) (hi : IsIntro intro) (b x y : Int)
    (hb : Fits b) (hx : Fits x) (hy : Fits y) (fin : Nat) (hf : fin = 77 ∨ fin = 109) (rest : Bytes) :
    parseSgrMouse cfg st (render intro b x y fin ++ rest)
      = .complete (render intro b x y fin).length [sgrEvent cfg st b x y fin] (sgrState st b fin) := by
  rw [render_append, render_length, parseSgrMouse, sgrRun_intro cfg st intro hi,
    sgrRun_body cfg st b x y hb hx hy fin hf rest]
  simp [sgrFinish, sgrEvent, sgrState]

/-- side conditions under which the earlier parsers stay silent on a mouse report: the terminal has mouse support,
the character decoder never produces a rune from the 8-bit introducer 0x9B (true for UTF-8, `decUtf8_silent_9b`) -/
structure MouseOK (cfg : Cfg) : Prop where
  mouse : cfg.mouse = true
  dec : DecSilent cfg.dec 0x9b

theorem intro_silent (cfg : Cfg) (hc : MouseOK cfg) (st : PState) (intro : Bytes) (hi : IsIntro intro) (c : Nat) (t : Bytes)
    (h : c ≠ 73 ∧ c ≠ 79) :
    Silent (parseRune cfg.dec st (intro ++ c :: t)) ∧ Silent (parseFocus st (intro ++ c :: t)) := by
  rcases hi with rfl | rfl
  · exact ⟨Or.inr (parseRune_esc _ _ _), Or.inr (by simp [parseFocus, h])⟩
  · exact ⟨Or.inl (parseRune_silent _ _ _ _ (by decide) hc.dec), Or.inr (by simp [parseFocus])⟩

theorem step1_sgr (cfg : Cfg) (hc : MouseOK cfg) (st : PState) (intro : Bytes) (hi : IsIntro intro) (b x y : Int)
    (hb : Fits b) (hx : Fits x) (hy : Fits y) (fin : Nat) (hf : fin = 77 ∨ fin = 109) (rest : Bytes) (e : Bool)
    (hk : keyMatches cfg.keys (render intro b x y fin ++ rest) = []) :
    step1 cfg st (render intro b x y fin ++ rest) e = .emit [sgrEvent cfg st b x y fin] (sgrState st b fin) rest := by
  have hsgr := parseSgr_report cfg st intro hi b x y hb hx hy fin hf rest
  have hkey := parseFunctionKey_silent cfg.keys st _ hk
  have hx11 : Silent (parseXtermMouse cfg st (render intro b x y fin ++ rest)) := by
    rw [render_append]
    rcases hi with rfl | rfl <;> (right; simp [parseXtermMouse, x11Body])
  have hrf := intro_silent cfg hc st intro hi 60 (showInt b ++ (59 :: (showInt x ++ (59 :: (showInt y ++ fin :: rest)))))
    (by decide)
  rw [← render_append] at hrf
  unfold step1 parsers
  simp only [hc.mouse, if_true]
  refine (tryParsers_silent_hit st _ e (parseSgrMouse cfg) _ _ _ _ hsgr
    [parseRune cfg.dec, parseFunctionKey cfg.keys, parseFocus, parseXtermMouse cfg] (by simp [hrf, hkey, hx11]) 0).trans ?_
  simp

end Tcell.Lemmas.MouseStep
