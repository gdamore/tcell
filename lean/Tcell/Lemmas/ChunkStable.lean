import Tcell.Lemmas.ChunkStep
import Tcell.Lemmas.SgrStrict
/-
C02, configuration layer: the hypothesis `Stable cfg` (prefix-free key table, the decidable table guard `keyGuard`,
decoder laws, repaired clipboard parser when that parser is active), priority stability of every ordered pair of
`parsers cfg`, and the resulting `step1_mono` / `collect_append_stable`.  Also the guard in a form cheap to evaluate
(`seqGuard`).
-/
namespace Tcell.Lemmas.Chunk
open Tcell Tcell.Model Tcell.Lemmas.Collect Tcell.Lemmas.PrefixFree Tcell.Lemmas.MouseSeq Tcell.Lemmas.SgrStrict

def isComplete : Verdict → Bool
  | .complete _ _ _ => true
  | _ => false

theorem isComplete_iff (v : Verdict) : isComplete v = true ↔ ∃ n evs st', v = .complete n evs st' := by
  cases v <;> simp [isComplete]

def allStates : List PState := [⟨false, false⟩, ⟨false, true⟩, ⟨true, false⟩, ⟨true, true⟩]

theorem mem_allStates (st : PState) : st ∈ allStates := by
  rcases st with ⟨_ | _, _ | _⟩ <;> simp [allStates]

/-- the parsers tried after `parseFunctionKey` -/
def laterParsers (cfg : Cfg) : List Parser :=
  [parseFocus] ++ (if cfg.mouse then [parseXtermMouse cfg, parseSgrMouse cfg] else [])
  ++ (if cfg.clipboard then [parseClipboardV cfg.clipFixed] else [])

theorem parsers_eq (cfg : Cfg) : parsers cfg = parseRune cfg.dec :: parseFunctionKey cfg.keys :: laterParsers cfg := by
  simp [parsers, laterParsers]

/-- **the decidable table condition** (linear in the total number of key bytes): every sequence is non-empty and starts
with a 7-bit byte (so `parseRune`, which runs first, never competes with a key), and no later parser completes on a
proper prefix of a sequence (checked on the longest proper prefix; monotonicity covers the shorter ones) – otherwise
that parser would win when the read ends inside the key, and the key when it does not -/
def keyGuard (cfg : Cfg) : Bool :=
  cfg.keys.all fun e =>
    (match e.seq with | c :: _ => Nat.blt c 128 | [] => false) &&
    (bytesEq e.seq [27] || (laterParsers cfg).all fun q => allStates.all fun st => !isComplete (q st e.seq.dropLast))

/-- decoder laws: `bound` (see `DecBound`), and `local4`: whether a rune comes out of an input of four or more bytes
is already decided by those bytes (no character of the charset is longer than four bytes) -/
structure DecLaws (dec : Bytes → DecResult) : Prop where
  bound : DecBound dec
  local4 : ∀ p q r n, 4 ≤ p.length → dec (p ++ q) = .out r n → ∃ r' n', dec p = .out r' n'

/-- **hypotheses of the chunking theorem** -/
structure Stable (cfg : Cfg) : Prop where
  /-- no key sequence is a prefix of another (sorted-adjacent certificate `chainOK`) -/
  pf : PrefixFree cfg.keys
  guard : keyGuard cfg = true
  dec : DecLaws cfg.dec
  /-- the pinned `parseClipboard` is not prefix-monotone; where the parser is active it must be the repaired one -/
  clip : cfg.clipboard = true → cfg.clipFixed = true

theorem guard_entry (cfg : Cfg) (hg : keyGuard cfg = true) (e : KeyEntry) (he : e ∈ cfg.keys) :
    (∃ c t, e.seq = c :: t ∧ c < 128) ∧
    (bytesEq e.seq [27] = false → ∀ q ∈ laterParsers cfg, ∀ st, isComplete (q st e.seq.dropLast) = false) := by
  unfold keyGuard at hg
  rw [List.all_eq_true] at hg
  have h := hg e he
  simp only [Bool.and_eq_true, Bool.or_eq_true] at h
  constructor
  · cases hs : e.seq with
    | nil => rw [hs] at h; simp at h
    | cons c t =>
      rw [hs] at h
      exact ⟨c, t, rfl, blt_iff.mp h.1⟩
  · intro hesc q hq st
    rcases h.2 with h2 | h2
    · rw [hesc] at h2; cases h2
    · rw [List.all_eq_true] at h2
      have h3 := h2 q hq
      rw [List.all_eq_true] at h3
      have h4 := h3 st (mem_allStates st)
      simpa using h4

theorem guard_noEmpty (cfg : Cfg) (hg : keyGuard cfg = true) : NoEmptySeq cfg.keys := by
  intro e he h0
  obtain ⟨⟨c, t, hs, _⟩, _⟩ := guard_entry cfg hg e he
  rw [h0] at hs; cases hs

theorem forall_later (cfg : Cfg) {P : Parser → Prop} (hf : P parseFocus) (hx : P (parseXtermMouse cfg))
    (hsg : P (parseSgrMouse cfg)) (hc : cfg.clipboard = true → P (parseClipboardV cfg.clipFixed)) :
    ∀ q ∈ laterParsers cfg, P q := by
  intro q hq
  unfold laterParsers at hq
  simp only [List.mem_append, List.mem_cons, List.mem_ite_nil_right, List.not_mem_nil, or_false] at hq
  rcases hq with (rfl | ⟨_, (rfl | rfl)⟩) | ⟨h, rfl⟩
  · exact hf
  · exact hx
  · exact hsg
  · exact hc h

theorem later_mono (cfg : Cfg) (hs : Stable cfg) : ∀ q ∈ laterParsers cfg, Mono q :=
  forall_later cfg mono_parseFocus (mono_parseXtermMouse cfg) (mono_parseSgrMouse cfg)
    fun hc => by rw [hs.clip hc]; exact mono_parseClipboardF

theorem parsers_mono (cfg : Cfg) (hs : Stable cfg) : ∀ p ∈ parsers cfg, Mono p := by
  rw [parsers_eq]
  simp only [List.mem_cons, forall_eq_or_imp]
  exact ⟨mono_parseRune cfg.dec hs.dec.bound, mono_parseFunctionKey cfg.keys hs.pf (guard_noEmpty cfg hs.guard),
    later_mono cfg hs⟩

theorem prio_rune (dec : Bytes → DecResult) (hd : DecLaws dec) (st : PState) (a b : Bytes) (q : Parser)
    (hq : ∀ c t n evs st', q st (c :: t) = .complete n evs st' → c < 128 ∨ 4 ≤ (c :: t).length) :
    Prio st a b (parseRune dec) q := by
  rintro hp ⟨n, evs, st', hc⟩
  obtain ⟨c, t, rfl, hc128, hloop⟩ := parseRune_part_head dec st a hp
  have hlen : 4 ≤ (c :: t).length := (hq c t n evs st' hc).elim (fun h => by omega) id
  left
  rw [List.cons_append, parseRune_high dec st c _ hc128]
  -- no prefix of `c :: t` gives a rune; by `local4` neither does a longer prefix of `c :: t ++ b`
  rcases runeLoop_spec dec st (c :: t) (c :: t).length 1 with ⟨_, hnone⟩ | ⟨_, _, _, _, _, _, _, _, h4⟩
  · rcases runeLoop_spec dec st (c :: (t ++ b)) ((t ++ b).length + 1) 1 with ⟨hpart, _⟩ | ⟨l, r, k, _, _, hl1, _, hout, _⟩
    · exact hpart
    · exfalso
      rw [← List.cons_append] at hout
      by_cases hle : l ≤ (c :: t).length
      · rw [List.take_append_of_le_length hle] at hout
        exact hnone l hl1 (by omega) r k hout
      · rw [List.take_append, List.take_of_length_le (by omega)] at hout
        obtain ⟨r', n', hout'⟩ := hd.local4 _ _ _ _ hlen hout
        exact hnone (c :: t).length (by omega) (by omega) r' n' (by rwa [List.take_length])
  · rw [h4] at hloop; cases hloop

theorem parseFunctionKey_part_inv (T : KeyTable) (st : PState) (a : Bytes) (h : parseFunctionKey T st a = .part) :
    ∃ e ∈ T, bytesEq e.seq [27] = false ∧ ∃ r, r ≠ [] ∧ e.seq = a ++ r := by
  unfold parseFunctionKey at h
  split at h
  · rename_i hm
    split at h
    · rename_i hpart
      obtain ⟨e, he, hesc, r, hr⟩ := keyPartial_iff.mp hpart
      refine ⟨e, he, hesc, r, ?_, hr.symm⟩
      rintro rfl
      rw [List.append_nil] at hr
      subst hr
      exact List.not_mem_nil (hm ▸ mem_keyMatches.mpr ⟨he, hesc, List.prefix_refl _⟩)
    · cases h
  · unfold keyEvent at h; cases h
  · cases h

/-- `parseFunctionKey` against a later parser: excluded outright by the table guard -/
theorem prio_key (cfg : Cfg) (hg : keyGuard cfg = true) (st : PState) (a b : Bytes) (q : Parser)
    (hq : q ∈ laterParsers cfg) (hm : Mono q) : Prio st a b (parseFunctionKey cfg.keys) q := by
  rintro hp ⟨n, evs, st', hc⟩
  exfalso
  obtain ⟨e, he, hesc, r, hr0, hr⟩ := parseFunctionKey_part_inv cfg.keys st a hp
  have hno := (guard_entry cfg hg e he).2 hesc q hq st
  rw [hr, List.dropLast_append_of_ne_nil hr0, hm.complete st a r.dropLast n evs st' hc] at hno
  cases hno

theorem clipV_short (f : Bool) (st : PState) (a : Bytes) (hl : a.length ≤ 7) (n : Nat) (evs : List Event) (st' : PState) :
    parseClipboardV f st a ≠ .complete n evs st' := by
  rw [parseClipboardV_short f st a hl]
  split <;> nofun

theorem clipF_complete_head (st : PState) (a : Bytes) (n : Nat) (evs : List Event) (st' : PState)
    (h : parseClipboardF st a = .complete n evs st') : ∃ t, a = 27 :: 93 :: 53 :: t := by
  obtain ⟨_, hp, _⟩ := parseClipboardF_complete_inv st a n evs st' h
  obtain ⟨r, rfl⟩ := hasPrefix_iff.mp hp
  exact ⟨[50, 59, 99, 59] ++ r, rfl⟩

theorem later_min (cfg : Cfg) (st : PState) (a : Bytes) :
    ∀ q ∈ laterParsers cfg, ∀ n evs st', q st a = .complete n evs st' → 3 ≤ a.length :=
  forall_later cfg
    (fun n evs st' h => by obtain ⟨_, _, rfl, _⟩ := parseFocus_complete_inv st a n evs st' h; simp)
    (fun n evs st' h => by
      have := (mono_parseXtermMouse cfg).bound st a n evs st' h
      rcases parseXtermMouse_complete_inv cfg st a n evs st' h with ⟨_, _, _, _, _, hn⟩ | ⟨_, _, _, _, _, hn⟩ <;> omega)
    (fun n evs st' h => by have := parseSgrMouse_min cfg st a n evs st' h; omega)
    (fun _ n evs st' h => by
      have := mt (clipV_short _ st a · n evs st') (not_not_intro h)
      omega)

theorem later_shape (cfg : Cfg) (hs : Stable cfg) (st : PState) : ∀ q ∈ laterParsers cfg, ∀ c t n evs st',
    q st (c :: t) = .complete n evs st' → c < 128 ∨ 4 ≤ (c :: t).length :=
  forall_later cfg
    (fun c t n evs st' h => by
      obtain ⟨_, _, he, _⟩ := parseFocus_complete_inv st _ n evs st' h
      injection he with h1; left; omega)
    (fun c t n evs st' h => by
      have := (mono_parseXtermMouse cfg).bound st _ n evs st' h
      rcases parseXtermMouse_complete_inv cfg st _ n evs st' h with ⟨_, _, _, _, _, hn⟩ | ⟨_, _, _, _, _, hn⟩ <;> (right; omega))
    (fun c t n evs st' h => by have := parseSgrMouse_min cfg st _ n evs st' h; right; omega)
    (fun hc c t n evs st' h => by
      rw [hs.clip hc] at h
      obtain ⟨_, he⟩ := clipF_complete_head st _ n evs st' h
      injection he with h1; left; omega)

theorem later_prio (cfg : Cfg) (hs : Stable cfg) (st : PState) (a b : Bytes) (ha : a ≠ []) :
    (laterParsers cfg).Pairwise (Prio st a b) := by
  have focus : ∀ q ∈ laterParsers cfg, Prio st a b parseFocus q := by
    rintro q hq hp ⟨n, evs, st', hc⟩
    have := later_min cfg st a q hq n evs st' hc
    rcases parseFocus_part_inv st a hp with rfl | rfl | rfl <;> simp at this
  have x11_sgr : Prio st a b (parseXtermMouse cfg) (parseSgrMouse cfg) := by
    rintro hp ⟨n, evs, st', hc⟩
    rcases parseXtermMouse_part_inv cfg st a hp with rfl | rfl | rfl | ⟨t, rfl⟩ | rfl | ⟨t, rfl⟩
    · exact absurd rfl ha
    all_goals simp [parseSgrMouse, sgrRun, sgrStepV, sgrKnown, sgrStep] at hc
  have x11_clip : Prio st a b (parseXtermMouse cfg) parseClipboardF := by
    rintro hp ⟨n, evs, st', hc⟩
    obtain ⟨t, rfl⟩ := clipF_complete_head st a n evs st' hc
    simp [parseXtermMouse] at hp
  have sgr_clip : Prio st a b (parseSgrMouse cfg) parseClipboardF := by
    rintro hp ⟨n, evs, st', hc⟩
    obtain ⟨t, rfl⟩ := clipF_complete_head st a n evs st' hc
    cases hst : cfg.sgrStrict <;> simp [parseSgrMouse, sgrRun, sgrStepV, sgrKnown, sgrStep, inNum, hst] at hp
  have hfocus := focus
  unfold laterParsers at hfocus ⊢
  cases hm : cfg.mouse <;> cases hc : cfg.clipboard <;>
    simp only [hm, hc, hs.clip, parseClipboardV, Bool.false_eq_true, if_false, if_true, List.append_nil, List.nil_append,
      List.cons_append, List.pairwise_cons, List.mem_cons, List.not_mem_nil, or_false, forall_eq_or_imp, forall_eq,
      List.Pairwise.nil, and_true, false_imp_iff, implies_true] at hfocus ⊢
  · exact hfocus.2
  · exact ⟨hfocus.2, x11_sgr⟩
  · exact ⟨hfocus.2, ⟨x11_sgr, x11_clip⟩, sgr_clip⟩

theorem parsers_prio (cfg : Cfg) (hs : Stable cfg) (st : PState) (a b : Bytes) (ha : a ≠ []) :
    (parsers cfg).Pairwise (Prio st a b) := by
  have shape_key : ∀ c t n evs st', parseFunctionKey cfg.keys st (c :: t) = .complete n evs st' →
      c < 128 ∨ 4 ≤ (c :: t).length := by
    intro c t n evs st' h
    obtain ⟨e, hm, _⟩ := parseFunctionKey_complete_inv cfg.keys st _ n evs st' h
    obtain ⟨heT, _, hp⟩ := mem_keyMatches.mp (hm ▸ List.mem_cons_self : e ∈ keyMatches cfg.keys (c :: t))
    obtain ⟨⟨c', t', hseq, hlt⟩, _⟩ := guard_entry cfg hs.guard e heT
    rw [hseq, List.cons_prefix_cons] at hp
    left; omega
  rw [parsers_eq]
  simp only [List.pairwise_cons, List.mem_cons, forall_eq_or_imp]
  exact ⟨⟨prio_rune cfg.dec hs.dec st a b _ shape_key,
      fun q hq => prio_rune cfg.dec hs.dec st a b q (later_shape cfg hs st q hq)⟩,
    fun q hq => prio_key cfg hs.guard st a b q hq (later_mono cfg hs q hq), later_prio cfg hs st a b ha⟩

theorem step1_mono (cfg : Cfg) (hs : Stable cfg) : StepMono cfg := by
  intro st a b e evs st' rest ha h
  unfold step1 at h ⊢
  refine tryParsers_mono st a b ha (parsers cfg) (parsers_mono cfg hs) (parsers_prio cfg hs st a b ha) ?_ evs st' rest e h
  rintro rfl
  rw [parsers_eq]
  simp [anyPart, laterParsers, parseFocus]

theorem progress_of_stable (cfg : Cfg) (hs : Stable cfg) : Progress cfg := progress_of_mono cfg (parsers_mono cfg hs)

theorem collect_append_stable (cfg : Cfg) (hs : Stable cfg) (st : PState) (a b : Bytes) (e : Bool) :
    collect cfg st (a ++ b) e = feed2 cfg st a b e :=
  collect_append_of_step cfg (progress_of_stable cfg hs) (step1_mono cfg hs) b e a.length a st (Nat.le_refl _)

theorem parseRune_ne_amb (dec : Bytes → DecResult) (st : PState) (b : Bytes) : parseRune dec st b ≠ .ambiguous := by
  rcases b with _ | ⟨c, t⟩
  · simp [parseRune]
  · by_cases hc : c < 128
    · rw [parseRune_low dec st c t hc]
      simp only [parseRune]
      split <;> simp
    · rw [parseRune_high dec st c t (by omega)]
      rcases runeLoop_spec dec st (c :: t) (t.length + 1) 1 with ⟨h, _⟩ | ⟨_, _, _, _, _, _, _, _, h⟩ <;> rw [h] <;> nofun

theorem parseFocus_ne_amb (st : PState) (b : Bytes) : parseFocus st b ≠ .ambiguous := by
  intro h
  unfold parseFocus at h
  repeat' split at h
  all_goals cases h

theorem parseXtermMouse_ne_amb (cfg : Cfg) (st : PState) (b : Bytes) : parseXtermMouse cfg st b ≠ .ambiguous := by
  intro h
  unfold parseXtermMouse x11Body at h
  repeat' split at h
  all_goals first
    | cases h
    | exact sgrFinish_ne_amb _ _ _ _ _ _ _ h

theorem clipLoopF_ne_amb (st : PState) : ∀ (r : Bytes) (s : Nat) (seen : Bytes), clipLoopF st s seen r ≠ .ambiguous := by
  intro r
  induction r with
  | nil => intro s seen h; cases s <;> simp [clipLoopF] at h
  | cons c rest ih =>
    intro s seen h
    cases s with
    | zero =>
      unfold clipLoopF at h
      by_cases h1 : isB64 c = true
      · simp only [h1, if_true] at h; exact ih 0 _ h
      · by_cases h2 : c = 27
        · subst h2; exact ih 1 _ h
        · simp only [h1, h2, if_false] at h
          by_cases h3 : c = 7 <;> simp [h3] at h
    | succ k =>
      unfold clipLoopF at h
      by_cases h3 : c = 92 <;> simp [h3] at h

theorem parseClipboardF_ne_amb (st : PState) (b : Bytes) : parseClipboardF st b ≠ .ambiguous := by
  intro h
  unfold parseClipboardF at h
  split at h
  · split at h <;> cases h
  · split at h
    · cases h
    · exact clipLoopF_ne_amb st _ 0 [] h

theorem step1_not_ambiguous (cfg : Cfg) (hs : Stable cfg) (st : PState) (b : Bytes) (e : Bool) :
    step1 cfg st b e ≠ .ambiguous := by
  have hall : ∀ p ∈ parsers cfg, p st b ≠ .ambiguous := by
    rw [parsers_eq]
    simp only [List.mem_cons, forall_eq_or_imp]
    exact ⟨parseRune_ne_amb _ _ _, parseFunctionKey_not_ambiguous cfg.keys hs.pf st b,
      forall_later cfg (parseFocus_ne_amb st b) (parseXtermMouse_ne_amb cfg st b) (sgrRun_ne_amb cfg st b {} 0)
        fun hc => by rw [hs.clip hc]; exact parseClipboardF_ne_amb st b⟩
  rcases step1_cases cfg st b e with ⟨_, _, _, _, _, _, h⟩ | ⟨⟨q, hq, hqa⟩, _⟩ | ⟨_, _, h⟩ | ⟨_, h⟩
  · rw [h]; nofun
  · exact absurd hqa (hall q hq)
  · rw [h]; nofun
  · rw [h]; nofun

theorem isComplete_sgrFinish (cfg : Cfg) (st : PState) (x y btn : Int) (rel : Bool) (k : Nat) :
    isComplete (sgrFinish cfg st x y btn rel k) = true := by simp [sgrFinish, isComplete]

theorem isComplete_x11Body (cfg cfg' : Cfg) (st : PState) (k : Nat) (r : Bytes) :
    isComplete (x11Body cfg st k r) = isComplete (x11Body cfg' st k r) := by
  rcases r with _ | ⟨m, r2⟩
  · rfl
  · by_cases hm : m = 77
    · subst hm
      rcases r2 with _ | ⟨cb, _ | ⟨cx, _ | ⟨cy, t⟩⟩⟩
      · rfl
      · rfl
      · rfl
      · cases h1 : cfg.x11Fixed <;> cases h2 : cfg'.x11Fixed <;> simp [x11Body, h1, h2, isComplete, sgrFinish]
    · simp [x11Body, hm]

theorem isComplete_xterm (cfg cfg' : Cfg) (st : PState) (a : Bytes) :
    isComplete (parseXtermMouse cfg st a) = isComplete (parseXtermMouse cfg' st a) := by
  rcases parseXtermMouse_cases a with rfl | rfl | ⟨r, rfl⟩ | ⟨r, rfl⟩ | hr
  · rfl
  · rfl
  · rw [parseXtermMouse_esc, parseXtermMouse_esc]; exact isComplete_x11Body cfg cfg' st 2 r
  · rw [parseXtermMouse_csi8, parseXtermMouse_csi8]; exact isComplete_x11Body cfg cfg' st 1 r
  · rw [← List.append_nil a, hr, hr]

theorem isComplete_sgrRun (cfg cfg' : Cfg) (hst : cfg'.sgrStrict = cfg.sgrStrict) (st : PState) : ∀ (r : Bytes) (s : SgrSt) (i : Nat),
    isComplete (sgrRun cfg st s r i) = isComplete (sgrRun cfg' st s r i) := by
  intro r
  induction r with
  | nil => intro s i; rfl
  | cons c rest ih =>
    intro s i
    unfold sgrRun
    rw [hst]
    cases hs : sgrStepV cfg.sgrStrict s c with
    | rej => rfl
    | cont s' => exact ih s' (i + 1)
    | fin x y btn rel => simp [isComplete_sgrFinish]

theorem keyGuard_congr (cfg cfg' : Cfg) (hk : cfg'.keys = cfg.keys) (hm : cfg'.mouse = cfg.mouse)
    (hc : cfg'.clipboard = cfg.clipboard) (hf : cfg'.clipFixed = cfg.clipFixed) (hst : cfg'.sgrStrict = cfg.sgrStrict) :
    keyGuard cfg' = keyGuard cfg := by
  have hl : ∀ s : Bytes, ((laterParsers cfg').all fun q => allStates.all fun st => !isComplete (q st s))
      = ((laterParsers cfg).all fun q => allStates.all fun st => !isComplete (q st s)) := by
    intro s
    unfold laterParsers
    rw [hm, hc, hf]
    cases cfg.mouse <;> cases cfg.clipboard <;>
      simp [isComplete_xterm cfg' cfg, parseSgrMouse, isComplete_sgrRun cfg' cfg hst.symm]
  unfold keyGuard
  rw [hk]
  simp only [hl]

/-- no parser after `parseFunctionKey` completes on such a buffer: it does not start like a focus or X11 report, has no
`<` (every SGR report has one, `sgrRun_lt`), and is too short for an OSC 52 reply -/
def plainPrefix (d : Bytes) : Bool :=
  !hasPrefix d [27, 91, 73] && !hasPrefix d [27, 91, 79] && !hasPrefix d [27, 91, 77] && !hasPrefix d [0x9b, 77]
    && !d.contains 60 && Nat.ble d.length 7

theorem later_plain (cfg : Cfg) (d : Bytes) (hd : plainPrefix d = true) :
    ∀ q ∈ laterParsers cfg, ∀ st, isComplete (q st d) = false := by
  simp only [plainPrefix, Bool.and_eq_true, Bool.not_eq_true'] at hd
  obtain ⟨⟨⟨⟨⟨hI, hO⟩, hM⟩, h9⟩, hlt⟩, hlen⟩ := hd
  intro q hq st
  cases hc : isComplete (q st d) with
  | false => rfl
  | true =>
    exfalso
    obtain ⟨n, evs, st', hv⟩ := (isComplete_iff _).mp hc
    unfold laterParsers at hq
    simp only [List.mem_append, List.mem_cons, List.mem_ite_nil_right, List.not_mem_nil, or_false] at hq
    rcases hq with (rfl | ⟨_, (rfl | rfl)⟩) | ⟨_, rfl⟩
    · obtain ⟨c2, r, rfl, h2, _⟩ := parseFocus_complete_inv st d n evs st' hv
      rcases h2 with rfl | rfl
      · simp [hasPrefix] at hI
      · simp [hasPrefix] at hO
    · rcases parseXtermMouse_complete_inv cfg st d n evs st' hv with ⟨cb, cx, cy, t, rfl, _⟩ | ⟨cb, cx, cy, t, rfl, _⟩
      · simp [hasPrefix] at hM
      · simp [hasPrefix] at h9
    · have := sgrRun_lt cfg st n evs st' d {} 0 (by decide) hv
      rw [List.contains_iff_mem.mpr this] at hlt; cases hlt
    · exact clipV_short _ st d (Nat.le_of_ble_eq_true hlen) n evs st' hv

/-- the guard on one key sequence, with `plainPrefix` in place of running the parsers -/
def seqGuard (s : Bytes) : Bool :=
  (match s with | c :: _ => Nat.blt c 128 | [] => false) && (bytesEq s [27] || plainPrefix s.dropLast)

theorem keyGuard_of_seqGuard (cfg : Cfg) (h : cfg.keys.all (fun e => seqGuard e.seq) = true) : keyGuard cfg = true := by
  unfold keyGuard
  rw [List.all_eq_true] at h ⊢
  intro e he
  have := h e he
  simp only [seqGuard, Bool.and_eq_true, Bool.or_eq_true] at this ⊢
  refine ⟨this.1, this.2.imp id fun hp => ?_⟩
  rw [List.all_eq_true]; intro q hq
  rw [List.all_eq_true]; intro st _
  rw [later_plain cfg _ hp q hq st]; rfl

end Tcell.Lemmas.Chunk
