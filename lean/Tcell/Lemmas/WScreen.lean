/-
Lemmas about the wScreen model (C19): effect of `drawCell`, monotonicity of dirtiness under drawing, the draw
walk, and the invariant that ties the page grid rebuilt from the JS calls to C08's specification ghost.
-/
import Tcell.Model.WScreen
import Tcell.Lemmas.Cell
import Tcell.Props.C08
namespace Tcell.WScreen
open Tcell Tcell.Buf

variable (p : Pal) (scr : Style)

theorem drawCell_fst (b : Buf) (x y : Int) :
    (drawCell p scr b x y).1 = if b.dirty x y then b.setDirty x y false else b := by
  unfold drawCell; split <;> rfl

theorem drawCell_calls (b : Buf) (x y : Int) :
    (drawCell p scr b x y).2.1 = if b.dirty x y then [JsCall.drawCell x y (view p scr b x y)] else [] := by
  unfold drawCell; split <;> rfl

theorem drawCell_dirtyLe (b : Buf) (x y : Int) : Props.C08.DirtyLe (drawCell p scr b x y).1 b := by
  rw [drawCell_fst]; split
  · exact Props.C08.setDirty_false_dirtyLe b x y
  · exact .refl b

theorem drawCell_clean (b : Buf) (x y : Int) : (drawCell p scr b x y).1.dirty x y = false := by
  rw [drawCell_fst]; split
  · exact Props.C08.clean_after_setDirty_false b x y
  · rename_i h; simpa using h

/-! ### frame: only cells dirty at entry are drawn -/

theorem drawRow_frame (w y : Int) : ∀ (fuel : Nat) (x : Int) (b : Buf),
    Props.C08.DirtyLe (drawRow p scr w y fuel x b).1 b ∧
    ∀ c ∈ (drawRow p scr w y fuel x b).2, ∃ x' pc, c = JsCall.drawCell x' y pc ∧ b.dirty x' y = true := by
  intro fuel
  induction fuel with
  | zero => intro x b; exact ⟨.refl b, fun c (h : c ∈ []) => nomatch h⟩
  | succ n ih =>
    intro x b
    unfold drawRow
    split
    · obtain ⟨hle, hc⟩ := ih (x + (drawCell p scr b x y).2.2) (drawCell p scr b x y).1
      refine ⟨hle.trans (drawCell_dirtyLe p scr b x y), fun c hcm => ?_⟩
      rcases List.mem_append.1 hcm with h1 | h2
      · rw [drawCell_calls] at h1
        split at h1
        · exact ⟨x, _, List.mem_singleton.1 h1, ‹_›⟩
        · cases h1
      · obtain ⟨x', pc, he, hd⟩ := hc c h2
        exact ⟨x', pc, he, drawCell_dirtyLe p scr b x y _ _ hd⟩
    · exact ⟨.refl b, fun c (h : c ∈ []) => nomatch h⟩

theorem drawRows_frame (w : Int) : ∀ (n : Nat) (y : Int) (b : Buf),
    Props.C08.DirtyLe (drawRows p scr w n y b).1 b ∧
    ∀ c ∈ (drawRows p scr w n y b).2, ∃ x' y' pc, c = JsCall.drawCell x' y' pc ∧ b.dirty x' y' = true := by
  intro n
  induction n with
  | zero => intro y b; exact ⟨.refl b, fun c (h : c ∈ []) => nomatch h⟩
  | succ n ih =>
    intro y b
    unfold drawRows
    obtain ⟨hle1, hc1⟩ := drawRow_frame p scr w y w.toNat 0 b
    obtain ⟨hle2, hc2⟩ := ih (y + 1) (drawRow p scr w y w.toNat 0 b).1
    refine ⟨hle2.trans hle1, fun c hcm => ?_⟩
    rcases List.mem_append.1 hcm with h1 | h2
    · obtain ⟨x', pc, he, hd⟩ := hc1 c h1
      exact ⟨x', y, pc, he, hd⟩
    · obtain ⟨x', y', pc, he, hd⟩ := hc2 c h2
      exact ⟨x', y', pc, he, hle1 _ _ hd⟩

/-- `Props.C08.DirtyLe`, spelt out so that `show_dirtyLe` can be read without the buffer file; the two unfold to the same
proposition, which is all its proof uses to pass from one to the other -/
def DirtyLe (b' b : Buf) : Prop := ∀ i j, b'.dirty i j = true → b.dirty i j = true

theorem show_dirtyLe (s : WS) : DirtyLe (WScreen.show p s).1.cells s.cells := by
  unfold WScreen.show draw
  exact (drawRows_frame p s.style s.w s.h.toNat 0 s.cells).1

/-! ### the walk: every position the loops stop at is clean afterwards -/

/-- the columns the inner loop stops at (same recursion as `drawRow`) -/
def rowVisits (w y : Int) : Nat → Int → Buf → List Int
  | 0, _, _ => []
  | fuel + 1, x, b =>
    if x < w then x :: rowVisits w y fuel (x + (drawCell p scr b x y).2.2) (drawCell p scr b x y).1 else []

/-- the positions the two loops stop at (same recursion as `drawRows`) -/
def visits (w : Int) : Nat → Int → Buf → List (Int × Int)
  | 0, _, _ => []
  | n + 1, y, b =>
    (rowVisits p scr w y w.toNat 0 b).map (fun x => (x, y)) ++ visits w n (y + 1) (drawRow p scr w y w.toNat 0 b).1

theorem rowVisits_clean (w y : Int) : ∀ (fuel : Nat) (x : Int) (b : Buf),
    ∀ x' ∈ rowVisits p scr w y fuel x b, (drawRow p scr w y fuel x b).1.dirty x' y = false := by
  intro fuel
  induction fuel with
  | zero => intro x b x' h; cases h
  | succ n ih =>
    intro x b x' h
    unfold rowVisits at h
    unfold drawRow
    split at h
    · rename_i hx
      rw [if_pos hx]
      rcases List.mem_cons.1 h with rfl | h2
      · exact (drawRow_frame p scr w y n _ _).1.clean (drawCell_clean p scr b x' y)
      · exact ih _ _ x' h2
    · cases h

/-- the main rune as the page shows it (`GetContent` turns anything below ' ' into a blank) -/
def shownMain (m : Rune) : Rune := if m < 32 then 32 else m

def renderRaw (c : Content) : PageCell := render p scr (shownMain c.1) c.2.1 c.2.2

/-- a cell whose main rune is above ' ' has a non-zero width (holds on every reachable buffer as long as no
zero-width rune is stored as the *main* rune of a cell) -/
def W0c (c : Cell) : Prop := c.currMain > 32 → c.width ≠ 0

theorem view_eq_renderRaw (b : Buf) (x y : Int) (hr : b.inRange x y) (hw : W0c (b.cells x y)) :
    view p scr b x y = renderRaw p scr (b.cells x y).content := by
  unfold view getContent renderRaw Cell.content shownMain
  rw [if_pos hr]
  by_cases h2 : (b.cells x y).currMain < 32
  · rw [if_pos (.inr h2), if_pos h2]
  · rw [if_neg h2]
    by_cases h0 : (b.cells x y).width = 0
    · -- width 0 and not below ' ': the rune is ' ' itself
      have : ¬ (b.cells x y).currMain > 32 := fun hh => hw hh h0
      rw [if_pos (.inl h0), show (b.cells x y).currMain = 32 by simp only [Rune] at *; omega]
    · rw [if_neg (fun h => h.elim h0 h2)]

theorem renderRaw_markClean (c : Cell) : renderRaw p scr c.markClean.content = renderRaw p scr c.content := by
  unfold renderRaw Cell.content Cell.markClean shownMain
  by_cases h : c.currMain = 0 <;> simp [h]

theorem W0c_closed : Cell.Closed W0c where
  fresh := nofun
  carry _ h := h
  markDirty _ h := h
  markClean c h := by
    unfold W0c at *
    simp only [Cell.markClean_currMain, Cell.markClean_width]
    intro hh; apply h; split at hh <;> (simp only [Rune] at *; omega)
  setLock _ _ h := h

/-- the page shows the ghost: whatever C08's specification ghost remembers as "content when last marked clean" is
what the page grid holds for that cell -/
def PG (g : Ghost) (pg : Page) : Prop := ∀ x y c, g x y = some c → pg x y = some (renderRaw p scr c)

def PInv (b : Buf) (pg : Page) : Prop := (∀ x y, W0c (b.cells x y)) ∧ ∃ g, Props.C08.GhostInv b g ∧ PG p scr g pg

theorem pinv_of_lastMain (b : Buf) (pg : Page) (hw : ∀ x y, W0c (b.cells x y)) (h : ∀ x y, (b.cells x y).lastMain = 0) :
    PInv p scr b pg :=
  ⟨hw, Ghost.none, Props.C08.ghostInv_of_lastMain h _, fun _ _ _ => nofun⟩

/-- a quiet step keeps the page in step with the ghost without a call into JavaScript -/
theorem PInv.of_quiet {b b' : Buf} {pg : Page} (h : PInv p scr b pg) (hq : Props.C08.QuietStep W0c b b') :
    PInv p scr b' pg := by
  obtain ⟨hw, g, hg, hpg⟩ := h
  obtain ⟨g', hg', le⟩ := hq.ghost g hg
  exact ⟨hq.cells hw, g', hg', fun i j c hc => hpg i j c (le i j c hc)⟩

theorem applyAll_append (pg : Page) (a b : List JsCall) : pg.applyAll (a ++ b) = (pg.applyAll a).applyAll b := by
  unfold Page.applyAll; rw [List.foldl_append]

/-- the one step where the ghost learns: the cell is marked clean and its page cell becomes its `view` -/
theorem drawCell_inv (b : Buf) (pg : Page) (x y : Int) (h : PInv p scr b pg) :
    PInv p scr (drawCell p scr b x y).1 (pg.applyAll (drawCell p scr b x y).2.1) := by
  rw [drawCell_fst, drawCell_calls]
  by_cases hd : b.dirty x y = true
  · rw [if_pos hd, if_pos hd]
    have hr := dirty_inRange hd
    obtain ⟨hw, g, hg, hpg⟩ := h
    refine ⟨applyV_cells W0c_closed false (fun _ => 0) b (.setDirty x y false) (fun _ => id) hw,
      g.step b (b.setDirty x y false) (.setDirty x y false),
      Props.C08.ghostInv_step (fun _ => 0) b g (.setDirty x y false) hg, fun i j c hc => ?_⟩
    rw [Ghost.step_setDirty] at hc
    show (if i = x ∧ j = y then _ else pg i j) = _
    by_cases hij : i = x ∧ j = y
    · rw [if_pos ⟨hij.1, hij.2, hr⟩] at hc
      obtain ⟨rfl, rfl⟩ := hij
      cases hc
      rw [if_pos ⟨rfl, rfl⟩, setDirty_false_cells, if_pos ⟨rfl, rfl, hr⟩, renderRaw_markClean,
        view_eq_renderRaw p scr b i j hr (hw i j)]
    · rw [if_neg (fun hh => hij ⟨hh.1, hh.2.1⟩)] at hc
      rw [if_neg hij]
      exact hpg i j c hc
  · rw [if_neg hd, if_neg hd]
    exact h

theorem drawRow_inv (w y : Int) : ∀ (fuel : Nat) (x : Int) (b : Buf) (pg : Page), PInv p scr b pg →
    PInv p scr (drawRow p scr w y fuel x b).1 (pg.applyAll (drawRow p scr w y fuel x b).2)
  | 0, _, _, _, h => h
  | n + 1, x, b, pg, h => by
    unfold drawRow
    split
    · rw [applyAll_append]
      exact drawRow_inv w y n _ _ _ (drawCell_inv p scr b pg x y h)
    · exact h

theorem drawRows_inv (w : Int) : ∀ (n : Nat) (y : Int) (b : Buf) (pg : Page), PInv p scr b pg →
    PInv p scr (drawRows p scr w n y b).1 (pg.applyAll (drawRows p scr w n y b).2)
  | 0, _, _, _, h => h
  | n + 1, y, b, pg, h => by
    unfold drawRows
    rw [applyAll_append]
    exact drawRows_inv w n _ _ _ (drawRow_inv p scr w y w.toNat 0 b pg h)

def SInv (sp : WS × Page) : Prop := sp.1.style = scr ∧ sp.1.clear = false ∧ PInv p scr sp.1.cells sp.2

theorem stepW_inv (fz : Bool) (rw : Rune → Int) (sp : WS × Page) (op : WOp) (hok : op.ok rw) (h : SInv p scr sp) :
    SInv p scr (stepW p fz rw sp op) := by
  obtain ⟨s, pg⟩ := sp
  obtain ⟨hst, hcl, hp⟩ := h
  simp only at hst hcl hp
  subst hst
  have quiet (op : CbOp) (hq : op.Quiet) (hw : ∀ c, W0c c → W0c (op.write fz rw c)) :=
    hp.of_quiet p _ (Props.C08.quiet_applyV rw W0c_closed fz s.cells hq hw)
  cases op with
  | setContent x y m c st =>
    exact ⟨rfl, hcl, quiet (.setContent x y m c st) trivial fun c h =>
      Cell.store_width_rune (Q := fun w m => m > 32 → w ≠ 0) rw c m _ st (fun hm => hok.resolve_left (Int.not_le.2 hm)) h⟩
  | fill r st => exact ⟨rfl, hcl, quiet (.fill r st) trivial fun _ _ _ => (by decide : (1 : Int) ≠ 0)⟩
  | lockCell x y => exact ⟨rfl, hcl, quiet (.lockCell x y) trivial fun _ => id⟩
  | unlockCell x y => exact ⟨rfl, hcl, quiet (.unlockCell x y) trivial fun _ => id⟩
  | lockRegion x y w hh lock =>
    exact ⟨rfl, hcl, hp.of_quiet p _ (Props.C08.quiet_lockRowsG W0c_closed _ x y w lock hh.toNat)⟩
  | present =>
    have := drawRows_inv p s.style s.w s.h.toNat 0 s.cells pg hp
    exact ⟨rfl, rfl, by simpa [stepW, WScreen.show, draw, hcl, applyAll_append, Page.applyAll, Page.apply] using this⟩
  | sync =>
    have := drawRows_inv p s.style s.w s.h.toNat 0 s.cells.invalidate Page.blank
      (pinv_of_lastMain p _ _ _ (fun x y => W0c_closed.markDirty _ (hp.1 x y)) fun _ _ => rfl)
    exact ⟨rfl, rfl, by simpa [stepW, sync, draw, applyAll_append, Page.applyAll, Page.apply] using this⟩
  | setSize w hh =>
    simp only [stepW, setSize]
    split
    · exact ⟨rfl, hcl, hp⟩
    · exact ⟨rfl, hcl, pinv_of_lastMain p _ (s.cells.invalidate.resize w hh) _
        (applyV_cells W0c_closed fz rw s.cells.invalidate (.resize w hh) (fun _ => id) fun x y => W0c_closed.markDirty _ (hp.1 x y))
        (Props.C08.resize_lastMain _ w hh fun _ _ _ => rfl)⟩

theorem init_inv : SInv p ({} : Style) (WS.init, Page.blank) :=
  ⟨rfl, rfl, pinv_of_lastMain p _ (Buf.empty.resize 80 24) _
    (applyV_cells W0c_closed false (fun _ => 0) {} (.resize 80 24) (fun _ => id) fun _ _ => nofun)
    (Props.C08.resize_lastMain _ 80 24 fun _ _ _ => rfl)⟩

theorem runW_inv (fz : Bool) (rw : Rune → Int) : ∀ (ops : List WOp) (sp : WS × Page), (∀ op ∈ ops, op.ok rw) → SInv p scr sp →
    SInv p scr (runW p fz rw sp ops)
  | [], _, _, h => h
  | op :: ops, sp, hok, h =>
    runW_inv fz rw ops _ (fun o ho => hok o (List.mem_cons_of_mem _ ho))
      (stepW_inv p scr fz rw sp op (hok op (List.mem_cons_self ..)) h)

theorem runW_append (fz : Bool) (rw : Rune → Int) (sp : WS × Page) (ops : List WOp) (op : WOp) :
    runW p fz rw sp (ops ++ [op]) = stepW p fz rw (runW p fz rw sp ops) op := by
  simp [runW, List.foldl_append]

end Tcell.WScreen
