import Tcell.Model.Pipeline
/- The pipeline transition system (C05, C06): `step` as the relation `Step`, induction over runs, how `lossy` changes, the
shutdown bookkeeping invariants. -/
namespace Tcell.Model.Pipeline
variable {Ev PSt : Type}

@[simp] theorem guard_eq_some {b : Bool} {s s' : State Ev PSt} : guard b s = some s' ↔ b = true ∧ s = s' := by
  unfold guard; cases b <;> simp

@[simp] theorem MainPc.isIdle_iff {p : MainPc Ev} : p.isIdle = true ↔ p = .idle := by cases p <;> simp [isIdle]
@[simp] theorem MainPc.isSel_iff {p : MainPc Ev} : p.isSel = true ↔ p = .sel := by cases p <;> simp [isSel]
@[simp] theorem MainPc.isTimerCase_iff {p : MainPc Ev} : p.isTimerCase = true ↔ p = .timerCase := by
  cases p <;> simp [isTimerCase]
@[simp] theorem MainPc.isResizing_iff {p : MainPc Ev} : p.isResizing = true ↔ p = .resizing := by
  cases p <;> simp [isResizing]
@[simp] theorem MainPc.isExiting_iff {p : MainPc Ev} : p.isExiting = true ↔ p = .exiting := by
  cases p <;> simp [isExiting]
@[simp] theorem CePc.isIdle_iff {p : CePc Ev} : p.isIdle = true ↔ p = .idle := by cases p <;> simp [isIdle]
@[simp] theorem CePc.isSel_iff {p : CePc Ev} : p.isSel = true ↔ p = .sel := by cases p <;> simp [isSel]
@[simp] theorem CePc.isClosing_iff {p : CePc Ev} : p.isClosing = true ↔ p = .closing := by cases p <;> simp [isClosing]

/-- `step` as a relation: one constructor per enabled branch of a label, the guard as hypotheses (the program counter
first), the successor explicit.  An invariant is proved by `cases Step.of_step h`, naming the constructors that write a
field the invariant reads; for every other constructor the successor differs from `s` in other fields only and the proof
for `s` is accepted as it stands. -/
inductive Step (P : Parser Ev PSt) (c : Cfg) (s : State Ev PSt) : Label → State Ev PSt → Prop
  | inject (ch) : Step P c s (.inject ch) { s with unread := s.unread ++ [ch], allInput := s.allInput ++ ch }
  | setFault : Step P c s .setFault { s with fault := true }
  | notify : Step P c s .notify { s with resizeQ := if s.resizeQ < 1 then s.resizeQ + 1 else s.resizeQ }
  | inStop (hpc : s.inPc = .top) (hstop : s.stop = true) : Step P c s .inStop { s with inPc := .exiting }
  | inToRead (hpc : s.inPc = .top) (hstop : s.stop = false) : Step P c s .inToRead { s with inPc := .reading }
  | inReadErr (hpc : s.inPc = .reading) (herr : (s.closed || s.fault) = true) :
      Step P c s .inReadErr { s with inPc := .errChk, fault := if s.closed then s.fault else false }
  | inReadChunk (hpc : s.inPc = .reading) {ch rest} (hun : s.unread = ch :: rest) (hcl : s.closed = false)
      (hfa : s.fault = false) : Step P c s .inReadChunk { s with inPc := .hold ch, unread := rest }
  | inReadEmpty (hpc : s.inPc = .reading) (hcl : s.closed = false) (hfa : s.fault = false) (hun : s.unread = [])
      (hdr : (s.draining || s.ttyStopped) = true) : Step P c s .inReadEmpty { s with inPc := .top }
  | inErr (hpc : s.inPc = .errChk) (hrun : s.running = true) : Step P c s .inErr { s with inPc := .errSend }
  | inErrExit (hpc : s.inPc = .errChk) (hrun : s.running = false) : Step P c s .inErr { s with inPc := .exiting }
  | inErrSent (hpc : s.inPc = .errSend) (hroom : full c.eqCap s.eventQ = false) :
      Step P c s .inErrSent { s with eventQ := s.eventQ ++ [.error], log := s.log ++ [.error], inPc := .exiting }
  | inErrQuit (hpc : s.inPc = .errSend) (hquit : s.quit = true) : Step P c s .inErrQuit { s with inPc := .exiting }
  | inErrStop (hpc : s.inPc = .errSend) (hfix : c.fixed = true) (hstop : s.stop = true) :
      Step P c s .inErrStop { s with inPc := .exiting }
  | inSent {ch} (hpc : s.inPc = .hold ch) (hroom : full c.kcCap s.keychan = false) :
      Step P c s .inSent { s with inPc := .top, keychan := s.keychan ++ [ch] }
  | inSendStop {ch} (hpc : s.inPc = .hold ch) (hfix : c.fixed = true) (hstop : s.stop = true) :
      Step P c s .inSendStop { s with inPc := .exiting, lossy := true }
  | inExit (hpc : s.inPc = .exiting) : Step P c s .inExit { s with inPc := .idle, wg := s.wg - 1 }
  | mainStop (hpc : s.mainPc = .sel) (hstop : s.stop = true) : Step P c s .mainStop { s with mainPc := .exiting }
  | mainQuit (hpc : s.mainPc = .sel) (hquit : s.quit = true) : Step P c s .mainQuit { s with mainPc := .exiting }
  | mainResize (hpc : s.mainPc = .sel) (hrq : 0 < s.resizeQ) :
      Step P c s .mainResize { s with mainPc := .resizing, resizeQ := s.resizeQ - 1 }
  | mainResizeEnd (hpc : s.mainPc = .resizing) : Step P c s .mainResizeEnd { s with mainPc := .sel }
  | mainTimer (hpc : s.mainPc = .sel) (htm : s.timer = true) :
      Step P c s .mainTimer { s with mainPc := .timerCase, timer := false }
  | timerScan (hpc : s.mainPc = .timerCase) (hbuf : s.buf.isEmpty = false) :
      Step P c s .timerScan
        (let r := P.collect s.pst s.buf true
         { s with mainPc := .scan r.1 .timer, pst := r.2.1, buf := r.2.2, decoded := s.decoded ++ r.1,
                  expired := s.expired || !r.1.isEmpty })
  | timerEnd (hpc : s.mainPc = .timerCase) : Step P c s .timerEnd { s with mainPc := .sel, timer := !s.buf.isEmpty }
  | timerEndScan (hpc : s.mainPc = .scan [] .timer) :
      Step P c s .timerEnd { s with mainPc := .sel, timer := !s.buf.isEmpty }
  | mainChunk (hpc : s.mainPc = .sel) {ch rest} (hkc : s.keychan = ch :: rest) :
      Step P c s .mainChunk
        (let r := P.collect s.pst (s.buf ++ ch) false
         { s with mainPc := .scan r.1 .chunk, keychan := rest, pst := r.2.1, buf := r.2.2, decoded := s.decoded ++ r.1,
                  received := s.received ++ ch })
  | scanSent {e rest a} (hpc : s.mainPc = .scan (e :: rest) a) (hroom : full c.eqCap s.eventQ = false) :
      Step P c s .scanSent { s with eventQ := s.eventQ ++ [.key e], log := s.log ++ [.key e], mainPc := .scan rest a }
  | scanQuit {e rest a} (hpc : s.mainPc = .scan (e :: rest) a) (hquit : s.quit = true) :
      Step P c s .scanQuit { s with mainPc := .scan [] a, lossy := true }
  | scanStop {e rest a} (hpc : s.mainPc = .scan (e :: rest) a) (hfix : c.fixed = true) (hstop : s.stop = true) :
      Step P c s .scanStop { s with mainPc := .scan [] a, lossy := true }
  | chunkEnd (hpc : s.mainPc = .scan [] .chunk) : Step P c s .chunkEnd { s with mainPc := .sel, timer := !s.buf.isEmpty }
  | mainExit (hpc : s.mainPc = .exiting) : Step P c s .mainExit { s with mainPc := .idle, wg := s.wg - 1 }
  | resizeSent (hroom : full c.eqCap s.eventQ = false) : Step P c s .resizeSent { s with eventQ := s.eventQ ++ [.resize], log := s.log ++ [.resize] }
  | resizeDrop (hfull : full c.eqCap s.eventQ = true) : Step P c s .resizeDrop s
  | pollEv {it rest} (heq : s.eventQ = it :: rest) :
      Step P c s .pollEv { s with eventQ := rest, delivered := s.delivered ++ [it] }
  | pollNil (hquit : s.quit = true) : Step P c s .pollNil s
  | postFull (hfull : full c.eqCap s.eventQ = true) : Step P c s .post { s with nextSeq := s.nextSeq + 1 }
  | post (hroom : full c.eqCap s.eventQ = false) :
      Step P c s .post { s with eventQ := s.eventQ ++ [.posted s.nextSeq], log := s.log ++ [.posted s.nextSeq], nextSeq := s.nextSeq + 1 }
  | postWaitSent (hroom : full c.eqCap s.eventQ = false) :
      Step P c s .postWaitSent { s with eventQ := s.eventQ ++ [.posted s.nextSeq], log := s.log ++ [.posted s.nextSeq], nextSeq := s.nextSeq + 1 }
  | postWaitStop (hquit : s.quit = true) : Step P c s .postWaitStop { s with nextSeq := s.nextSeq + 1 }
  | ceStart (hpc : s.cePc = .idle) : Step P c s .ceStart { s with cePc := .sel }
  | ceEv (hpc : s.cePc = .sel) {it rest} (heq : s.eventQ = it :: rest) :
      Step P c s .ceEv { s with eventQ := rest, cePc := .fwd it }
  | ceQuit (hpc : s.cePc = .sel) (huq : s.userQuit = true) : Step P c s .ceQuit { s with cePc := .closing }
  | ceStop (hpc : s.cePc = .sel) (hquit : s.quit = true) : Step P c s .ceStop { s with cePc := .closing }
  | ceFwdSent {it} (hpc : s.cePc = .fwd it) (hroom : full c.chCap s.ch = false) :
      Step P c s .ceFwdSent { s with cePc := .sel, ch := s.ch ++ [it] }
  | ceFwdQuit {it} (hpc : s.cePc = .fwd it) (huq : s.userQuit = true) :
      Step P c s .ceFwdQuit { s with cePc := .closing, lossy := true }
  | ceFwdStop {it} (hpc : s.cePc = .fwd it) (hquit : s.quit = true) :
      Step P c s .ceFwdStop { s with cePc := .closing, lossy := true }
  | ceClose (hpc : s.cePc = .closing) : Step P c s .ceClose { s with cePc := .closed, chClosed := true }
  | recv {it rest} (hch : s.ch = it :: rest) : Step P c s .recv { s with ch := rest, delivered := s.delivered ++ [it] }
  | closeUserQuit : Step P c s .closeUserQuit { s with userQuit := true }
  | callInit (hpc : s.callPc = .idle) (hrun : s.running = false) (hin : s.inPc = .idle) (hmain : s.mainPc = .idle) :
      Step P c s .callInit (engage s)
  | callFini (hpc : s.callPc = .idle) (honce : s.finiOnce = false) :
      Step P c s .callFini { s with callPc := .finStart, finiOnce := true }
  | callFiniAgain (hpc : s.callPc = .idle) (honce : s.finiOnce = true) : Step P c s .callFini s
  | finClosed (hpc : s.callPc = .finStart) : Step P c s .finClosed { s with quit := true, callPc := .dis true }
  | callSuspend (hpc : s.callPc = .idle) : Step P c s .callSuspend { s with callPc := .dis false }
  | disIdle {f} (hpc : s.callPc = .dis f) (hrun : s.running = false) : Step P c s .disIdle { s with callPc := .ret f }
  | disStopped {f} (hpc : s.callPc = .dis f) (hrun : s.running = true) :
      Step P c s .disStopped { s with running := false, stop := true, draining := true, callPc := .wait f }
  | disJoined {f} (hpc : s.callPc = .wait f) (hwg : s.wg = 0) :
      Step P c s .disJoined { s with callPc := .ret f, ttyStopped := true }
  | callRet {f} (hpc : s.callPc = .ret f) : Step P c s .callRet { s with callPc := .idle, closed := s.closed || f }
  | callResume (hpc : s.callPc = .idle) (hrun : s.running = false) (hin : s.inPc = .idle) (hmain : s.mainPc = .idle) :
      Step P c s .callResume (engage s)
  | callResumeBusy (hpc : s.callPc = .idle) (hbusy : (s.running || s.inPc != .idle || !s.mainPc.isIdle) = true) :
      Step P c s .callResume s

theorem Step.of_step {P : Parser Ev PSt} {c : Cfg} {s s' : State Ev PSt} {l : Label} (h : step P c s l = some s') :
    Step P c s l s' := by
  -- a label's clause of `step` is a `guard`, a plain `some`, or a `match` on a queue or program counter around one of these
  cases l <;> simp only [step, push, guard_eq_some, Option.some.injEq] at h <;>
    first
    | (obtain ⟨hg, rfl⟩ := h)
    | subst h
    | (split at h <;> simp only [guard_eq_some, Option.some.injEq, reduceCtorEq] at h <;>
        first | (obtain ⟨hg, rfl⟩ := h) | subst h | contradiction)
  case inErr | callFini | callResume => split <;> constructor <;> simp_all
  -- both branches of `timerEnd` have the same successor, so `constructor` cannot tell them apart
  all_goals first | exact .timerEndScan ‹_› | (constructor <;> first | assumption | simp_all)

theorem Step.step_eq {P : Parser Ev PSt} {c : Cfg} {s s' : State Ev PSt} {l : Label} (h : Step P c s l s') :
    step P c s l = some s' := by
  cases h <;> simp [step, guard, push, MainPc.isIdle.eq_1, *]

theorem Step.enabled {P : Parser Ev PSt} {c : Cfg} {s s' : State Ev PSt} {l : Label} (h : Step P c s l s') :
    enabled P c s l = true := by
  simp [Pipeline.enabled, h.step_eq]

theorem run_cons {P : Parser Ev PSt} {c : Cfg} {s t : State Ev PSt} {l : Label} {ls : List Label} :
    run P c s (l :: ls) = some t ↔ ∃ s1, step P c s l = some s1 ∧ run P c s1 ls = some t := by
  simp only [run]
  cases step P c s l <;> simp

theorem run_append (P : Parser Ev PSt) (c : Cfg) (s : State Ev PSt) (l1 l2 : List Label) :
    run P c s (l1 ++ l2) = (run P c s l1).bind (fun s' => run P c s' l2) := by
  induction l1 generalizing s with
  | nil => simp [run]
  | cons l ls ih =>
    simp only [List.cons_append, run]
    cases h : step P c s l with
    | none => simp
    | some s' => simp [ih]

theorem run_induction (P : Parser Ev PSt) (c : Cfg) (good : Label → Prop) (I : State Ev PSt → Prop)
    (hstep : ∀ s l s', good l → I s → step P c s l = some s' → I s') :
    ∀ (ls : List Label) (s0 s : State Ev PSt), I s0 → (∀ l ∈ ls, good l) → run P c s0 ls = some s → I s := by
  intro ls
  induction ls with
  | nil => intro s0 s h0 _ hr; cases hr; exact h0
  | cons l ls ih =>
    intro s0 s h0 hg hr
    obtain ⟨s1, h1, h2⟩ := run_cons.mp hr
    exact ih s1 s (hstep _ _ _ (hg l (List.mem_cons_self ..)) h0 h1) (fun l' hl' => hg l' (List.mem_cons_of_mem _ hl')) h2

theorem reachable_induction (P : Parser Ev PSt) (c : Cfg) (pst0 : PSt) (I : State Ev PSt → Prop)
    (h0 : I (init pst0)) (hstep : ∀ s l s', I s → step P c s l = some s' → I s') :
    ∀ s, Reachable P c pst0 s → I s :=
  fun s ⟨ls, hr⟩ => run_induction P c (fun _ => True) I (fun s l s' _ => hstep s l s') ls _ s h0 (fun _ _ => trivial) hr

/-- `lossy` is sticky, and is only ever set where a shutdown has begun (a closed `quit`, stopQ or ChannelEvents quit
channel) or at an engage -/
theorem step_lossy {P : Parser Ev PSt} {c : Cfg} {s s' : State Ev PSt} {l : Label} (h : step P c s l = some s') :
    ∃ d, s'.lossy = (s.lossy || d) ∧
      (d = true → s.quit = true ∨ s.stop = true ∨ s.userQuit = true ∨ s.running = false) := by
  cases Step.of_step h with
  | inSendStop _ _ hstop | scanStop _ _ hstop => exact ⟨true, by simp, fun _ => .inr (.inl hstop)⟩
  | scanQuit _ hquit | ceFwdStop _ hquit => exact ⟨true, by simp, fun _ => .inl hquit⟩
  | ceFwdQuit _ huq => exact ⟨true, by simp, fun _ => .inr (.inr (.inl huq))⟩
  | callInit _ hrun | callResume _ hrun => exact ⟨!s.buf.isEmpty, rfl, fun _ => .inr (.inr (.inr hrun))⟩
  | _ => exact ⟨false, (Bool.or_false _).symm, nofun⟩

theorem step_lossy_mono {P : Parser Ev PSt} {c : Cfg} {s s' : State Ev PSt} {l : Label} (h : step P c s l = some s')
    (hl : s.lossy = true) : s'.lossy = true := by
  obtain ⟨d, hd, _⟩ := step_lossy h
  simp [hd, hl]

def inAlive (s : State Ev PSt) : Nat := if s.inPc = .idle then 0 else 1
def mainAlive (s : State Ev PSt) : Nat := if s.mainPc.isIdle then 0 else 1

/-- shutdown bookkeeping invariant: the WaitGroup counts the live loops; while the caller waits, stopQ is closed, the tty
is draining and `running` is false; inside Fini `quit` is closed -/
structure Inv6 (s : State Ev PSt) : Prop where
  wg : s.wg = inAlive s + mainAlive s
  waiting : ∀ f, s.callPc = .wait f → s.stop = true ∧ s.draining = true ∧ s.running = false
  fini : (s.callPc = .dis true ∨ s.callPc = .wait true ∨ s.callPc = .ret true) → s.quit = true
  quiet : s.running = false → (∀ f, s.callPc ≠ .wait f) → s.wg = 0

theorem inv6_init (pst0 : PSt) : Inv6 (init pst0 : State Ev PSt) := by
  constructor <;> simp [init, inAlive, mainAlive, MainPc.isIdle]

theorem step_inv6 (P : Parser Ev PSt) (c : Cfg) (s : State Ev PSt) (l : Label) (s' : State Ev PSt)
    (hi : Inv6 s) (h : step P c s l = some s') : Inv6 s' := by
  obtain ⟨hwg, hw, hf, hq⟩ := hi
  cases Step.of_step h with
  | inStop hpc | inToRead hpc | inReadErr hpc | inReadChunk hpc | inReadEmpty hpc | inErr hpc | inErrExit hpc
  | inErrSent hpc | inErrQuit hpc | inErrStop hpc | inSent hpc | inSendStop hpc =>
    exact ⟨by simpa [inAlive, mainAlive, hpc] using hwg, hw, hf, hq⟩
  | mainStop hpc | mainQuit hpc | mainResize hpc | mainResizeEnd hpc | mainTimer hpc | timerScan hpc | timerEnd hpc
  | timerEndScan hpc | mainChunk hpc | scanSent hpc | scanQuit hpc | scanStop hpc | chunkEnd hpc =>
    exact ⟨by simpa [inAlive, mainAlive, MainPc.isIdle, hpc] using hwg, hw, hf, hq⟩
  | inExit hpc | mainExit hpc =>
    exact ⟨by simp [inAlive, mainAlive, MainPc.isIdle, hpc] at hwg ⊢; omega, hw, hf, fun hr hn => by simp [hq hr hn]⟩
  | callInit hpc hrun hin hmain | callResume hpc hrun hin hmain =>
    have h0 : s.wg = 0 := hq hrun (by simp [hpc])
    exact ⟨by simp [engage, inAlive, mainAlive, MainPc.isIdle, h0], by simp [engage, hpc], by simp [engage, hpc],
      by simp [engage]⟩
  | callFini hpc => exact ⟨hwg, by simp, by simp, fun hr _ => hq hr (by simp [hpc])⟩
  | finClosed hpc => exact ⟨hwg, by simp, fun _ => rfl, fun hr _ => hq hr (by simp [hpc])⟩
  | callSuspend hpc => exact ⟨hwg, by simp, by simp, fun hr _ => hq hr (by simp [hpc])⟩
  | disIdle hpc hrun => exact ⟨hwg, by simp, fun h => hf (by simpa [hpc] using h), fun hr _ => hq hr (by simp [hpc])⟩
  | disStopped hpc hrun =>
    exact ⟨hwg, fun _ _ => ⟨rfl, rfl, rfl⟩, fun h => hf (by simpa [hpc] using h), fun _ hn => absurd rfl (hn _)⟩
  | disJoined hpc hwg0 => exact ⟨hwg, by simp, fun h => hf (by simpa [hpc] using h), fun _ _ => hwg0⟩
  | callRet hpc => exact ⟨hwg, by simp, by simp, fun hr _ => hq hr (by simp [hpc])⟩
  | _ => exact ⟨hwg, hw, hf, hq⟩

/-- with the screen stopped and no caller at `wg.Wait()`, both loops have exited -/
theorem Inv6.idle {s : State Ev PSt} (hi : Inv6 s) (hrun : s.running = false) (hc : ∀ f, s.callPc ≠ .wait f) :
    s.inPc = .idle ∧ s.mainPc = .idle := by
  have h := hi.wg
  rw [hi.quiet hrun hc] at h
  by_cases h1 : s.inPc = .idle
  · by_cases h2 : s.mainPc = .idle
    · exact ⟨h1, h2⟩
    · simp [inAlive, mainAlive, h1, h2] at h
  · simp [inAlive, h1] at h; omega

/-- second part of the bookkeeping: past `wg.Wait()` the screen is not running; inside Fini the Once has fired -/
structure Inv6b (s : State Ev PSt) : Prop where
  retq : ∀ f, s.callPc = .ret f → s.running = false
  once : s.finiOnce = false → s.callPc = .idle ∨ s.callPc = .dis false ∨ s.callPc = .wait false ∨ s.callPc = .ret false

theorem inv6b_init (pst0 : PSt) : Inv6b (init pst0 : State Ev PSt) := by
  constructor
  · intro f h; rfl
  · intro _; exact Or.inl rfl

theorem step_inv6b (P : Parser Ev PSt) (c : Cfg) (s : State Ev PSt) (l : Label) (s' : State Ev PSt)
    (h6 : Inv6 s) (hi : Inv6b s) (h : step P c s l = some s') : Inv6b s' := by
  obtain ⟨hrq, ho⟩ := hi
  cases Step.of_step h with
  | callInit hpc | callResume hpc => exact ⟨by simp [engage, hpc], ho⟩
  | callFini hpc => exact ⟨by simp, by simp⟩
  | finClosed hpc => exact ⟨by simp, fun h => by simpa [hpc] using ho h⟩
  | callSuspend hpc => exact ⟨by simp, fun _ => .inr (.inl rfl)⟩
  | disIdle hpc hrun => exact ⟨fun _ _ => hrun, fun h => by simpa [hpc] using ho h⟩
  | disStopped hpc => exact ⟨fun _ _ => rfl, fun h => by simpa [hpc] using ho h⟩
  | disJoined hpc => exact ⟨fun _ _ => (h6.waiting _ hpc).2.2, fun h => by simpa [hpc] using ho h⟩
  | callRet hpc => exact ⟨by simp, fun _ => .inl rfl⟩
  | _ => exact ⟨hrq, ho⟩

theorem reachable_inv6 (P : Parser Ev PSt) (c : Cfg) (pst0 : PSt) (s : State Ev PSt) (h : Reachable P c pst0 s) :
    Inv6 s ∧ Inv6b s :=
  reachable_induction P c pst0 (fun s => Inv6 s ∧ Inv6b s) ⟨inv6_init pst0, inv6b_init pst0⟩
    (fun s l s' hi hs => ⟨step_inv6 P c s l s' hi.1 hs, step_inv6b P c s l s' hi.1 hi.2 hs⟩) s h

end Tcell.Model.Pipeline
