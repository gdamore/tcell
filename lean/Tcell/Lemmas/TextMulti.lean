import Tcell.Lemmas.TextMarkers
/-
C11: the multi-byte decoder model `decMulti atEOF T`.  With `atEOF = false` (the repaired call) every character of a
well-formed, prefix-free table obeys the codec laws; with `atEOF = true` (the pinned call, tscreen.go:1721) the law
`short` fails for EVERY character longer than one byte: the lone lead byte is answered with U+FFFD / one byte consumed.
Single-byte tables (`decTable`) obey the laws trivially.
-/
namespace Tcell.Lemmas.Text
open Tcell Tcell.Model Tcell.Lemmas.Collect Tcell.Lemmas.PrefixFree

/-- shape of the entries: first byte ≥ 0x80, 1..4 bytes, rune printable and not U+FFFD -/
def mbOk (T : MbTable) : Bool :=
  T.all (fun e => (match e.1 with | b0 :: _ => Nat.ble 128 b0 | [] => false) && Nat.ble e.1.length 4 &&
    decide (32 ≤ e.2 ∧ e.2 ≠ 127 ∧ e.2 ≠ runeError))

/-- no encoding is a prefix of another entry's encoding (in particular encodings are distinct) -/
def MbPrefixFree (T : MbTable) : Prop := ∀ a ∈ T, ∀ b ∈ T, hasPrefix a.1 b.1 = true → a = b

instance (T : MbTable) : Decidable (MbPrefixFree T) := by unfold MbPrefixFree; exact inferInstance

theorem mbOk_entry (T : MbTable) (h : mbOk T = true) (e : Bytes × Int) (he : e ∈ T) :
    (∃ b0 t, e.1 = b0 :: t ∧ 128 ≤ b0) ∧ e.1.length ≤ 4 ∧ (32 ≤ e.2 ∧ e.2 ≠ 127 ∧ e.2 ≠ runeError) := by
  have := (List.all_eq_true.mp h) e he
  simp only [Bool.and_eq_true, decide_eq_true_eq] at this
  obtain ⟨⟨h1, h2⟩, h3⟩ := this
  refine ⟨?_, Nat.le_of_ble_eq_true h2, h3⟩
  cases hs : e.1 with
  | nil => rw [hs] at h1; cases h1
  | cons b0 t => rw [hs] at h1; exact ⟨b0, t, rfl, Nat.le_of_ble_eq_true h1⟩

theorem find_whole (T : MbTable) (hpf : MbPrefixFree T) (e : Bytes × Int) (he : e ∈ T) :
    T.find? (fun x => hasPrefix e.1 x.1) = some e := by
  cases h : T.find? (fun x => hasPrefix e.1 x.1) with
  | none => simpa [hasPrefix_refl] using List.find?_eq_none.mp h e he
  | some x => rw [hpf e he x (List.mem_of_find?_eq_some h) (by simpa using List.find?_some h)]

theorem decMulti_piece (atEOF : Bool) (T : MbTable) (hok : mbOk T = true) (hpf : MbPrefixFree T) (e : Bytes × Int)
    (he : e ∈ T) (l : Nat) (h0 : 0 < l) (hl : l < e.1.length) :
    decMulti atEOF T (e.1.take l) = if atEOF then .out runeError 1 else .shortSrc := by
  obtain ⟨⟨b0, t, hs, hb⟩, _, _⟩ := mbOk_entry T hok e he
  have h1 : T.find? (fun x => hasPrefix (e.1.take l) x.1) = none := List.find?_eq_none.mpr fun x hx hp => by
    have hp := hasPrefix_iff.mp hp
    obtain rfl := hpf e he x hx (hasPrefix_iff.mpr (hp.trans (List.take_prefix _ _)))
    have := hp.length_le
    rw [List.length_take] at this; omega
  have h2 : T.any (fun x => hasPrefix x.1 (e.1.take l)) = true :=
    List.any_eq_true.mpr ⟨e, he, hasPrefix_iff.mpr (List.take_prefix _ _)⟩
  have hne : ¬ b0 < 128 := by omega
  rw [hs, take_cons_pos b0 t l h0] at h1 h2 ⊢
  simp only [decMulti, hne, if_false, h1, h2, if_true]

theorem decMulti_codecChar (T : MbTable) (hok : mbOk T = true) (hpf : MbPrefixFree T) (e : Bytes × Int) (he : e ∈ T) :
    CodecChar (decMulti false T) e := by
  obtain ⟨⟨b0, t, hs, hb⟩, h4, hpr⟩ := mbOk_entry T hok e he
  refine ⟨⟨b0, t, hs, hb⟩, h4, ?_, fun l h0 hl => Or.inl (decMulti_piece false T hok hpf e he l h0 hl), hpr⟩
  have hne : ¬ b0 < 128 := by omega
  have := find_whole T hpf e he
  rw [hs] at this ⊢
  simp only [decMulti, hne, if_false, this, hs]

theorem decTable_codecChar (tbl : List Int) (b : Nat) (hb : 128 ≤ b)
    (hr : 32 ≤ tbl.getD (b - 128) runeError ∧ tbl.getD (b - 128) runeError ≠ 127 ∧ tbl.getD (b - 128) runeError ≠ runeError) :
    CodecChar (decTable tbl) ([b], tbl.getD (b - 128) runeError) := by
  refine ⟨⟨b, [], rfl, hb⟩, by simp, ?_, ?_, hr⟩
  · have : ¬ b < 128 := by omega
    simp [decTable, this]
  · intro l h0 hl
    simp at hl
    omega

end Tcell.Lemmas.Text
