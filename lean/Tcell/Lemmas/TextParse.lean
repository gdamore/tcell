import Tcell.Lemmas.TextTokens
import Tcell.Lemmas.KeyPrefixFree
import Tcell.Lemmas.SgrStrict
/-
C11: the individual parsers on text.  A character whose encoding obeys the codec laws (`CodecChar`) is a good token
when no key sequence starts with an 8-bit byte (`keysAscii`).  Also here, for the markers of `TextMarkers`: when one
scan waits (`step1_wait`), and the buffers on which the mouse and clipboard parsers cannot complete (`tailSilent`).
-/
namespace Tcell.Lemmas.Text
open Tcell Tcell.Model Tcell.Lemmas.Collect Tcell.Lemmas.PrefixFree Tcell.Lemmas.SgrStrict

/-- what `parseRune` needs from the decoder for the character with encoding `e.1` and rune `e.2` -/
structure CodecChar (dec : Bytes → DecResult) (e : Bytes × Int) : Prop where
  /-- the encoding starts with an 8-bit byte (7-bit bytes never reach the decoder, tscreen.go:1698-1713) -/
  high : ∃ b0 t, e.1 = b0 :: t ∧ 128 ≤ b0
  /-- at most four bytes (a non-empty proper prefix is too short to be a mouse report) -/
  bounded : e.1.length ≤ 4
  /-- the decoder, given exactly the encoding, produces the rune and consumes all of it -/
  full : dec e.1 = .out e.2 e.1.length
  /-- on every non-empty proper prefix the decoder produces nothing (`ErrShortSrc`, or no output) -/
  short : ∀ l, 0 < l → l < e.1.length → dec (e.1.take l) = .shortSrc ∨ dec (e.1.take l) = .nothing
  /-- the rune is not a C0 control / DEL (`NewEventKey` turns those into keys) and not U+FFFD (dropped) -/
  printable : 32 ≤ e.2 ∧ e.2 ≠ 127 ∧ e.2 ≠ runeError

/-- a character of a text: printable ASCII sent as itself, or a character obeying the codec laws -/
def TextChar (dec : Bytes → DecResult) (e : Bytes × Int) : Prop :=
  (∃ n : Nat, 32 ≤ n ∧ n ≤ 126 ∧ e = ([n], (n : Int))) ∨ CodecChar dec e

def charTok (e : Bytes × Int) : Tok := ⟨e.1, runeEvent e.2⟩

theorem st_unescape (st : PState) (h : st.escaped = false) : { st with escaped := false } = st := by
  cases st; simp_all

theorem newEventKey_rune (st : PState) (hs : st.escaped = false) (c : Int) (h1 : 32 ≤ c) (h2 : c ≠ 127) :
    newEventKey keyRune c (altOf st) = runeEvent c := by
  have h : ¬ (c < 32 ∨ c = 127) := by omega
  simp [newEventKey, runeEvent, altOf, hs, h]

theorem take_cons_pos (b0 : Nat) (t : Bytes) (l : Nat) (h : 0 < l) : (b0 :: t).take l = b0 :: t.take (l - 1) := by
  cases l with
  | zero => omega
  | succ l' => rfl

theorem parsers_cons (cfg : Cfg) : ∃ ps, parsers cfg = parseRune cfg.dec :: parseFunctionKey cfg.keys :: parseFocus :: ps ∧
    ∀ p ∈ ps, p = parseXtermMouse cfg ∨ p = parseSgrMouse cfg ∨ p = parseClipboardV cfg.clipFixed := by
  unfold parsers
  cases cfg.mouse <;> cases cfg.clipboard <;> simp

def TailSilent (cfg : Cfg) (st : PState) (b : Bytes) : Prop :=
  Silent (parseXtermMouse cfg st b) ∧ Silent (parseSgrMouse cfg st b) ∧ Silent (parseClipboardV cfg.clipFixed st b)

theorem step1_wait (cfg : Cfg) (st : PState) (b : Bytes) (h1 : Silent (parseRune cfg.dec st b))
    (h2 : Silent (parseFunctionKey cfg.keys st b)) (h3 : Silent (parseFocus st b)) (h4 : TailSilent cfg st b)
    (hp : parseRune cfg.dec st b = .part ∨ parseFunctionKey cfg.keys st b = .part ∨ parseFocus st b = .part) :
    step1 cfg st b false = .wait := by
  obtain ⟨ps, hps, hmem⟩ := parsers_cons cfg
  rw [step1, hps]
  apply tryParsers_wait
  · intro p hp'
    simp only [List.mem_cons] at hp'
    rcases hp' with rfl | rfl | rfl | hp'
    · exact h1
    · exact h2
    · exact h3
    · rcases hmem p hp' with rfl | rfl | rfl
      · exact h4.1
      · exact h4.2.1
      · exact h4.2.2
  · right
    rcases hp with h | h | h
    · exact ⟨_, List.mem_cons_self, h⟩
    · exact ⟨_, List.mem_cons_of_mem _ List.mem_cons_self, h⟩
    · exact ⟨_, List.mem_cons_of_mem _ (List.mem_cons_of_mem _ List.mem_cons_self), h⟩

theorem x11Body_short (cfg : Cfg) (st : PState) (n : Nat) (r : Bytes) (h : r.length ≤ 3) : Silent (x11Body cfg st n r) := by
  unfold x11Body Silent
  match r, h with
  | [], _ => simp
  | [m], _ => by_cases hm : m = 77 <;> simp [hm]
  | [m, a], _ => by_cases hm : m = 77 <;> simp [hm]
  | [m, a, b], _ => by_cases hm : m = 77 <;> simp [hm]
  | _ :: _ :: _ :: _ :: _, h => simp at h

/-- an X11 report has five bytes, six when introduced by `ESC [` -/
theorem parseXtermMouse_short (cfg : Cfg) (st : PState) (c0 : Nat) (r : Bytes) (h : r.length ≤ 3 ∨ c0 = 27 ∧ r.length ≤ 4) :
    Silent (parseXtermMouse cfg st (c0 :: r)) := by
  unfold parseXtermMouse
  dsimp only
  split
  · rcases r with _ | ⟨c1, r1⟩
    · exact Or.inl rfl
    · dsimp only
      split
      · exact Or.inr rfl
      · exact x11Body_short cfg st 2 r1 (by simp only [List.length_cons] at h; omega)
  · split
    · exact x11Body_short cfg st 1 r (by omega)
    · exact Or.inr rfl

/-- an SGR report contains its `<` -/
theorem parseSgrMouse_no_lt (cfg : Cfg) (st : PState) (b : Bytes) (h : 60 ∉ b) : Silent (parseSgrMouse cfg st b) := by
  cases hv : parseSgrMouse cfg st b with
  | complete n evs st' => exact absurd (sgrRun_lt cfg st n evs st' b {} 0 (Nat.zero_le 2) hv) h
  | part => exact Or.inl rfl
  | reject => exact Or.inr rfl
  | ambiguous => exact absurd hv (sgrRun_ne_amb cfg st b {} 0)

theorem parseClipboard_high (st : PState) (b0 : Nat) (t : Bytes) (hb : 128 ≤ b0) (hl : t.length ≤ 3) :
    parseClipboard st (b0 :: t) = .reject := by
  have h2 : Nat.beq 27 b0 = false := beq_false (by omega)
  rw [show parseClipboard = parseClipboardV false from rfl, parseClipboardV_short false st _ (by simp only [List.length_cons]; omega)]
  simp [clipPrefix, hasPrefix, h2]

theorem tailSilent (cfg : Cfg) (st : PState) (c0 : Nat) (r : Bytes) (hx : r.length ≤ 3 ∨ c0 = 27 ∧ r.length ≤ 4)
    (hs : r.length ≤ 3 ∨ 60 ∉ c0 :: r) : TailSilent cfg st (c0 :: r) := by
  refine ⟨parseXtermMouse_short cfg st c0 r hx, ?_, ?_⟩
  · rcases hs with hs | hs
    · exact parseSgrMouse_short cfg st _ (by simp only [List.length_cons]; omega)
    · exact parseSgrMouse_no_lt cfg st _ hs
  · rw [parseClipboardV_short _ st _ (by simp only [List.length_cons]; omega)]
    split
    · exact Or.inl rfl
    · exact Or.inr rfl

theorem keyMatches_high (T : KeyTable) (hk : keysAscii T = true) (b0 : Nat) (t : Bytes) (hb : 128 ≤ b0) :
    keyMatches T (b0 :: t) = [] := by
  unfold keyMatches
  rw [List.filter_eq_nil_iff]
  intro e he
  have := (List.all_eq_true.mp hk) e he
  cases hs : e.seq with
  | nil => rw [hs] at this; simp at this
  | cons c r =>
    rw [hs] at this
    have : Nat.beq b0 c = false := beq_false (by have := blt_iff.mp this; omega)
    simp [hasPrefix, this]

theorem parseFocus_high (st : PState) (b0 : Nat) (t : Bytes) (hb : 128 ≤ b0) : parseFocus st (b0 :: t) = .reject := by
  have : b0 ≠ 27 := by omega
  simp [parseFocus, this]

theorem runeLoop_skip (dec : Bytes → DecResult) (st : PState) (b : Bytes) : ∀ (k fuel l : Nat),
    (∀ l', l ≤ l' → l' < l + k → dec (b.take l') = .shortSrc ∨ dec (b.take l') = .nothing) →
    runeLoop dec st b (k + fuel) l = runeLoop dec st b fuel (l + k)
  | 0, fuel, l, _ => by simp
  | k + 1, fuel, l, h => by
    have ih := runeLoop_skip dec st b k fuel (l + 1) (fun l' h1 h2 => h l' (by omega) (by omega))
    rw [show k + 1 + fuel = (k + fuel) + 1 by omega, runeLoop, show l + (k + 1) = l + 1 + k by omega, ← ih]
    rcases h l (Nat.le_refl _) (by omega) with hl | hl <;> simp only [hl]

theorem parseRune_ascii (dec : Bytes → DecResult) (st : PState) (hs : st.escaped = false) (n : Nat) (t : Bytes)
    (h1 : 32 ≤ n) (h2 : n ≤ 126) : parseRune dec st (n :: t) = .complete 1 [runeEvent (n : Int)] st := by
  have : 32 ≤ n ∧ n ≤ 127 := by omega
  simp only [parseRune, this, and_self, if_true]
  rw [st_unescape st hs, newEventKey_rune st hs _ (by omega) (by omega)]

theorem parseRune_codec (dec : Bytes → DecResult) (st : PState) (hs : st.escaped = false) (e : Bytes × Int)
    (hc : CodecChar dec e) (t : Bytes) : parseRune dec st (e.1 ++ t) = .complete e.1.length [runeEvent e.2] st := by
  obtain ⟨b0, t0, he, hb⟩ := hc.high
  have hn : e.1.length = 1 + t0.length := by rw [he, List.length_cons, Nat.add_comm]
  have htake : ∀ l, l ≤ e.1.length → (e.1 ++ t).take l = e.1.take l := fun l hl => List.take_append_of_le_length hl
  rw [he, List.cons_append, parseRune_high dec st b0 _ hb, ← List.cons_append, ← he, List.length_append, Nat.add_assoc,
    runeLoop_skip dec st _ t0.length _ 1 (fun l' h1 h2 => by rw [htake l' (by omega)]; exact hc.short l' h1 (by omega)),
    runeLoop, ← hn, htake _ (Nat.le_refl _), List.take_length, hc.full]
  simp only [ne_eq, hc.printable.2.2, not_false_eq_true, if_true]
  rw [st_unescape st hs, newEventKey_rune st hs _ hc.printable.1 hc.printable.2.1]

theorem parseRune_codec_prefix (dec : Bytes → DecResult) (st : PState) (e : Bytes × Int) (hc : CodecChar dec e)
    (l : Nat) (h0 : 0 < l) (hl : l < e.1.length) : parseRune dec st (e.1.take l) = .part := by
  obtain ⟨b0, t0, he, hb⟩ := hc.high
  have hlen : (t0.take (l - 1)).length + 1 = l := by rw [he] at hl; simp only [List.length_take, List.length_cons] at hl ⊢; omega
  rw [he, take_cons_pos b0 t0 l h0, parseRune_high dec st b0 _ hb, ← take_cons_pos b0 t0 l h0, ← he, hlen]
  exact (runeLoop_skip dec st _ l 0 1 (fun l' h1 h2 => by
    rw [List.take_take, Nat.min_eq_left (by omega)]; exact hc.short l' h1 (by omega))).trans rfl

theorem charTok_good (cfg : Cfg) (hk : keysAscii cfg.keys = true) (st : PState) (hs : st.escaped = false)
    (e : Bytes × Int) (he : TextChar cfg.dec e) : GoodTok cfg st (charTok e) := by
  obtain ⟨ps, hps, _⟩ := parsers_cons cfg
  have hit : ∀ (t : Bytes), parseRune cfg.dec st (e.1 ++ t) = .complete e.1.length [runeEvent e.2] st →
      step1 cfg st (e.1 ++ t) false = .emit [runeEvent e.2] st t :=
    fun t h => by rw [step1, hps, tryParsers_hit st _ false _ _ _ _ _ h, List.drop_left]
  rcases he with ⟨n, h1, h2, rfl⟩ | hc
  · exact ⟨by simp [charTok], fun t => hit t (parseRune_ascii cfg.dec st hs n t h1 h2), fun l h0 hl => by
      simp [charTok] at hl; omega⟩
  · obtain ⟨b0, t0, he0, hb⟩ := hc.high
    refine ⟨by simp [charTok, he0], fun t => hit t (parseRune_codec cfg.dec st hs e hc t), ?_⟩
    intro l h0 hl
    simp only [charTok] at hl ⊢
    have hpart := parseRune_codec_prefix cfg.dec st e hc l h0 hl
    have hlen : (t0.take (l - 1)).length ≤ 3 := by
      have := hc.bounded
      rw [he0] at hl this
      simp only [List.length_cons, List.length_take] at hl this ⊢
      omega
    rw [he0, take_cons_pos b0 t0 l h0] at hpart ⊢
    exact step1_wait cfg st _ (Or.inl hpart) (parseFunctionKey_silent _ _ _ (keyMatches_high _ hk b0 _ hb))
      (Or.inr (parseFocus_high st b0 _ hb)) (tailSilent cfg st b0 _ (Or.inl hlen) (Or.inl hlen)) (Or.inl hpart)

end Tcell.Lemmas.Text
