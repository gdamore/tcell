import Tcell.Lemmas.KeyPrefixFree
/-
C02, per-parser layer: **prefix monotonicity** of the six parsers of `collectEventsFromInput`.

`Mono P`: once `P` has reached a verdict `complete` or `reject` on a buffer `a`, it reaches the same verdict (same
consumed length, same events, same state) on every extension `a ++ b`; a `complete n` consumes `1 ≤ n ≤ |a|` bytes.
Proved for parseRune (decoder law `DecBound`), parseFunctionKey (prefix-free table without empty sequences),
parseFocus, parseXtermMouse, parseSgrMouse and the repaired parseClipboard (`parseClipboardF`), each time in the form
`Mono.of_decided`: a verdict other than `part` does not change when bytes are appended.  The pinned parseClipboard is
not monotone (counterexamples in `Tcell.Props.C02`).
-/
namespace Tcell.Lemmas.Chunk
open Tcell Tcell.Model Tcell.Lemmas.Collect Tcell.Lemmas.PrefixFree Tcell.Lemmas.MouseSeq Tcell.Lemmas.SgrStrict

abbrev Parser := PState → Bytes → Verdict

structure Mono (P : Parser) : Prop where
  complete : ∀ st a b n evs st', P st a = .complete n evs st' → P st (a ++ b) = .complete n evs st'
  reject : ∀ st a b, a ≠ [] → P st a = .reject → P st (a ++ b) = .reject
  bound : ∀ st a n evs st', P st a = .complete n evs st' → 1 ≤ n ∧ n ≤ a.length

theorem Mono.of_decided {P : Parser} (hd : ∀ st a b, a ≠ [] → P st a ≠ .part → P st (a ++ b) = P st a)
    (hb : ∀ st a n evs st', P st a = .complete n evs st' → 1 ≤ n ∧ n ≤ a.length) : Mono P where
  complete st a b n evs st' h := by
    have ha : a ≠ [] := by rintro rfl; have := hb st [] n evs st' h; simp at this; omega
    rw [hd st a b ha (by rw [h]; nofun), h]
  reject st a b ha h := by rw [hd st a b ha (by rw [h]; nofun), h]
  bound := hb

/-- decoder law: a produced rune accounts for at least one and at most all of the bytes handed to the decoder
(`nIn` of `Transform`); it makes every productive iteration of the main loop shorten the buffer -/
def DecBound (dec : Bytes → DecResult) : Prop := ∀ p r n, dec p = .out r n → 1 ≤ n ∧ n ≤ p.length

theorem runeLoop_spec (dec : Bytes → DecResult) (st : PState) (b : Bytes) : ∀ (fuel l : Nat),
    (runeLoop dec st b fuel l = .part ∧ ∀ l', l ≤ l' → l' < l + fuel → ∀ r k, dec (b.take l') ≠ .out r k) ∨
    (∃ l' r k evs st', l ≤ l' ∧ l' < l + fuel ∧ dec (b.take l') = .out r k ∧
      runeLoop dec st b fuel l = .complete k evs st') := by
  intro fuel
  induction fuel with
  | zero => intro l; exact Or.inl ⟨rfl, fun l' h1 h2 => by omega⟩
  | succ f ih =>
    intro l
    unfold runeLoop
    cases hdec : dec (b.take l) with
    | out r k =>
      right
      by_cases hr : r ≠ runeError
      · exact ⟨l, r, k, _, _, Nat.le_refl _, by omega, hdec, if_pos hr⟩
      · exact ⟨l, r, k, _, _, Nat.le_refl _, by omega, hdec, if_neg hr⟩
    | shortSrc | nothing =>
      rcases ih (l + 1) with ⟨hp, hno⟩ | ⟨l', r, k, evs, st', h1, h2, h3, h4⟩
      · refine Or.inl ⟨hp, fun l' h1 h2 r k => ?_⟩
        by_cases hl : l' = l
        · rw [hl, hdec]; nofun
        · exact hno l' (by omega) (by omega) r k
      · exact Or.inr ⟨l', r, k, evs, st', by omega, by omega, h3, h4⟩

theorem runeLoop_append (dec : Bytes → DecResult) (st : PState) (a b : Bytes) :
    ∀ (fuel l extra : Nat), l + fuel ≤ a.length + 1 → runeLoop dec st a fuel l ≠ .part →
      runeLoop dec st (a ++ b) (fuel + extra) l = runeLoop dec st a fuel l := by
  intro fuel
  induction fuel with
  | zero => intro l extra _ h; exact absurd rfl h
  | succ f ih =>
    intro l extra hl h
    rw [show f + 1 + extra = (f + extra) + 1 by omega]
    unfold runeLoop at h ⊢
    rw [List.take_append_of_le_length (by omega)]
    cases hd : dec (a.take l) with
    | out r nIn => rfl
    | shortSrc | nothing => rw [hd] at h; exact ih (l + 1) extra (by omega) h

theorem parseRune_part_head (dec : Bytes → DecResult) (st : PState) (a : Bytes) (h : parseRune dec st a = .part) :
    ∃ c t, a = c :: t ∧ 128 ≤ c ∧ runeLoop dec st a a.length 1 = .part := by
  rcases a with _ | ⟨c, t⟩
  · simp [parseRune] at h
  · by_cases hc : c < 128
    · rw [parseRune_low dec st c t hc] at h
      simp only [parseRune] at h
      split at h <;> simp at h
    · rw [parseRune_high dec st c t (by omega)] at h
      exact ⟨c, t, rfl, by omega, h⟩

theorem parseRune_complete_head (dec : Bytes → DecResult) (st : PState) (a : Bytes) (n : Nat) (evs : List Event) (st' : PState)
    (h : parseRune dec st a = .complete n evs st') : ∃ c t, a = c :: t ∧ 32 ≤ c := by
  rcases a with _ | ⟨c, t⟩
  · simp [parseRune] at h
  · refine ⟨c, t, rfl, ?_⟩
    by_cases hc : c < 32
    · rw [parseRune_ctrl dec st c t hc] at h; cases h
    · omega

theorem mono_parseRune (dec : Bytes → DecResult) (hd : DecBound dec) : Mono (parseRune dec) := by
  refine Mono.of_decided (fun st a b ha h => ?_) (fun st a n evs st' h => ?_)
  · rcases a with _ | ⟨c, t⟩
    · exact absurd rfl ha
    · by_cases hc : c < 128
      · rw [List.cons_append, parseRune_low dec st c _ hc, parseRune_low dec st c t hc]
      · rw [parseRune_high dec st c t (by omega)] at h ⊢
        rw [List.cons_append, parseRune_high dec st c _ (by omega), List.length_append, Nat.add_right_comm]
        exact runeLoop_append dec st (c :: t) b _ 1 _ (by simp; omega) h
  · rcases a with _ | ⟨c, t⟩
    · simp [parseRune] at h
    · by_cases hc : c < 128
      · rw [parseRune_low dec st c t hc] at h
        simp only [parseRune] at h
        split at h
        · injection h with h1; simp; omega
        · simp at h
      · rw [parseRune_high dec st c t (by omega)] at h
        rcases runeLoop_spec dec st (c :: t) (t.length + 1) 1 with ⟨hp, _⟩ | ⟨l', r, k, evs', st'', _, _, h3, h4⟩
        · rw [hp] at h; cases h
        · rw [h4] at h; injection h with h1
          have := hd _ _ _ h3
          rw [List.length_take] at this
          omega

/-- no table entry has the empty sequence (`prepareKeyMod` never inserts one, tscreen.go:252) -/
def NoEmptySeq (T : KeyTable) : Prop := ∀ e ∈ T, e.seq ≠ []

theorem keyEvent_append (st : PState) (a b : Bytes) (e : KeyEntry) (ha : a ≠ []) :
    keyEvent st (a ++ b) e = keyEvent st a e := by
  cases a with
  | nil => exact absurd rfl ha
  | cons c t => rfl

theorem keyMatches_cases (T : KeyTable) (hT : PrefixFree T) (a : Bytes) :
    keyMatches T a = [] ∨ ∃ e ∈ T, bytesEq e.seq [27] = false ∧ e.seq <+: a ∧ keyMatches T a = [e] := by
  cases hm : keyMatches T a with
  | nil => exact Or.inl rfl
  | cons e l =>
    obtain ⟨heT, hesc, r, rfl⟩ := mem_keyMatches.mp (hm ▸ List.mem_cons_self : e ∈ keyMatches T a)
    exact Or.inr ⟨e, heT, hesc, ⟨r, rfl⟩, hm ▸ keyMatches_unique T hT e heT hesc r⟩

theorem parseFunctionKey_not_ambiguous (T : KeyTable) (hT : PrefixFree T) (st : PState) (a : Bytes) :
    parseFunctionKey T st a ≠ .ambiguous := by
  unfold parseFunctionKey
  rcases keyMatches_cases T hT a with h | ⟨e, _, _, _, h⟩ <;> rw [h]
  · dsimp only; split <;> nofun
  · exact nofun

theorem parseFunctionKey_complete_inv (T : KeyTable) (st : PState) (a : Bytes) (n : Nat) (evs : List Event) (st' : PState)
    (h : parseFunctionKey T st a = .complete n evs st') :
    ∃ e, keyMatches T a = [e] ∧ keyEvent st a e = .complete n evs st' := by
  unfold parseFunctionKey at h
  split at h
  · split at h <;> cases h
  · rename_i e he; exact ⟨e, he, h⟩
  · cases h

theorem mono_parseFunctionKey (T : KeyTable) (hT : PrefixFree T) (hne : NoEmptySeq T) : Mono (parseFunctionKey T) := by
  refine Mono.of_decided (fun st a b ha h => ?_) (fun st a n evs st' h => ?_)
  · unfold parseFunctionKey at h ⊢
    rcases keyMatches_cases T hT a with hm | ⟨e, heT, hesc, ⟨r, rfl⟩, hm⟩
    · -- nothing matches `a` and `a` is no proper prefix of a sequence: the same holds of `a ++ b`
      rw [hm] at h ⊢
      have hp : keyPartial T a = false := by cases hk : keyPartial T a <;> simp_all
      have hm' : keyMatches T (a ++ b) = [] := by
        rw [List.eq_nil_iff_forall_not_mem]
        intro e he
        obtain ⟨heT, hesc, hpre⟩ := mem_keyMatches.mp he
        rcases List.prefix_or_prefix_of_prefix hpre (List.prefix_append a b) with h1 | h1
        · exact List.not_mem_nil (hm ▸ mem_keyMatches.mpr ⟨heT, hesc, h1⟩)
        · rw [keyPartial_iff.mpr ⟨e, heT, hesc, h1⟩] at hp; cases hp
      have hp' : keyPartial T (a ++ b) = false := by
        cases hk : keyPartial T (a ++ b)
        · rfl
        · obtain ⟨e, heT, hesc, hpre⟩ := keyPartial_iff.mp hk
          rw [keyPartial_iff.mpr ⟨e, heT, hesc, (List.prefix_append a b).trans hpre⟩] at hp; cases hp
      rw [hm', hp, hp']
    · rw [hm, List.append_assoc, keyMatches_unique T hT e heT hesc (r ++ b), ← List.append_assoc]
      exact keyEvent_append st _ b e ha
  · obtain ⟨e, hm, hev⟩ := parseFunctionKey_complete_inv T st a n evs st' h
    obtain ⟨heT, _, hp⟩ := mem_keyMatches.mp (hm ▸ List.mem_cons_self : e ∈ keyMatches T a)
    have hn : n = e.seq.length := by unfold keyEvent at hev; injection hev with h1; exact h1.symm
    have := hp.length_le
    have := mt List.eq_nil_of_length_eq_zero (hne e heT)
    omega

theorem parseFocus_decided (st : PState) (a b : Bytes) (h : parseFocus st a ≠ .part) :
    parseFocus st (a ++ b) = parseFocus st a := by
  rcases a with _ | ⟨c0, _ | ⟨c1, _ | ⟨c2, r⟩⟩⟩
  · exact absurd rfl h
  · by_cases h0 : c0 = 27 <;> simp_all [parseFocus]
  · by_cases h0 : c0 = 27 <;> by_cases h1 : c1 = 91 <;> simp_all [parseFocus]
  · rfl

theorem parseFocus_complete_inv (st : PState) (a : Bytes) (n : Nat) (evs : List Event) (st' : PState)
    (h : parseFocus st a = .complete n evs st') :
    ∃ c2 r, a = 27 :: 91 :: c2 :: r ∧ (c2 = 73 ∨ c2 = 79) ∧ n = 3 ∧ evs = [.focus (c2 = 73)] ∧ st' = st := by
  rcases a with _ | ⟨c0, _ | ⟨c1, _ | ⟨c2, r⟩⟩⟩
  · simp [parseFocus] at h
  · by_cases h0 : c0 = 27 <;> simp [parseFocus, h0] at h
  · by_cases h0 : c0 = 27 <;> by_cases h1 : c1 = 91 <;> simp [parseFocus, h0, h1] at h
  · by_cases h0 : c0 = 27 <;> by_cases h1 : c1 = 91 <;> by_cases h2 : c2 = 73 ∨ c2 = 79 <;>
      simp [parseFocus, h0, h1, h2] at h
    exact ⟨c2, r, by rw [h0, h1], h2, h.1.symm, h.2.1.symm, h.2.2.symm⟩

theorem parseFocus_part_inv (st : PState) (a : Bytes) (h : parseFocus st a = .part) :
    a = [] ∨ a = [27] ∨ a = [27, 91] := by
  rcases a with _ | ⟨c0, _ | ⟨c1, _ | ⟨c2, r⟩⟩⟩
  · simp
  · by_cases h0 : c0 = 27 <;> simp_all [parseFocus]
  · by_cases h0 : c0 = 27 <;> by_cases h1 : c1 = 91 <;> simp_all [parseFocus]
  · by_cases h0 : c0 = 27 <;> by_cases h1 : c1 = 91 <;> by_cases h2 : c2 = 73 ∨ c2 = 79 <;>
      simp [parseFocus, h0, h1, h2] at h

theorem mono_parseFocus : Mono parseFocus :=
  Mono.of_decided (fun st a b _ h => parseFocus_decided st a b h) fun st a n evs st' h => by
    obtain ⟨c2, r, rfl, _, rfl, _, _⟩ := parseFocus_complete_inv st a n evs st' h
    simp only [List.length_cons]; omega

theorem x11Body_decided (cfg : Cfg) (st : PState) (k : Nat) (r b : Bytes) (h : x11Body cfg st k r ≠ .part) :
    x11Body cfg st k (r ++ b) = x11Body cfg st k r := by
  rcases r with _ | ⟨m, _ | ⟨cb, _ | ⟨cx, _ | ⟨cy, t⟩⟩⟩⟩
  · exact absurd rfl h
  · by_cases hm : m = 77 <;> simp_all [x11Body]
  · by_cases hm : m = 77 <;> simp_all [x11Body]
  · by_cases hm : m = 77 <;> simp_all [x11Body]
  · rfl

theorem x11Body_complete_inv (cfg : Cfg) (st : PState) (k : Nat) (r : Bytes) (n : Nat) (evs : List Event) (st' : PState)
    (h : x11Body cfg st k r = .complete n evs st') : ∃ cb cx cy t, r = 77 :: cb :: cx :: cy :: t ∧ n = k + 4 := by
  rcases r with _ | ⟨m, _ | ⟨cb, _ | ⟨cx, _ | ⟨cy, t⟩⟩⟩⟩
  · simp [x11Body] at h
  · by_cases hm : m = 77 <;> simp [x11Body, hm] at h
  · by_cases hm : m = 77 <;> simp [x11Body, hm] at h
  · by_cases hm : m = 77 <;> simp [x11Body, hm] at h
  · by_cases hm : m = 77
    · subst hm
      refine ⟨cb, cx, cy, t, rfl, ?_⟩
      cases hf : cfg.x11Fixed <;> simp [x11Body, hf, sgrFinish] at h <;> exact h.1.symm
    · simp [x11Body, hm] at h

theorem parseXtermMouse_esc (cfg : Cfg) (st : PState) (r : Bytes) :
    parseXtermMouse cfg st (27 :: 91 :: r) = x11Body cfg st 2 r := by simp [parseXtermMouse]

theorem parseXtermMouse_csi8 (cfg : Cfg) (st : PState) (r : Bytes) :
    parseXtermMouse cfg st (0x9b :: r) = x11Body cfg st 1 r := by simp [parseXtermMouse]

theorem parseXtermMouse_cases (a : Bytes) :
    a = [] ∨ a = [27] ∨ (∃ r, a = 27 :: 91 :: r) ∨ (∃ r, a = 0x9b :: r) ∨
      ∀ cfg st b, parseXtermMouse cfg st (a ++ b) = .reject := by
  rcases a with _ | ⟨c0, r0⟩
  · exact Or.inl rfl
  · by_cases h0 : c0 = 27
    · subst h0
      rcases r0 with _ | ⟨c1, r1⟩
      · exact Or.inr (Or.inl rfl)
      · by_cases h1 : c1 = 91
        · exact Or.inr (Or.inr (Or.inl ⟨r1, by rw [h1]⟩))
        · exact Or.inr (Or.inr (Or.inr (Or.inr fun cfg st b => by simp [parseXtermMouse, h1])))
    · by_cases h9 : c0 = 0x9b
      · exact Or.inr (Or.inr (Or.inr (Or.inl ⟨r0, by rw [h9]⟩)))
      · exact Or.inr (Or.inr (Or.inr (Or.inr fun cfg st b => by simp [parseXtermMouse, h0, h9])))

theorem parseXtermMouse_part_inv (cfg : Cfg) (st : PState) (a : Bytes) (h : parseXtermMouse cfg st a = .part) :
    a = [] ∨ a = [27] ∨ a = [27, 91] ∨ (∃ t, a = 27 :: 91 :: 77 :: t) ∨ a = [0x9b] ∨ (∃ t, a = 0x9b :: 77 :: t) := by
  have body : ∀ k r, x11Body cfg st k r = .part → r = [] ∨ ∃ t, r = 77 :: t := by
    intro k r hr
    rcases r with _ | ⟨m, t⟩
    · exact Or.inl rfl
    · by_cases hm : m = 77
      · exact Or.inr ⟨t, by rw [hm]⟩
      · simp [x11Body, hm] at hr
  rcases parseXtermMouse_cases a with rfl | rfl | ⟨r, rfl⟩ | ⟨r, rfl⟩ | hr
  · simp
  · simp
  · rw [parseXtermMouse_esc] at h
    rcases body 2 r h with rfl | ⟨t, rfl⟩ <;> simp
  · rw [parseXtermMouse_csi8] at h
    rcases body 1 r h with rfl | ⟨t, rfl⟩ <;> simp
  · have := hr cfg st []; rw [List.append_nil, h] at this; cases this

theorem parseXtermMouse_complete_inv (cfg : Cfg) (st : PState) (a : Bytes) (n : Nat) (evs : List Event) (st' : PState)
    (h : parseXtermMouse cfg st a = .complete n evs st') :
    (∃ cb cx cy t, a = 27 :: 91 :: 77 :: cb :: cx :: cy :: t ∧ n = 6) ∨ (∃ cb cx cy t, a = 0x9b :: 77 :: cb :: cx :: cy :: t ∧ n = 5) := by
  rcases parseXtermMouse_cases a with rfl | rfl | ⟨r, rfl⟩ | ⟨r, rfl⟩ | hr
  · simp [parseXtermMouse] at h
  · simp [parseXtermMouse] at h
  · rw [parseXtermMouse_esc] at h
    obtain ⟨cb, cx, cy, t, rfl, hn⟩ := x11Body_complete_inv cfg st 2 r n evs st' h
    exact Or.inl ⟨cb, cx, cy, t, rfl, hn⟩
  · rw [parseXtermMouse_csi8] at h
    obtain ⟨cb, cx, cy, t, rfl, hn⟩ := x11Body_complete_inv cfg st 1 r n evs st' h
    exact Or.inr ⟨cb, cx, cy, t, rfl, hn⟩
  · have := hr cfg st []; rw [List.append_nil, h] at this; cases this

theorem mono_parseXtermMouse (cfg : Cfg) : Mono (parseXtermMouse cfg) := by
  refine Mono.of_decided (fun st a b ha h => ?_) (fun st a n evs st' h => ?_)
  · rcases parseXtermMouse_cases a with rfl | rfl | ⟨r, rfl⟩ | ⟨r, rfl⟩ | hr
    · exact absurd rfl ha
    · exact absurd rfl h
    · rw [parseXtermMouse_esc] at h ⊢; exact x11Body_decided cfg st 2 r b h
    · rw [parseXtermMouse_csi8] at h ⊢; exact x11Body_decided cfg st 1 r b h
    · rw [hr cfg st b, ← hr cfg st [], List.append_nil]
  · rcases parseXtermMouse_complete_inv cfg st a n evs st' h with ⟨cb, cx, cy, t, rfl, rfl⟩ | ⟨cb, cx, cy, t, rfl, rfl⟩ <;>
      (simp only [List.length_cons]; omega)

theorem sgrRun_decided (cfg : Cfg) (st : PState) (b : Bytes) :
    ∀ (r : Bytes) (s : SgrSt) (i : Nat), sgrRun cfg st s r i ≠ .part → sgrRun cfg st s (r ++ b) i = sgrRun cfg st s r i := by
  intro r
  induction r with
  | nil => intro s i h; exact absurd rfl h
  | cons c rest ih =>
    intro s i h
    rw [List.cons_append]
    unfold sgrRun at h ⊢
    cases hs : sgrStepV cfg.sgrStrict s c with
    | cont s' => rw [hs] at h; exact ih s' (i + 1) h
    | rej | fin x y btn rel => rfl

theorem mono_parseSgrMouse (cfg : Cfg) : Mono (parseSgrMouse cfg) :=
  Mono.of_decided (fun st a b _ h => sgrRun_decided cfg st b a {} 0 h) fun st a n evs st' h => by
    have := sgrRun_bound cfg st n evs st' a {} 0 h
    omega

theorem clipLoopF_decided (st : PState) (b : Bytes) : ∀ (r : Bytes) (s : Nat) (seen : Bytes),
    clipLoopF st s seen r ≠ .part → clipLoopF st s seen (r ++ b) = clipLoopF st s seen r := by
  intro r
  induction r with
  | nil => intro s seen h; cases s <;> exact absurd rfl h
  | cons c rest ih =>
    intro s seen h
    rw [List.cons_append]
    cases s with
    | zero =>
      unfold clipLoopF at h ⊢
      by_cases h1 : isB64 c = true
      · simp only [h1, if_true] at h ⊢; exact ih 0 _ h
      · by_cases h2 : c = 27
        · subst h2; exact ih 1 _ h
        · simp [h1, h2]
    | succ k => rfl

theorem clipLoopF_bound (st : PState) (n : Nat) (evs : List Event) (st' : PState) :
    ∀ (r : Bytes) (s : Nat) (seen : Bytes), clipLoopF st s seen r = .complete n evs st' →
      7 + seen.length + 1 ≤ n ∧ n ≤ 7 + seen.length + r.length := by
  intro r
  induction r with
  | nil => intro s seen h; cases s <;> simp [clipLoopF] at h
  | cons c rest ih =>
    intro s seen h
    cases s with
    | zero =>
      unfold clipLoopF at h
      by_cases h1 : isB64 c = true
      · simp only [h1, if_true] at h
        have := ih 0 _ h
        simp only [List.length_append, List.length_cons, List.length_nil] at this ⊢; omega
      · by_cases h2 : c = 27
        · subst h2
          have := ih 1 _ h
          simp only [List.length_append, List.length_cons, List.length_nil] at this ⊢; omega
        · simp only [h1, h2, if_false] at h
          by_cases h3 : c = 7 <;> simp [h3] at h
          simp only [List.length_cons]; omega
    | succ k =>
      unfold clipLoopF at h
      by_cases h3 : c = 92 <;> simp [h3] at h
      simp only [List.length_cons]; omega

theorem parseClipboardF_complete_inv (st : PState) (a : Bytes) (n : Nat) (evs : List Event) (st' : PState)
    (h : parseClipboardF st a = .complete n evs st') :
    7 < a.length ∧ hasPrefix a clipPrefix = true ∧ clipLoopF st 0 [] (a.drop 7) = .complete n evs st' := by
  unfold parseClipboardF at h
  by_cases hl : a.length ≤ 7
  · simp only [hl, if_true] at h
    split at h <;> cases h
  · simp only [hl, if_false] at h
    cases hp : hasPrefix a clipPrefix with
    | false => simp [hp] at h
    | true => simp [hp] at h; exact ⟨by omega, rfl, h⟩

theorem mono_parseClipboardF : Mono parseClipboardF := by
  refine Mono.of_decided (fun st a b _ h => ?_) (fun st a n evs st' h => ?_)
  · -- whether the seven prefix bytes are there (or can still come) is decided by `a`
    have hpa : ¬ a <+: clipPrefix → ¬ (a ++ b) <+: clipPrefix := fun h1 h2 => h1 ((List.prefix_append a b).trans h2)
    have hpp : ¬ a <+: clipPrefix → ¬ clipPrefix <+: a → ¬ clipPrefix <+: a ++ b := fun h1 h2 h3 =>
      (List.prefix_or_prefix_of_prefix h3 (List.prefix_append a b)).elim h2 h1
    unfold parseClipboardF at h ⊢
    by_cases hl : a.length ≤ 7
    · have hn : ¬ a <+: clipPrefix := by
        intro hp; simp only [hl, if_true, hasPrefix_iff.mpr hp] at h; exact h rfl
      have hn' : ¬ clipPrefix <+: a := fun hp =>
        hn (hp.eq_of_length (Nat.le_antisymm hp.length_le hl) ▸ List.prefix_refl _)
      simp only [hl, if_true, Bool.eq_false_iff.mpr (mt hasPrefix_iff.mp hn),
        Bool.eq_false_iff.mpr (mt hasPrefix_iff.mp (hpa hn)), Bool.eq_false_iff.mpr (mt hasPrefix_iff.mp (hpp hn hn'))]
      split <;> simp
    · have hl' : ¬ (a ++ b).length ≤ 7 := by rw [List.length_append]; omega
      have hd : (a ++ b).drop 7 = a.drop 7 ++ b := List.drop_append_of_le_length (by omega)
      have hpre : clipPrefix <+: a ++ b ↔ clipPrefix <+: a :=
        ⟨fun hp => List.prefix_of_prefix_length_le hp (List.prefix_append a b) (by simp [clipPrefix]; omega),
         fun hp => hp.trans (List.prefix_append a b)⟩
      have hb : hasPrefix (a ++ b) clipPrefix = hasPrefix a clipPrefix := by
        rw [Bool.eq_iff_iff, hasPrefix_iff, hasPrefix_iff, hpre]
      simp only [hl, hl', if_false, hb, hd] at h ⊢
      split
      · rfl
      · rename_i hp; rw [if_neg hp] at h; exact clipLoopF_decided st b _ 0 [] h
  · obtain ⟨hl, _, hloop⟩ := parseClipboardF_complete_inv st a n evs st' h
    have := clipLoopF_bound st n evs st' _ 0 [] hloop
    simp only [List.length_nil, List.length_drop] at this
    omega

end Tcell.Lemmas.Chunk
