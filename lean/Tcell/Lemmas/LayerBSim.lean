/-
Layer B of C01/C13/C09: the abstraction relation `Rep` between the byte-level reference emulator
(`Spec.Ecma48.Term`) and the abstract terminal of Layer A (`ATerm`), what a tcell `Style` denotes on a terminal (`penOf`), and
the simulation of `Cmd.put`: feeding a cell payload to an emulator that represents `a` yields an emulator that represents `a`
after `putAt` (`sim_put`; the other commands: `Lemmas/LayerBCmd.lean`).
-/
import Tcell.Lemmas.LayerBCaps
import Tcell.Lemmas.LayerBEmu
import Tcell.Lemmas.Draw
namespace Tcell.LayerB
open Tcell Tcell.Spec.Ecma48 Tcell.Spec.Ecma48.Term

/-- direct colour is in use: the application asked for it and the description has the RGB strings -/
def hasRGB (rc : RenderCfg) : Bool := rc.truecolor && !rc.ti.setFgRGB.isEmpty

def rgbSel (col : Nat) : ColorSel := .rgb (Color.rgb col).1.toNat (Color.rgb col).2.1.toNat (Color.rgb col).2.2.toNat

/-- the colour selection a foreground / background colour value denotes: exact RGB on direct-colour terminals, the
    palette index (nearest palette entry for colours outside the palette) otherwise, default for invalid / reset -/
def colSel (rc : RenderCfg) (col : Nat) : ColorSel :=
  if hasRGB rc && Color.isRGB col then rgbSel col
  else if Color.valid col && decide (rc.ti.colors ≠ 0) then .idx (Render.fitColor rc col % 256)
  else .default

/-- the colours `op` (ResetFgBg) leaves in the pen: the defaults — except on aixterm (green on black) and pcansi (white on
    black), whose `op` sets colours -/
def opSel (rc : RenderCfg) : ColorSel × ColorSel :=
  if rc.ti.resetFgBg = opAix then (.idx 2, .idx 0) else if rc.ti.resetFgBg = opPc then (.idx 7, .idx 0) else (.default, .default)

/-- foreground / background of a style with colours `fg`, `bg`: sendFgBg (tscreen.go:760) writes `op` when either is
    `ColorReset`, then the colour strings for the valid ones — so a colour for which nothing is written shows what `op` left -/
def fgSel (rc : RenderCfg) (fg bg : Nat) : ColorSel :=
  if colSel rc fg = .default ∧ (fg = colorReset ∨ bg = colorReset) then (opSel rc).1 else colSel rc fg
def bgSel (rc : RenderCfg) (fg bg : Nat) : ColorSel :=
  if colSel rc bg = .default ∧ (fg = colorReset ∨ bg = colorReset) then (opSel rc).2 else colSel rc bg

/-- monochrome terminals (`Colors == 0`, tscreen.go:741-758): a valid foreground colour that is nearer to black than to
    white (`fit0` = `FindColor(fg, {black, white})`) is shown by flipping reverse video -/
def monoFlip (rc : RenderCfg) (fg : Nat) : Bool :=
  decide (rc.ti.colors = 0) && Color.valid fg && decide (rc.fit0 fg = Render.colorBlack)

def ulSel (rc : RenderCfg) (uc : Nat) : ColorSel :=
  if rc.d.underColor.isEmpty then .default
  else if uc = colorReset then .default
  else if Color.isRGB uc then rgbSel uc
  else if Color.valid uc then .idx (uc % 256)
  else .default

def ulStyleOf (rc : RenderCfg) (us : Nat) : Nat :=
  if us = 0 then 0
  else if us = 2 ∧ !rc.d.doubleUnder.isEmpty then 2
  else if us = 3 ∧ !rc.d.curlyUnder.isEmpty then 3
  else if us = 4 ∧ !rc.d.dottedUnder.isEmpty then 4
  else if us = 5 ∧ !rc.d.dashedUnder.isEmpty then 5
  else if rc.ti.underline.isEmpty then 0   -- no `smul` (sun, sun-color): nothing is written, nothing is underlined
  else 1

def bit (attrs b : Nat) : Bool := attrs / b % 2 = 1

/-- lossy UTF-8 text of an OSC argument as the emulator decodes it -/
def textOf (bs : Bytes) : String := String.ofList (decodeText true bs)

/-- **the SGR state a tcell `Style` denotes on the terminal `rc`** (attributes the description has no string for are
    not shown; underline follows the underline *style*, as the code does) -/
def penOf (rc : RenderCfg) (s : Style) : Pen :=
  { fg := fgSel rc s.fg s.bg, bg := bgSel rc s.fg s.bg,
    bold := bit s.attrs Render.attrBold && !rc.ti.bold.isEmpty,
    dim := bit s.attrs Render.attrDim && !rc.ti.dim.isEmpty,
    italic := bit s.attrs Render.attrItalic && !rc.ti.italic.isEmpty,
    blink := bit s.attrs Render.attrBlink && !rc.ti.blink.isEmpty,
    reverse := (bit s.attrs Render.attrReverse != monoFlip rc s.fg) && !rc.ti.reverse.isEmpty,
    strike := bit s.attrs Render.attrStrike && !rc.ti.strikeThrough.isEmpty,
    ul := ulStyleOf rc s.ulStyle,
    ulColor := if s.ulStyle = 0 then .default else ulSel rc s.ulColor,
    link := if s.url = "" then none else some (textOf (str s.urlId), textOf (str s.url)) }

def CellRep (rc : RenderCfg) (g : GCell) : ACell → Prop
  | .garbage => True
  | .cont => g.cont = true ∧ g.garbage = false
  | .shown b _ st => g.cont = false ∧ g.garbage = false ∧ g.runes.flatMap Utf8.encode = b ∧ g.pen = penOf rc st

/-- the emulator cursor is where the abstract terminal knows it to be; column `w` (just past the last column) is
    the last column with the wrap pending (on auto-margin terminals) -/
def CurRep (t : Term) (x y : Int) : Prop :=
  t.cursorKnown = true ∧ t.cy = y.toNat ∧
  (x < t.grid.w → t.cx = x.toNat ∧ t.pendingWrap = false) ∧
  (x = t.grid.w → t.cx + 1 = t.grid.w ∧ t.pendingWrap = t.modes.autoMargin)

/-- state the library cannot re-establish on a terminal whose description lacks the capability — so it has to hold from the
    start and the environment must not disturb it: no hyperlink is active when the screen has no hyperlink strings
    (tscreen.go:905 writes nothing then); the cursor is visible when there is no cursor-visibility string (`cnorm`/`civis`
    absent: showCursor writes nothing, hideCursor parks the cursor in the bottom-right corner instead, tscreen.go:1037); and the
    terminal is of the kind the description describes as far as FF is concerned -/
structure Quiet (rc : RenderCfg) (t : Term) : Prop where
  link : rc.d.enterUrl = [] → t.linkKnown = true ∧ t.pen.link = none
  vis : rc.ti.hideCursor = [] → t.modes.cursorVisible = true
  /-- a terminal whose `clear` string is FF (form feed) is one that clears the display on FF — the Sun console; the reference
      emulator does so when configured with `ffClears` (a property of the terminal, not a state: no input changes it) -/
  ff : Tcell.Spec.TermCaps.stripPadding rc.ti.clear = [12] → t.cfg.ffClears = true

/-- `Rep dc rc t a`: the byte-level emulator state `t` represents the abstract terminal `a` -/
structure Rep (dc : DrawCfg) (rc : RenderCfg) (t : Term) (a : ATerm) : Prop where
  good : Good dc.rw t
  quiet : Quiet rc t
  w : (t.grid.w : Int) = a.w
  h : (t.grid.h : Int) = a.h
  /-- wherever the abstract terminal claims something about a cell, the emulator grid shows it -/
  cells : ∀ i j : Nat, i < t.grid.w → j < t.grid.h → CellRep rc (t.grid.get i j) (a.grid i j)
  /-- a right half in the emulator grid that the abstract terminal does not know about sits right of a cell it
      claims nothing about (needed for induction: overwriting such a half blanks its left neighbour) -/
  conts : ∀ i j : Nat, (t.grid.get (i + 1) j).cont = true → a.grid ((i : Int) + 1) j = .cont ∨ a.grid i j = .garbage
  cur : ∀ x y : Int, a.cur = some (x, y) → 0 ≤ x → 0 ≤ y → CurRep t x y
  pen : ∀ s, a.pen = some s → t.penKnown = true ∧ t.linkKnown = true ∧ t.pen = penOf rc s
  vis : ∀ b, a.visible = some b → t.modes.cursorVisible = b
  shape : ∀ cs cc, a.shape = some (cs, cc) → cs < 7 → rc.d.cursorStyles ≠ none → t.modes.cursorShape = cs

theorem Rep.cell {dc : DrawCfg} {rc : RenderCfg} {t : Term} {a : ATerm} (R : Rep dc rc t a) {x y : Int}
    (h : a.inGrid x y) : CellRep rc (t.grid.get x.toNat y.toNat) (a.grid x y) := by
  obtain ⟨h0, h1, h2, h3⟩ := h
  have hw := R.w; have hh := R.h
  have := R.cells x.toNat y.toNat (by omega) (by omega)
  rwa [Int.toNat_of_nonneg h0, Int.toNat_of_nonneg h2] at this

theorem Rep.cursor {dc : DrawCfg} {rc : RenderCfg} {t : Term} {a : ATerm} (R : Rep dc rc t a) {x y : Int}
    (hc : a.cur = some (x, y)) (h : a.inGrid x y) :
    t.cursorKnown = true ∧ (t.cx : Int) = x ∧ (t.cy : Int) = y ∧ t.pendingWrap = false := by
  obtain ⟨h0, h1, h2, _⟩ := h
  obtain ⟨ck, cy, c1, _⟩ := R.cur x y hc h0 h2
  obtain ⟨cx, pw⟩ := c1 (by rw [R.w]; exact h1)
  exact ⟨ck, cx ▸ Int.toNat_of_nonneg h0, cy ▸ Int.toNat_of_nonneg h2, pw⟩

/-- payloads the draw path produces in a UTF-8 locale: a printable scalar value of table width `width` ∈ {1,2}
    followed by admissible combining runes -/
def PayloadOk (rw : Int → Int) (bytes : List Nat) (width : Int) : Prop :=
  ∃ (m : Int) (comb : List Int), bytes = Utf8.encode m ++ comb.flatMap Utf8.encode ∧ Utf8.validRune m = true ∧ 32 ≤ m ∧ ¬ (127 ≤ m ∧ m ≤ 159) ∧
    rw m = width ∧ (width = 1 ∨ width = 2) ∧ ∀ c ∈ comb, CombOk rw c

theorem encode_ne_nil (m : Int) : Utf8.encode m ≠ [] := by
  unfold Utf8.encode Utf8.encodeNat; split
  · split
    · simp
    · split
      · simp
      · split <;> simp
  · simp

theorem putAt_nat (a : ATerm) (cx cy i j wd : Nat) (hwd : wd = 1 ∨ wd = 2) (b : List Nat) (st : Style) :
    (a.putAt cx cy b wd st).grid i j =
      if wd = 2 ∧ i = cx + 1 ∧ j = cy then .cont
      else if i = cx ∧ j = cy then .shown b (decide ((wd : Int) > 1)) st
      else if i = cx + wd ∧ j = cy ∧ a.grid ((cx + wd : Nat) : Int) cy = .cont then .garbage
      else if i + 1 = cx ∧ j = cy ∧ a.grid cx cy = .cont then .garbage
      else a.grid i j := by
  have k0 : ((i : Int) = (cx : Int)) ↔ i = cx := by omega
  have k1 : ((i : Int) = (cx : Int) + 1) ↔ i = cx + 1 := by omega
  have k2 : ((i : Int) = (cx : Int) + 2) ↔ i = cx + 2 := by omega
  have km : ((i : Int) = (cx : Int) - 1) ↔ i + 1 = cx := by omega
  have kj : ((j : Int) = (cy : Int)) ↔ j = cy := by omega
  rw [ATerm.putAt_grid]
  rcases hwd with rfl | rfl <;> simp [k0, k1, k2, km, kj]

theorem cellRep_cont_of {rc : RenderCfg} {g : GCell} {c : ACell} (h : CellRep rc g c) (hc : g.cont = true) :
    c = .cont ∨ c = .garbage := by
  cases c with
  | garbage => right; rfl
  | cont => left; rfl
  | shown b w st => simp [CellRep, hc] at h

theorem cellRep_halfBlank {rc : RenderCfg} (g : GCell) (s : Nat) : CellRep rc (Grid.halfBlank g s) .garbage := trivial

theorem rep_transfer {dc : DrawCfg} {rc : RenderCfg} {t t' : Term} {a a' : ATerm} (R : Rep dc rc t a) (s : Same t t')
    (hw : a'.w = a.w) (hh : a'.h = a.h) (hpen : a'.pen = a.pen) (hvis : a'.visible = a.visible) (hshape : a'.shape = a.shape)
    (cells : ∀ i j : Nat, i < t'.grid.w → j < t'.grid.h → CellRep rc (t'.grid.get i j) (a'.grid i j))
    (conts : ∀ i j : Nat, (t'.grid.get (i + 1) j).cont = true → a'.grid ((i : Int) + 1) j = .cont ∨ a'.grid i j = .garbage)
    (cur : ∀ x y : Int, a'.cur = some (x, y) → 0 ≤ x → 0 ≤ y → CurRep t' x y) : Rep dc rc t' a' :=
  { good := R.good.of_same s,
    quiet := ⟨fun h => by rw [s.linkKnown, s.pen]; exact R.quiet.link h, fun h => by rw [s.modes]; exact R.quiet.vis h,
              fun h => by rw [s.cfg]; exact R.quiet.ff h⟩,
    w := by rw [s.w, hw]; exact R.w, h := by rw [s.h, hh]; exact R.h, cells := cells, conts := conts,
    cur := cur,
    pen := by intro st h; rw [hpen] at h; rw [s.penKnown, s.linkKnown, s.pen]; exact R.pen st h,
    vis := by intro b h; rw [hvis] at h; rw [s.modes]; exact R.vis b h,
    shape := by intro cs cc h h7 hn; rw [hshape] at h; rw [s.modes]; exact R.shape cs cc h h7 hn }

/-- **simulation of `put`**: a cell payload of `wd` columns printed at the known, in-grid cursor with a known pen -/
theorem sim_put {dc : DrawCfg} {rc : RenderCfg} {t : Term} {a : ATerm} (R : Rep dc rc t a)
    (m : Int) (comb : List Int) (st : Style) (x y : Int) (wd : Nat)
    (hv : Utf8.validRune m = true) (h32 : 32 ≤ m) (hc : ¬ (127 ≤ m ∧ m ≤ 159)) (hw : dc.rw m = wd) (hwd : wd = 1 ∨ wd = 2)
    (hcomb : ∀ c ∈ comb, CombOk dc.rw c)
    (hcur : a.cur = some (x, y)) (hpen : a.pen = some st) (hin : a.inGrid x y) (hfit : x + wd ≤ a.w) :
    Rep dc rc (t.feed (Utf8.encode m ++ comb.flatMap Utf8.encode))
      (a.putAt x y (Utf8.encode m ++ comb.flatMap Utf8.encode) wd st) := by
  obtain ⟨hx0, hxw, hy0, hyh⟩ := hin
  obtain ⟨ck, ccy, c1, _⟩ := R.cur x y hcur hx0 hy0
  have hgw := R.w; have hgh := R.h
  obtain ⟨ccx, cpw⟩ := c1 (by omega)
  obtain rfl : x = (t.cx : Int) := by omega
  obtain rfl : y = (t.cy : Int) := by omega
  have P := feed_payload R.good m comb wd hv h32 hc hw hwd hcomb ck cpw (by omega) (by omega)
  generalize t.feed (Utf8.encode m ++ comb.flatMap Utf8.encode) = t' at P ⊢
  obtain ⟨pk, lk, pe⟩ := R.pen st hpen
  have hgar : (!(t.penKnown && t.linkKnown)) = false := by rw [pk, lk]; rfl
  have inR : ∀ i j, (t.grid.get i j).cont = true → i < t.grid.w ∧ j < t.grid.h := fun i j => get_cont_inrange _ i j
  apply rep_transfer R P.same (by simp) (by simp) (by simp) (by simp) (by simp)
  · intro i j hi hj
    rw [P.same.w] at hi; rw [P.same.h] at hj
    rw [putAt_nat a t.cx t.cy i j wd hwd]
    split
    · rename_i h; rw [h.2.1, h.2.2]; exact ⟨(P.right h.1).1, (P.right h.1).2.trans hgar⟩
    · split
      · rename_i h; rw [h.1, h.2]
        exact ⟨P.glyph.2.2.1, P.glyph.2.2.2.trans hgar, by rw [P.glyph.1]; rfl, P.glyph.2.1.trans pe⟩
      · rename_i hA hB
        rw [P.other i j (fun e => by rcases hwd with rfl | rfl <;> omega)]
        by_cases n1 : i = t.cx + wd ∧ j = t.cy ∧ a.grid ((t.cx + wd : Nat) : Int) t.cy = .cont
        · rw [if_pos n1]; trivial
        · rw [if_neg n1]
          by_cases n2 : i + 1 = t.cx ∧ j = t.cy ∧ a.grid t.cx t.cy = .cont
          · rw [if_pos n2]; trivial
          · rw [if_neg n2]
            by_cases e : j = t.cy ∧ i + 1 = t.cx ∧ (t.grid.get t.cx t.cy).cont = true
            · -- the left half of a wide glyph whose right half is overwritten
              rw [if_pos e]
              rcases R.conts i j (by rw [e.2.1, e.1]; exact e.2.2) with h | h
              · exact absurd ⟨e.2.1, e.1, by rw [show ((t.cx : Nat) : Int) = (i : Int) + 1 by omega, ← e.1]; exact h⟩ n2
              · rw [h]; trivial
            · rw [if_neg e]
              by_cases e' : j = t.cy ∧ i = t.cx + wd ∧ (t.grid.get (t.cx + wd) t.cy).cont = true
              · -- the right half of a wide glyph whose left half is overwritten
                rw [if_pos e']
                have hr := inR _ _ e'.2.2
                rcases cellRep_cont_of (R.cells _ _ hr.1 hr.2) e'.2.2 with h | h
                · exact absurd ⟨e'.2.1, e'.1, h⟩ n1
                · rw [e'.1, e'.2.1, h]; trivial
              · rw [if_neg e']; exact R.cells i j hi hj
  · intro i j hcj
    rw [show (i : Int) + 1 = ((i + 1 : Nat) : Int) by omega, putAt_nat a t.cx t.cy _ j wd hwd, putAt_nat a t.cx t.cy i j wd hwd]
    by_cases hA : wd = 2 ∧ i + 1 = t.cx + 1 ∧ j = t.cy
    · left; rw [if_pos hA]
    · have hB : ¬ (i + 1 = t.cx ∧ j = t.cy) := fun e => by rw [e.1, e.2, P.glyph.2.2.1] at hcj; cases hcj
      rw [P.other _ j (fun e => by rcases hwd with rfl | rfl <;> omega)] at hcj
      have n1 : ¬ (j = t.cy ∧ i + 1 + 1 = t.cx ∧ (t.grid.get t.cx t.cy).cont = true) := fun e => by
        rw [if_pos e] at hcj; cases hcj
      rw [if_neg n1] at hcj
      have n2 : ¬ (j = t.cy ∧ i + 1 = t.cx + wd ∧ (t.grid.get (t.cx + wd) t.cy).cont = true) := fun e => by
        rw [if_pos e] at hcj; cases hcj
      rw [if_neg n2] at hcj
      have hr := inR _ _ hcj
      rw [if_neg hA, if_neg hB,
        if_neg (fun e => n2 ⟨e.2.1, e.1, by
          have := R.cells (t.cx + wd) t.cy (by omega) (by omega); rw [e.2.2] at this; exact this.1⟩),
        if_neg (fun e => n1 ⟨e.2.1, e.1, by have := R.cells t.cx t.cy (by omega) (by omega); rw [e.2.2] at this; exact this.1⟩)]
      rcases R.conts i j hcj with h | h
      · left; rw [show ((i + 1 : Nat) : Int) = (i : Int) + 1 by omega]; exact h
      · right
        have e1 : ¬ (i + 1 = t.cx + wd ∧ j = t.cy) := fun e => n2 ⟨e.2, e.1, by rw [← e.1, ← e.2]; exact hcj⟩
        have e2 : ¬ (i = t.cx ∧ j = t.cy) := fun e => by
          rcases hwd with rfl | rfl
          · exact e1 ⟨by omega, e.2⟩
          · exact hA ⟨rfl, by omega, e.2⟩
        rw [if_neg (fun e => e1 ⟨by omega, e.2.2⟩), if_neg e2]
        split
        · rfl
        · split
          · rfl
          · exact h
  · intro x' y' hc' hx' hy'
    simp only [ATerm.putAt_cur, Option.some.injEq, Prod.mk.injEq] at hc'
    obtain ⟨rfl, rfl⟩ := hc'
    refine ⟨by rw [P.same.cursorKnown]; exact ck, by rw [P.cy]; omega, ?_, ?_⟩
    · intro hlt; rw [P.same.w] at hlt
      rw [P.cx, P.pw, if_pos (by omega), if_pos (by omega)]; exact ⟨by omega, rfl⟩
    · intro heq; rw [P.same.w] at heq
      rw [P.cx, P.pw, if_neg (by omega), if_neg (by omega), P.same.w, P.same.modes]; exact ⟨by rcases hwd with rfl | rfl <;> omega, rfl⟩

end Tcell.LayerB
