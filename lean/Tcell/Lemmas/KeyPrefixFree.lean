import Tcell.Model.Parser
import Tcell.Model.KeySort
import Tcell.Lemmas.MouseSeq
import Tcell.Lemmas.PrefixFree
/-
Namespace `Tcell.Lemmas.PrefixFree`: prefix-freeness of the parser model's key tables (`KeyTable`) from a linear
certificate: a table sorted by sequence in which no sequence is a prefix of its successor is pairwise prefix-free;
then in such a table exactly one entry matches (`keyMatches_unique`).  The same certificate for plain lists of byte
strings (terminfo capability sets, C14) is `Tcell.PrefixFree`, in `Lemmas/PrefixFree.lean`.
-/
namespace Tcell.Lemmas.PrefixFree
open Tcell Tcell.Model Tcell.Lemmas.Collect

theorem beq_iff {a b : Nat} : Nat.beq a b = true ↔ a = b := ⟨Nat.eq_of_beq_eq_true, fun h => h ▸ Nat.beq_refl a⟩
theorem blt_iff {a b : Nat} : Nat.blt a b = true ↔ a < b := by
  unfold Nat.blt; rw [Nat.ble_eq]; omega

theorem blt_false {a b : Nat} (h : ¬ a < b) : Nat.blt a b = false := by
  cases hb : Nat.blt a b with
  | true => exact absurd (blt_iff.mp hb) h
  | false => rfl
theorem beq_false {a b : Nat} (h : a ≠ b) : Nat.beq a b = false := by
  cases hb : Nat.beq a b with
  | true => exact absurd (beq_iff.mp hb) h
  | false => rfl

theorem hasPrefix_refl : ∀ a : Bytes, hasPrefix a a = true
  | [] => rfl
  | x :: a => by simp [hasPrefix, Nat.beq_refl, hasPrefix_refl a]

theorem lexLe_iff : ∀ a b : Bytes, lexLe a b = true ↔ a ≤ b
  | [], b => by simp [lexLe]
  | _ :: _, [] => by simp [lexLe]
  | x :: a, y :: b => by
    rw [List.cons_le_cons_iff, ← lexLe_iff a b, lexLe]
    by_cases h : x < y
    · simp [blt_iff.mpr h, h]
    · by_cases h2 : x = y <;> simp [blt_false h, h, h2, Nat.beq_refl, beq_false]

/-- neither sequence is a prefix of the other (in particular they differ) -/
def Incomparable (a b : KeyEntry) : Prop := hasPrefix b.seq a.seq = false ∧ hasPrefix a.seq b.seq = false

def PrefixFree (T : KeyTable) : Prop := T.Pairwise Incomparable

/-- the linear certificate: sorted by sequence, and no sequence is a prefix of its successor -/
def chainOK : KeyTable → Bool
  | a :: b :: rest => lexLe a.seq b.seq && !hasPrefix b.seq a.seq && chainOK (b :: rest)
  | _ => true

theorem chain_head (a : KeyEntry) : ∀ (T : KeyTable), chainOK (a :: T) = true →
    ∀ c ∈ T, a.seq ≤ c.seq ∧ Incomparable a c := by
  intro T
  induction T generalizing a with
  | nil => intro _ c hc; simp at hc
  | cons b T ih =>
    intro h c hc
    simp only [chainOK, Bool.and_eq_true, Bool.not_eq_true', lexLe_iff, ← Bool.not_eq_true, hasPrefix_iff] at h
    obtain ⟨⟨hab, hnp⟩, hrest⟩ := h
    -- an extension that is not greater is equal
    have inc_of (c : KeyEntry) (hle : a.seq ≤ c.seq) (hn : ¬ a.seq <+: c.seq) : Incomparable a c := by
      simp only [Incomparable, ← Bool.not_eq_true, hasPrefix_iff]
      exact ⟨hn, fun h => hn (List.le_antisymm hle h.le ▸ List.prefix_refl _)⟩
    rcases List.mem_cons.mp hc with rfl | hc'
    · exact ⟨hab, inc_of _ hab hnp⟩
    · have hb := ih b hrest c hc'
      have hle := List.le_trans hab hb.1
      exact ⟨hle, inc_of c hle fun h => hnp (Tcell.PrefixFree.sandwich _ _ _ h hab hb.1)⟩

theorem prefixFree_of_chain : ∀ (T : KeyTable), chainOK T = true → PrefixFree T := by
  intro T
  induction T with
  | nil => intro _; exact List.Pairwise.nil
  | cons a T ih =>
    intro h
    refine List.Pairwise.cons (fun c hc => (chain_head a T h c hc).2) (ih ?_)
    cases T with
    | nil => rfl
    | cons b T => simp only [chainOK, Bool.and_eq_true] at h; exact h.2

theorem pf_unique : ∀ (T : KeyTable), PrefixFree T → ∀ x ∈ T, ∀ y ∈ T, hasPrefix y.seq x.seq = true → x = y := by
  intro T hT
  induction hT with
  | nil => intro x hx; simp at hx
  | cons hhead _ ih =>
    intro x hx y hy hp
    rcases List.mem_cons.mp hx with rfl | hx' <;> rcases List.mem_cons.mp hy with rfl | hy'
    · rfl
    · have := (hhead y hy').1; rw [this] at hp; cases hp
    · have := (hhead x hx').2; rw [this] at hp; cases hp
    · exact ih x hx' y hy' hp

/-- **unique match**: in a prefix-free table the entries matching a buffer that starts with the sequence of `e` are
exactly `[e]` — `parseFunctionKey` cannot depend on map iteration order -/
theorem keyMatches_unique (T : KeyTable) (hT : PrefixFree T) (e : KeyEntry) (he : e ∈ T) (hne : bytesEq e.seq [27] = false)
    (rest : Bytes) : keyMatches T (e.seq ++ rest) = [e] := by
  have hmem : e ∈ keyMatches T (e.seq ++ rest) := mem_keyMatches.mpr ⟨he, hne, List.prefix_append _ _⟩
  -- every match is comparable with `e`, hence is `e`; and the matches, a sublist of `T`, are pairwise incomparable
  have hall : ∀ x ∈ keyMatches T (e.seq ++ rest), x = e := fun x hx => by
    obtain ⟨hxT, _, hp⟩ := mem_keyMatches.mp hx
    rcases List.prefix_or_prefix_of_prefix hp (List.prefix_append e.seq rest) with h | h
    · exact pf_unique T hT x hxT e he (hasPrefix_iff.mpr h)
    · exact (pf_unique T hT e he x hxT (hasPrefix_iff.mpr h)).symm
  have hpw : (keyMatches T (e.seq ++ rest)).Pairwise Incomparable := hT.sublist List.filter_sublist
  cases hm : keyMatches T (e.seq ++ rest) with
  | nil => rw [hm] at hmem; cases hmem
  | cons x l =>
    rw [hm] at hall hpw
    obtain rfl := hall x List.mem_cons_self
    cases l with
    | nil => rfl
    | cons y l' =>
      obtain rfl := hall y (by simp)
      have := ((List.pairwise_cons.mp hpw).1 y List.mem_cons_self).1
      rw [hasPrefix_refl] at this; cases this

end Tcell.Lemmas.PrefixFree
