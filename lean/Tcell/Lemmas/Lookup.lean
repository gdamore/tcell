import Tcell.Model.Lookup
/-! Lemmas about the lookup model (`Tcell.Model.Lookup`): suffix stripping, the body of `LookupTerminfo` by cases on the
    name, congruence in the recursive call and fuel adequacy (termination made explicit), frame conditions, the value a
    caller sees, the first resolving sibling, agreement of the pinned and the repaired code. -/
namespace Tcell.Lookup
open Tcell

abbrev Look := Registry → Name → Option Res × Registry

/-! ## suffixes -/

theorem stripSuffix_some {suf name base : Name} (h : stripSuffix suf name = some base) : name = base ++ suf := by
  unfold stripSuffix at h
  split at h
  · rename_i hs
    obtain ⟨t, rfl⟩ := List.isSuffixOf_iff_suffix.mp hs
    simp only [Option.some.injEq] at h
    subst h
    simp
  · cases h

theorem stripSuffix_append (suf base : Name) : stripSuffix suf (base ++ suf) = some base := by
  unfold stripSuffix
  have : suf.isSuffixOf (base ++ suf) = true := List.isSuffixOf_iff_suffix.mpr ⟨base, rfl⟩
  simp [this]

theorem stripSuffix_length {suf name base : Name} (h : stripSuffix suf name = some base) :
    name.length = base.length + suf.length := by
  rw [stripSuffix_some h]; simp

theorem stripSuffix_none_of_not_suffix {suf name : Name} (h : suf.isSuffixOf name = false) : stripSuffix suf name = none := by
  simp [stripSuffix, h]

theorem stripSuffix_truecolor_256 (base : Name) : stripSuffix sfxTruecolor (base ++ sfx256color) = none := by
  apply stripSuffix_none_of_not_suffix
  simp [List.isSuffixOf, sfxTruecolor, sfx256color, List.isPrefixOf]

theorem stripSuffix_256_truecolor (base : Name) : stripSuffix sfx256color (base ++ sfxTruecolor) = none := by
  apply stripSuffix_none_of_not_suffix
  simp [List.isSuffixOf, sfxTruecolor, sfx256color, List.isPrefixOf]

theorem sufTrue_shorter {s : Name} (h : s ∈ sufTrue) : s.length < sfxTruecolor.length := by
  simp [sufTrue] at h
  rcases h with rfl | rfl | rfl | rfl <;> decide

theorem suf256_shorter {s : Name} (h : s ∈ suf256) : s.length < sfx256color.length := by
  simp [suf256] at h
  rcases h with rfl | rfl <;> decide

/-! ## the lookup by cases on the name -/

/-- terminfo.go:746-780 applied to the outcome `p` of the search: `ErrTermNotFound`, or the amendments -/
def finishFound (copy : Bool) (env : Env) (p : Option Res × Registry) (addTC add256 : Bool) : Option Res × Registry :=
  match p with
  | (some r, R) => (some (finish copy env R r addTC add256).1, (finish copy env R r addTC add256).2)
  | (none, R) => (none, R)

theorem finishFound_isSome (copy : Bool) (env : Env) (p : Option Res × Registry) (a b : Bool) :
    (finishFound copy env p a b).1.isSome = p.1.isSome := by
  obtain ⟨o, R⟩ := p; cases o <;> rfl

/-- the body of `LookupTerminfo` by cases on the name: registered, `-truecolor` variant, `-256color` variant, unknown -/
theorem lookupBody_eq (copy : Bool) (env : Env) (look : Look) (R : Registry) (n : Name) (hn : n ≠ []) :
    lookupBody copy env look R n =
      match R.find n with
      | some id => finishFound copy env (some (.ptr id), R) (env.colortermOn || (R.deref id).trueColor) false
      | none =>
        match stripSuffix sfxTruecolor n with
        | some base => finishFound copy env (firstFound look base sufTrue R) true false
        | none =>
          match stripSuffix sfx256color n with
          | some base => finishFound copy env (firstFound look base suf256 R) env.colortermOn true
          | none => (none, R) := by
  simp only [lookupBody, hn, if_false, searchTC, search256]
  cases R.find n with
  | some id => rfl
  | none =>
    cases hs : stripSuffix sfxTruecolor n with
    | some base =>
      have h256 : stripSuffix sfx256color n = none := by rw [stripSuffix_some hs]; exact stripSuffix_256_truecolor base
      dsimp only
      generalize firstFound look base sufTrue R = p
      obtain ⟨o, R'⟩ := p
      cases o
      · simp only [h256]; rfl
      · rfl
    | none =>
      cases stripSuffix sfx256color n with
      | none => rfl
      | some base =>
        dsimp only
        generalize firstFound look base suf256 R = p
        obtain ⟨o, R'⟩ := p
        cases o <;> rfl

/-! ## congruence: the body only calls `look` on strictly shorter names -/

theorem firstFound_congr {look look' : Look} {base : Name} :
    ∀ (ss : List Name) (R : Registry), (∀ s ∈ ss, ∀ R, look R (base ++ s) = look' R (base ++ s)) →
      firstFound look base ss R = firstFound look' base ss R
  | [], _, _ => rfl
  | s :: ss, R, h => by
    simp only [firstFound]
    rw [h s (List.mem_cons_self ..) R]
    split
    · rfl
    · exact firstFound_congr ss _ (fun s' hs' => h s' (List.mem_cons_of_mem _ hs'))

theorem lookupBody_congr {look look' : Look} (copy : Bool) (env : Env) (R : Registry) (name : Name)
    (h : ∀ m : Name, m.length < name.length → ∀ R, look R m = look' R m) :
    lookupBody copy env look R name = lookupBody copy env look' R name := by
  by_cases hn : name = []
  · simp only [lookupBody, hn, if_true]
  -- a sibling `base ++ s` of `name = base ++ suf` with `s` shorter than `suf` is shorter than `name`
  have sib {suf base : Name} (hb : stripSuffix suf name = some base) (ss : List Name) (hs : ∀ s ∈ ss, s.length < suf.length) :
      firstFound look base ss R = firstFound look' base ss R :=
    firstFound_congr ss R fun s hs' R => h _ (by have := hs s hs'; have := stripSuffix_length hb; simp; omega) R
  rw [lookupBody_eq _ _ _ _ _ hn, lookupBody_eq _ _ _ _ _ hn]
  cases R.find name with
  | some id => rfl
  | none =>
    cases hT : stripSuffix sfxTruecolor name with
    | some base => simp only [sib hT sufTrue fun _ => sufTrue_shorter]
    | none =>
      cases h256 : stripSuffix sfx256color name with
      | some base => simp only [sib h256 suf256 fun _ => suf256_shorter]
      | none => rfl

/-- **Termination made explicit**: any fuel larger than the name length gives the same result, i.e. the fuel
    `name.length + 1` used by `lookupG` never runs out (every recursive call is on a strictly shorter name). -/
theorem lookupF_fuel (copy : Bool) (env : Env) :
    ∀ (f f' : Nat) (R : Registry) (n : Name), n.length < f → n.length < f' →
      lookupF copy env f R n = lookupF copy env f' R n
  | 0, _, _, _, h, _ => absurd h (Nat.not_lt_zero _)
  | _ + 1, 0, _, _, _, h => absurd h (Nat.not_lt_zero _)
  | f + 1, f' + 1, R, n, h, h' => by
    simp only [lookupF]
    exact lookupBody_congr copy env R n (fun m hm R => lookupF_fuel copy env f f' R m (by omega) (by omega))

/-- the recursion equation of `LookupTerminfo`, free of fuel -/
theorem lookupG_eq (copy : Bool) (env : Env) (R : Registry) (n : Name) :
    lookupG copy env R n = lookupBody copy env (lookupG copy env) R n := by
  show lookupF copy env (n.length + 1) R n = _
  simp only [lookupF]
  exact lookupBody_congr copy env R n
    (fun m hm R => lookupF_fuel copy env n.length (m.length + 1) R m hm (Nat.lt_succ_self _))

/-- … and so for `LookupTerminfo` itself -/
theorem lookupG_cases (copy : Bool) (env : Env) (R : Registry) (n : Name) (hn : n ≠ []) :
    lookupG copy env R n =
      match R.find n with
      | some id => finishFound copy env (some (.ptr id), R) (env.colortermOn || (R.deref id).trueColor) false
      | none =>
        match stripSuffix sfxTruecolor n with
        | some base => finishFound copy env (firstFound (lookupG copy env) base sufTrue R) true false
        | none =>
          match stripSuffix sfx256color n with
          | some base => finishFound copy env (firstFound (lookupG copy env) base suf256 R) env.colortermOn true
          | none => (none, R) := by
  rw [lookupG_eq, lookupBody_eq _ _ _ _ _ hn]

/-! ## frame conditions -/

section Frame
variable {F : Registry → Registry → Prop} {c : Prop} (refl : ∀ R, F R R) (trans : ∀ {R R' R''}, F R R' → F R' R'' → F R R'')

/-- the shape of the three frame conditions below: a relation `F` between the registry before and after holds of every
    failing lookup and, when `c`, of every successful one as well; for a reflexive and transitive `F` that the
    amendments respect, one induction shows it of `lookupF` -/
def Framed (F : Registry → Registry → Prop) (c : Prop) (look : Look) : Prop :=
  ∀ R n, ((look R n).1 = none ∨ c) → F R (look R n).2

include refl trans

theorem firstFound_framed {look : Look} (h : Framed F c look) (base : Name) :
    ∀ (ss : List Name) (R : Registry), ((firstFound look base ss R).1 = none ∨ c) → F R (firstFound look base ss R).2
  | [], R, _ => refl R
  | s :: ss, R, hc => by
    have hs := h R (base ++ s)
    simp only [firstFound] at hc ⊢
    cases hl : look R (base ++ s) with
    | mk o R' =>
      rw [hl] at hs hc
      cases o with
      | some r => exact hs (hc.imp_left nofun)
      | none => exact trans (hs (.inl rfl)) (firstFound_framed h base ss R' hc)

theorem finish_framed (copy : Bool) (hamend : ∀ R r f, F R (amend copy R r f).2) (env : Env) (R : Registry) (r : Res)
    (a b : Bool) : F R (finish copy env R r a b).2 := by
  unfold finish
  have h1 : F R (if env.finalTC a && rgbAllEmpty (R.get r) then amend copy R r addRGB else (r, R)).2 := by
    split
    · exact hamend R r addRGB
    · exact refl R
  dsimp only
  split
  · exact trans h1 (hamend _ _ _)
  · exact h1

theorem finishFound_framed (copy : Bool) (hamend : c → ∀ R r f, F R (amend copy R r f).2) (env : Env) (R : Registry)
    (p : Option Res × Registry) (a b : Bool) (hp : (p.1 = none ∨ c) → F R p.2) :
    ((finishFound copy env p a b).1 = none ∨ c) → F R (finishFound copy env p a b).2 := by
  obtain ⟨o, R'⟩ := p
  cases o with
  | none => exact hp
  | some r =>
    intro hc
    have hc' : c := hc.resolve_left nofun
    exact trans (hp (.inr hc')) (finish_framed refl trans copy (hamend hc') ..)

theorem lookupBody_framed {look : Look} (h : Framed F c look) (copy : Bool)
    (hamend : c → ∀ R r f, F R (amend copy R r f).2) (env : Env) (R : Registry) (n : Name) :
    ((lookupBody copy env look R n).1 = none ∨ c) → F R (lookupBody copy env look R n).2 := by
  by_cases hn : n = []
  · simp only [lookupBody, hn, if_true]; exact fun _ => refl R
  rw [lookupBody_eq _ _ _ _ _ hn]
  cases R.find n with
  | some id => exact finishFound_framed refl trans copy hamend env R _ _ _ fun _ => refl R
  | none =>
    cases stripSuffix sfxTruecolor n with
    | some base => exact finishFound_framed refl trans copy hamend env R _ _ _ (firstFound_framed refl trans h base _ R)
    | none =>
      cases stripSuffix sfx256color n with
      | some base => exact finishFound_framed refl trans copy hamend env R _ _ _ (firstFound_framed refl trans h base _ R)
      | none => exact fun _ => refl R
theorem lookupF_framed (copy : Bool) (hamend : c → ∀ R r f, F R (amend copy R r f).2) (env : Env) :
    ∀ f, Framed F c (lookupF copy env f)
  | 0 => fun R _ _ => refl R
  | f + 1 => fun R n => lookupBody_framed refl trans (lookupF_framed copy hamend env f) copy hamend env R n

end Frame

theorem amend_true_reg (R : Registry) (r : Res) (f : Terminfo → Terminfo) : (amend true R r f).2 = R := rfl

/-- the repaired variant never writes the registry -/
theorem lookupF_true_reg (env : Env) (f : Nat) (R : Registry) (n : Name) : (lookupF true env f R n).2 = R :=
  (lookupF_framed (F := fun R R' => R' = R) (c := True) (fun _ => rfl) (fun h h' => h'.trans h) true
    (fun _ R r f => amend_true_reg R r f) env f R n (.inr trivial))

/-- a failing lookup writes nothing (either variant) -/
theorem lookupF_none_reg (copy : Bool) (env : Env) (f : Nat) (R : Registry) (n : Name)
    (h : (lookupF copy env f R n).1 = none) : (lookupF copy env f R n).2 = R :=
  lookupF_framed (F := fun R R' => R' = R) (c := False) (fun _ => rfl) (fun h h' => h'.trans h) copy nofun env f R n (.inl h)

theorem amend_names (copy : Bool) (R : Registry) (r : Res) (f : Terminfo → Terminfo) :
    (amend copy R r f).2.names = R.names := by
  cases copy <;> cases r <;> rfl

/-- no lookup (either variant) registers or unregisters a name -/
theorem lookupF_names (copy : Bool) (env : Env) (f : Nat) (R : Registry) (n : Name) :
    (lookupF copy env f R n).2.names = R.names :=
  lookupF_framed (F := fun R R' => R'.names = R.names) (c := True) (fun _ => rfl) (fun h h' => h'.trans h) copy
    (fun _ R r f => amend_names copy R r f) env f R n (.inr trivial)

/-! ## values: what the caller sees; the amendments as a function on values -/

/-- value of the entry after terminfo.go:750-779, as a function of the value found -/
def finishVal (env : Env) (t : Terminfo) (addTC add256 : Bool) : Terminfo :=
  let t1 := if env.finalTC addTC && rgbAllEmpty t then addRGB t else t
  if add256 then set256 t1 else t1

theorem finishVal_name (env : Env) (t : Terminfo) (a b : Bool) : (finishVal env t a b).name = t.name := by
  unfold finishVal; split <;> split <;> rfl

theorem rgbAllEmpty_finishVal (env : Env) (t : Terminfo) (a b : Bool) (h : rgbAllEmpty t = false) :
    rgbAllEmpty (finishVal env t a b) = false := by
  simp only [finishVal, h, Bool.and_false, Bool.false_eq_true, if_false]
  cases b <;> exact h

theorem find_mem {R : Registry} {n : Name} {id : EntryId} (h : R.find n = some id) : (n, id) ∈ R.names := by
  obtain ⟨l₁, l₂, e, -⟩ := List.lookup_eq_some_iff.mp h
  rw [e]; exact List.mem_append_right _ (List.mem_cons_self ..)

theorem get_amend (copy : Bool) (R : Registry) (r : Res) (f : Terminfo → Terminfo) :
    (amend copy R r f).2.get (amend copy R r f).1 = f (R.get r) := by
  cases copy <;> cases r <;> simp [amend, Registry.get, Registry.update, Registry.deref]

theorem get_finish (copy : Bool) (env : Env) (R : Registry) (r : Res) (a b : Bool) :
    (finish copy env R r a b).2.get (finish copy env R r a b).1 = finishVal env (R.get r) a b := by
  unfold finish finishVal
  by_cases h1 : (env.finalTC a && rgbAllEmpty (R.get r)) = true <;> cases b <;> simp [h1, get_amend]

theorem resultOf_finishFound (copy : Bool) (env : Env) (p : Option Res × Registry) (a b : Bool) :
    resultOf (finishFound copy env p a b) = (resultOf p).map fun t => finishVal env t a b := by
  obtain ⟨o, R⟩ := p
  cases o
  · rfl
  · simp only [finishFound, resultOf, Option.map_some]; rw [get_finish]

/-! ## the first resolving sibling -/

/-- when a failing lookup writes nothing, the loop returns the lookup of the first sibling that resolves *in the initial
    registry* -/
theorem firstFound_eq {look : Look} (hnone : ∀ R n, (look R n).1 = none → (look R n).2 = R) (base : Name) :
    ∀ (ss : List Name) (R : Registry), firstFound look base ss R =
      match ss.find? fun s => (look R (base ++ s)).1.isSome with
      | some s => look R (base ++ s)
      | none => (none, R)
  | [], _ => rfl
  | s :: ss, R => by
    have hn := hnone R (base ++ s)
    rw [firstFound, List.find?_cons]
    cases hl : look R (base ++ s) with
    | mk o R' =>
      rw [hl] at hn
      cases o with
      | some r => exact hl.symm
      | none => cases hn rfl; exact firstFound_eq hnone base ss _

theorem firstFound_isSome_iff {look : Look} (hnone : ∀ R n, (look R n).1 = none → (look R n).2 = R) (base : Name)
    (ss : List Name) (R : Registry) :
    (firstFound look base ss R).1.isSome = true ↔ ∃ s ∈ ss, (look R (base ++ s)).1.isSome = true := by
  rw [firstFound_eq hnone]
  split
  · rename_i s hs
    have hp := List.find?_some (p := fun s => (look R (base ++ s)).1.isSome) hs
    exact ⟨fun _ => ⟨s, List.mem_of_find?_eq_some hs, hp⟩, fun _ => hp⟩
  · rename_i hn
    refine ⟨nofun, fun ⟨s, hs, h⟩ => ?_⟩
    simp [List.find?_eq_none.mp hn s hs] at h

theorem firstFound_none {look : Look} (hnone : ∀ R n, (look R n).1 = none → (look R n).2 = R) (base : Name)
    (ss : List Name) (R : Registry) (h : ∀ s ∈ ss, (look R (base ++ s)).1 = none) :
    firstFound look base ss R = (none, R) := by
  rw [firstFound_eq hnone, List.find?_eq_none.mpr fun s hs => by simp [h s hs]]

/-! ## pinned and repaired code agree on the value of a lookup in the same registry -/

theorem firstFound_agree {l1 l2 : Look}
    (h1 : ∀ R n, (l1 R n).1 = none → (l1 R n).2 = R) (h2 : ∀ R n, (l2 R n).1 = none → (l2 R n).2 = R)
    (h : ∀ R n, resultOf (l1 R n) = resultOf (l2 R n)) (base : Name) (ss : List Name) (R : Registry) :
    resultOf (firstFound l1 base ss R) = resultOf (firstFound l2 base ss R) := by
  have hp : (fun s => (l1 R (base ++ s)).1.isSome) = fun s => (l2 R (base ++ s)).1.isSome := by
    funext s
    have := congrArg Option.isSome (h R (base ++ s))
    simpa [resultOf] using this
  rw [firstFound_eq h1, firstFound_eq h2, hp]
  split
  · exact h R _
  · rfl
theorem lookupBody_agree {l1 l2 : Look}
    (h1 : ∀ R n, (l1 R n).1 = none → (l1 R n).2 = R) (h2 : ∀ R n, (l2 R n).1 = none → (l2 R n).2 = R)
    (h : ∀ R n, resultOf (l1 R n) = resultOf (l2 R n)) (env : Env) (R : Registry) (n : Name) :
    resultOf (lookupBody false env l1 R n) = resultOf (lookupBody true env l2 R n) := by
  by_cases hn : n = []
  · simp [lookupBody, hn, resultOf]
  rw [lookupBody_eq _ _ _ _ _ hn, lookupBody_eq _ _ _ _ _ hn]
  cases R.find n with
  | some id => simp only [resultOf_finishFound]
  | none =>
    cases stripSuffix sfxTruecolor n with
    | some base => simp only [resultOf_finishFound, firstFound_agree h1 h2 h]
    | none =>
      cases stripSuffix sfx256color n with
      | some base => simp only [resultOf_finishFound, firstFound_agree h1 h2 h]
      | none => rfl

theorem lookupF_agree (env : Env) :
    ∀ (f : Nat) (R : Registry) (n : Name), resultOf (lookupF false env f R n) = resultOf (lookupF true env f R n)
  | 0, _, _ => rfl
  | f + 1, R, n => by
    simp only [lookupF]
    exact lookupBody_agree (lookupF_none_reg false env f) (lookupF_none_reg true env f) (lookupF_agree env f) env R n

end Tcell.Lookup
