/-
Layer A of C04: an abstract register file of terminal modes (`Regs`), the meaning of every event of the mode
model (`Tcell.Modes`) on it, for a terminal description given *in the abstract* (`AD`: which capability strings
exist, and what the existing ones mean).
-/
import Tcell.Model.Modes
namespace Tcell.ModesA
open Tcell Tcell.Modes

/-- a terminal description in the abstract: which of the strings the mode path uses exist.  An existing string is
    taken to mean what terminfo(5) / ctlseqs say it means (`capEffect`); Layer B (Props/C04, kernel evaluation on the
    reference emulator) checks that for every ECMA-family entry of the regenerated database. -/
structure AD where
  mouse : Bool          -- ti.Mouse ≠ ""
  pasteOn : Bool
  pasteOff : Bool
  focusOn : Bool
  focusOff : Bool
  saveTitle : Bool
  restoreTitle : Bool
  setTitle : Bool
  cursorFg : Bool       -- cursor colour reset string (OSC 112)
  cursorRGB : Bool      -- cursor colour set string (OSC 12)
  cursorStyles : Option (Nat → Bool)  -- none: no cursor style map; some p: a map for styles 0..6, p s = its string for s is non-empty
  enterCA : Bool        -- smcup
  exitCA : Bool         -- rmcup
  caTitle : Bool        -- smcup / rmcup also push / pop the window title (xterm's `\E[22;0;0t` / `\E[23;0;0t`)
  showCursor : Bool     -- cnorm
  hideCursor : Bool     -- civis
  enterKeypad : Bool    -- smkx
  exitKeypad : Bool     -- rmkx
  disableAM : Bool      -- rmam
  enableAM : Bool       -- smam
  attrOff : Bool        -- sgr0
  resetFgBg : Bool      -- op
  url : Bool            -- enterUrl / exitUrl (OSC 8)

@[reducible] def AD.caps (ad : AD) : ModeCaps :=
  { mouse := ad.mouse, pasteOn := ad.pasteOn, pasteOff := ad.pasteOff, focusOn := ad.focusOn, focusOff := ad.focusOff,
    saveTitle := ad.saveTitle, restoreTitle := ad.restoreTitle, setTitle := ad.setTitle,
    cursorStyles := ad.cursorStyles.isSome, cursorFg := ad.cursorFg }

/-- `t.cursorStyles` has an entry for style `cs` -/
def AD.hasStyle (ad : AD) (cs : Nat) : Bool :=
  match ad.cursorStyles with
  | some _ => decide (cs < 7)
  | none => false

/-- … and that entry is a non-empty string -/
def AD.styleStr (ad : AD) (cs : Nat) : Bool :=
  match ad.cursorStyles with
  | some p => decide (cs < 7) && p cs
  | none => false

/-- the configuration of the model for an abstract description; `rw`, `payload`, `corner` do not matter for modes -/
@[reducible] def mkCf (ad : AD) (rw : Rune → Int) (payload : Rune → List Rune → List Nat) (corner alt : Bool) : ModeCfg :=
  { dc := { rw := rw, payload := payload, hasHide := ad.hideCursor, hasCursorStyle := ad.hasStyle,
            hasCursorRGB := ad.cursorRGB, cornerTrick := corner },
    caps := ad.caps, altscreen := alt }

/-- the mode registers of the user's terminal, in the abstract -/
structure Regs where
  alt : Bool := false           -- alternate screen shown
  cv : Bool := true             -- cursor visible
  shape : Nat := 0              -- DECSCUSR shape, 0 = default
  tinted : Bool := false        -- a cursor colour is set
  penSet : Bool := false        -- some colour / attribute may be in force (SGR state not known to be reset)
  link : Bool := false          -- a hyperlink is open
  keypad : Bool := false        -- keypad-transmit (application) mode
  m1000 : Bool := false
  m1002 : Bool := false
  m1003 : Bool := false
  m1006 : Bool := false
  paste : Bool := false         -- 2004
  focus : Bool := false         -- 1004
  am : Bool := true             -- auto-margin
  title : Bytes := []
  tstack : List Bytes := []     -- the terminal's stack of saved titles
deriving DecidableEq, Repr

/-- one register (or a group of coupled registers) with the effect of every capability string and draw command on it -/
structure Comp (α : Type) where
  cap : AD → Cap → α → α
  cmd : AD → Cmd → α → α

def Comp.ev {α : Type} (c : Comp α) (ad : AD) (e : Ev) (a : α) : α :=
  match e with
  | .call _ => a
  | .put k => c.cap ad k a
  | .frame cmds => cmds.foldl (fun a k => c.cmd ad k a) a

def Comp.run {α : Type} (c : Comp α) (ad : AD) (evs : List Ev) (a : α) : α := evs.foldl (fun a e => c.ev ad e a) a

/-- alternate screen: smcup / rmcup -/
def cAlt : Comp Bool where
  cap ad k b := match k with
    | .enterCA => if ad.enterCA then true else b
    | .exitCA => if ad.exitCA then false else b
    | _ => b
  cmd _ _ b := b

/-- cursor visibility: civis / cnorm, from engage / disengage and from every draw -/
def cCv : Comp Bool where
  cap ad k b := match k with
    | .hideCursor => if ad.hideCursor then false else b
    | .showCursor => if ad.showCursor then true else b
    | _ => b
  cmd ad k b := match k with
    | .hideCursor => if ad.hideCursor then false else b
    | .showCursor _ _ => if ad.showCursor then true else b
    | _ => b

/-- cursor shape (DECSCUSR) -/
def cShape : Comp Nat where
  cap ad k n := match k with
    | .cursorDefault => if ad.styleStr 0 then 0 else n
    | _ => n
  cmd ad k n := match k with
    | .showCursor cs _ => if ad.styleStr cs then cs else n
    | _ => n

/-- cursor colour set (OSC 12 / 112) -/
def cTint : Comp Bool where
  cap _ k b := match k with
    | .cursorColorReset => false
    | _ => b
  cmd ad k b := match k with
    | .showCursor _ cc =>
      if ad.cursorRGB then
        (if cc = colorReset then (if ad.cursorFg then false else b) else if cc / 2^32 % 2 = 1 then true else b)
      else b
    | _ => b

/-- some colour / attribute possibly in force.  `op` of some entries selects explicit colours, hence `true`. -/
def cPen : Comp Bool where
  cap ad k b := match k with
    | .resetFgBg => if ad.resetFgBg then true else b
    | .attrOff => if ad.attrOff then false else b
    | _ => b
  cmd _ k b := match k with
    | .setPen _ => true
    | .clear _ => true
    | _ => b

/-- hyperlink open (OSC 8) -/
def cLink : Comp Bool where
  cap ad k b := match k with
    | .exitUrl => if ad.url then false else b
    | _ => b
  cmd ad k b := match k with
    | .setPen s => if ad.url then decide (s.url ≠ "") else b
    | .clear _ => if ad.url then false else b
    | _ => b

/-- keypad-transmit mode: smkx / rmkx -/
def cKeypad : Comp Bool where
  cap ad k b := match k with
    | .enterKeypad => if ad.enterKeypad then true else b
    | .exitKeypad => if ad.exitKeypad then false else b
    | _ => b
  cmd _ _ b := b

/-- mouse tracking mode `n` (1000 / 1002 / 1003 / 1006) -/
def cMouse (n : Nat) : Comp Bool where
  cap _ k b := match k with
    | .mouseOff => false
    | .mouseOn m => if m = n then true else b
    | _ => b
  cmd _ _ b := b

def cPaste : Comp Bool where
  cap _ k b := match k with
    | .pasteOn => true
    | .pasteOff => false
    | _ => b
  cmd _ _ b := b

def cFocus : Comp Bool where
  cap _ k b := match k with
    | .focusOn => true
    | .focusOff => false
    | _ => b
  cmd _ _ b := b

/-- auto-margin: rmam / smam -/
def cAm : Comp Bool where
  cap ad k b := match k with
    | .disableAM => if ad.disableAM then false else b
    | .enableAM => if ad.enableAM then true else b
    | _ => b
  cmd _ _ b := b

def ttlPush (p : Bytes × List Bytes) : Bytes × List Bytes := (p.1, p.1 :: p.2)
def ttlPop (p : Bytes × List Bytes) : Bytes × List Bytes :=
  match p.2 with
  | [] => p
  | t :: s => (t, s)

/-- window title and the terminal's stack of saved titles -/
def cTtl : Comp (Bytes × List Bytes) where
  cap ad k p := match k with
    | .enterCA => if ad.enterCA ∧ ad.caTitle then ttlPush p else p
    | .exitCA => if ad.exitCA ∧ ad.caTitle then ttlPop p else p
    | .saveTitle => ttlPush p
    | .restoreTitle => ttlPop p
    | .setTitle t => (t, p.2)
    | _ => p
  cmd _ _ p := p

/-- what an event does to the register file: every register follows its own component -/
def evEffect (ad : AD) (e : Ev) (r : Regs) : Regs :=
  { alt := cAlt.ev ad e r.alt, cv := cCv.ev ad e r.cv, shape := cShape.ev ad e r.shape, tinted := cTint.ev ad e r.tinted,
    penSet := cPen.ev ad e r.penSet, link := cLink.ev ad e r.link, keypad := cKeypad.ev ad e r.keypad,
    m1000 := (cMouse 1000).ev ad e r.m1000, m1002 := (cMouse 1002).ev ad e r.m1002, m1003 := (cMouse 1003).ev ad e r.m1003,
    m1006 := (cMouse 1006).ev ad e r.m1006, paste := cPaste.ev ad e r.paste, focus := cFocus.ev ad e r.focus,
    am := cAm.ev ad e r.am, title := (cTtl.ev ad e (r.title, r.tstack)).1, tstack := (cTtl.ev ad e (r.title, r.tstack)).2 }

def applyEvs (ad : AD) (evs : List Ev) (r : Regs) : Regs := evs.foldl (fun r e => evEffect ad e r) r

@[simp] theorem applyEvs_nil (ad : AD) (r : Regs) : applyEvs ad [] r = r := rfl
@[simp] theorem applyEvs_cons (ad : AD) (e : Ev) (l : List Ev) (r : Regs) :
    applyEvs ad (e :: l) r = applyEvs ad l (evEffect ad e r) := rfl

theorem applyEvs_append (ad : AD) (x y : List Ev) (r : Regs) : applyEvs ad (x ++ y) r = applyEvs ad y (applyEvs ad x r) :=
  List.foldl_append ..
@[simp] theorem evEffect_call (ad : AD) (c : TtyCall) (r : Regs) : evEffect ad (.call c) r = r := rfl

theorem applyEvs_inv (ad : AD) (P : Regs → Prop) (evs : List Ev) (h : ∀ e ∈ evs, ∀ r, P r → P (evEffect ad e r)) (r : Regs)
    (hr : P r) : P (applyEvs ad evs r) := by
  induction evs generalizing r with
  | nil => exact hr
  | cons e l ih => exact ih (fun e he => h e (by simp [he])) _ (h e (by simp) r hr)

theorem applyEvs_eq (ad : AD) (evs : List Ev) (r : Regs) : applyEvs ad evs r =
    { alt := cAlt.run ad evs r.alt, cv := cCv.run ad evs r.cv, shape := cShape.run ad evs r.shape,
      tinted := cTint.run ad evs r.tinted, penSet := cPen.run ad evs r.penSet, link := cLink.run ad evs r.link,
      keypad := cKeypad.run ad evs r.keypad, m1000 := (cMouse 1000).run ad evs r.m1000, m1002 := (cMouse 1002).run ad evs r.m1002,
      m1003 := (cMouse 1003).run ad evs r.m1003, m1006 := (cMouse 1006).run ad evs r.m1006, paste := cPaste.run ad evs r.paste,
      focus := cFocus.run ad evs r.focus, am := cAm.run ad evs r.am, title := (cTtl.run ad evs (r.title, r.tstack)).1,
      tstack := (cTtl.run ad evs (r.title, r.tstack)).2 } := by
  induction evs generalizing r with
  | nil => rfl
  | cons e l ih => rw [applyEvs_cons, ih]; rfl

section
variable {α : Type} (c : Comp α) (ad : AD)
@[simp] theorem Comp.run_nil (a : α) : c.run ad [] a = a := rfl
@[simp] theorem Comp.run_cons (e : Ev) (l : List Ev) (a : α) : c.run ad (e :: l) a = c.run ad l (c.ev ad e a) := rfl
@[simp] theorem Comp.run_append (x y : List Ev) (a : α) : c.run ad (x ++ y) a = c.run ad y (c.run ad x a) := by
  simp [Comp.run, List.foldl_append]
@[simp] theorem Comp.run_ite (p : Prop) [Decidable p] (x y : List Ev) (a : α) :
    c.run ad (if p then x else y) a = if p then c.run ad x a else c.run ad y a := by split <;> rfl
@[simp] theorem Comp.ev_call (k : TtyCall) (a : α) : c.ev ad (.call k) a = a := rfl
@[simp] theorem Comp.ev_put (k : Cap) (a : α) : c.ev ad (.put k) a = c.cap ad k a := rfl
theorem Comp.ev_frame (cmds : List Cmd) (a : α) : c.ev ad (.frame cmds) a = cmds.foldl (fun a k => c.cmd ad k a) a := rfl
theorem Comp.ev_frame_id (cmds : List Cmd) (h : ∀ k ∈ cmds, ∀ a, c.cmd ad k a = a) (a : α) : c.ev ad (.frame cmds) a = a := by
  rw [Comp.ev_frame]
  induction cmds generalizing a with
  | nil => rfl
  | cons k l ih => rw [List.foldl_cons, h k (by simp), ih (fun k hk => h k (by simp [hk]))]
end

-- the components themselves are never unfolded, so that `run_*` keep matching

@[simp] theorem cAlt_cap (ad : AD) (k : Cap) (b : Bool) : cAlt.cap ad k b =
    (match k with | .enterCA => if ad.enterCA then true else b | .exitCA => if ad.exitCA then false else b | _ => b) := rfl
@[simp] theorem cCv_cap (ad : AD) (k : Cap) (b : Bool) : cCv.cap ad k b =
    (match k with | .hideCursor => if ad.hideCursor then false else b | .showCursor => if ad.showCursor then true else b | _ => b) := rfl
@[simp] theorem cShape_cap (ad : AD) (k : Cap) (n : Nat) : cShape.cap ad k n =
    (match k with | .cursorDefault => if ad.styleStr 0 then 0 else n | _ => n) := rfl
@[simp] theorem cTint_cap (ad : AD) (k : Cap) (b : Bool) : cTint.cap ad k b =
    (match k with | .cursorColorReset => false | _ => b) := rfl
@[simp] theorem cPen_cap (ad : AD) (k : Cap) (b : Bool) : cPen.cap ad k b =
    (match k with | .resetFgBg => if ad.resetFgBg then true else b | .attrOff => if ad.attrOff then false else b | _ => b) := rfl
@[simp] theorem cLink_cap (ad : AD) (k : Cap) (b : Bool) : cLink.cap ad k b =
    (match k with | .exitUrl => if ad.url then false else b | _ => b) := rfl
@[simp] theorem cKeypad_cap (ad : AD) (k : Cap) (b : Bool) : cKeypad.cap ad k b =
    (match k with | .enterKeypad => if ad.enterKeypad then true else b | .exitKeypad => if ad.exitKeypad then false else b | _ => b) := rfl
@[simp] theorem cMouse_cap (n : Nat) (ad : AD) (k : Cap) (b : Bool) : (cMouse n).cap ad k b =
    (match k with | .mouseOff => false | .mouseOn m => if m = n then true else b | _ => b) := rfl
@[simp] theorem cPaste_cap (ad : AD) (k : Cap) (b : Bool) : cPaste.cap ad k b =
    (match k with | .pasteOn => true | .pasteOff => false | _ => b) := rfl
@[simp] theorem cFocus_cap (ad : AD) (k : Cap) (b : Bool) : cFocus.cap ad k b =
    (match k with | .focusOn => true | .focusOff => false | _ => b) := rfl
@[simp] theorem cAm_cap (ad : AD) (k : Cap) (b : Bool) : cAm.cap ad k b =
    (match k with | .disableAM => if ad.disableAM then false else b | .enableAM => if ad.enableAM then true else b | _ => b) := rfl
@[simp] theorem cTtl_cap (ad : AD) (k : Cap) (p : Bytes × List Bytes) : cTtl.cap ad k p =
    (match k with
     | .enterCA => if ad.enterCA ∧ ad.caTitle then ttlPush p else p
     | .exitCA => if ad.exitCA ∧ ad.caTitle then ttlPop p else p
     | .saveTitle => ttlPush p
     | .restoreTitle => ttlPop p
     | .setTitle t => (t, p.2)
     | _ => p) := rfl

theorem cAlt_cmd (ad : AD) (k : Cmd) (b : Bool) : cAlt.cmd ad k b = b := rfl
theorem cKeypad_cmd (ad : AD) (k : Cmd) (b : Bool) : cKeypad.cmd ad k b = b := rfl
theorem cMouse_cmd (n : Nat) (ad : AD) (k : Cmd) (b : Bool) : (cMouse n).cmd ad k b = b := rfl
theorem cPaste_cmd (ad : AD) (k : Cmd) (b : Bool) : cPaste.cmd ad k b = b := rfl
theorem cFocus_cmd (ad : AD) (k : Cmd) (b : Bool) : cFocus.cmd ad k b = b := rfl
theorem cAm_cmd (ad : AD) (k : Cmd) (b : Bool) : cAm.cmd ad k b = b := rfl
theorem cTtl_cmd (ad : AD) (k : Cmd) (p : Bytes × List Bytes) : cTtl.cmd ad k p = p := rfl

@[simp] theorem cAlt_frame (ad : AD) (l : List Cmd) (b : Bool) : cAlt.ev ad (.frame l) b = b :=
  Comp.ev_frame_id _ _ l (fun k _ => cAlt_cmd ad k) b
@[simp] theorem cKeypad_frame (ad : AD) (l : List Cmd) (b : Bool) : cKeypad.ev ad (.frame l) b = b :=
  Comp.ev_frame_id _ _ l (fun k _ => cKeypad_cmd ad k) b
@[simp] theorem cMouse_frame (n : Nat) (ad : AD) (l : List Cmd) (b : Bool) : (cMouse n).ev ad (.frame l) b = b :=
  Comp.ev_frame_id _ _ l (fun k _ => cMouse_cmd n ad k) b
@[simp] theorem cPaste_frame (ad : AD) (l : List Cmd) (b : Bool) : cPaste.ev ad (.frame l) b = b :=
  Comp.ev_frame_id _ _ l (fun k _ => cPaste_cmd ad k) b
@[simp] theorem cFocus_frame (ad : AD) (l : List Cmd) (b : Bool) : cFocus.ev ad (.frame l) b = b :=
  Comp.ev_frame_id _ _ l (fun k _ => cFocus_cmd ad k) b
@[simp] theorem cAm_frame (ad : AD) (l : List Cmd) (b : Bool) : cAm.ev ad (.frame l) b = b :=
  Comp.ev_frame_id _ _ l (fun k _ => cAm_cmd ad k) b
@[simp] theorem cTtl_frame (ad : AD) (l : List Cmd) (p : Bytes × List Bytes) : cTtl.ev ad (.frame l) p = p :=
  Comp.ev_frame_id _ _ l (fun k _ => cTtl_cmd ad k) p

theorem evEffect_frame (ad : AD) (cmds : List Cmd) (r : Regs) : evEffect ad (.frame cmds) r =
    { r with cv := cmds.foldl (fun a k => cCv.cmd ad k a) r.cv, shape := cmds.foldl (fun a k => cShape.cmd ad k a) r.shape,
             tinted := cmds.foldl (fun a k => cTint.cmd ad k a) r.tinted, penSet := cmds.foldl (fun a k => cPen.cmd ad k a) r.penSet,
             link := cmds.foldl (fun a k => cLink.cmd ad k a) r.link } := by
  simp only [evEffect, cAlt_frame, cKeypad_frame, cMouse_frame, cPaste_frame, cFocus_frame, cAm_frame, cTtl_frame]
  rfl

/-- the guard under which the mode path writes a capability (the `!= ""` tests of tscreen.go); a mouse mode is one of
    the four the code knows -/
def capOk (caps : ModeCaps) : Cap → Bool
  | .mouseOff => caps.mouse
  | .mouseOn n => caps.mouse && (n == 1000 || n == 1002 || n == 1003 || n == 1006)
  | .pasteOn => caps.pasteOn | .pasteOff => caps.pasteOff | .focusOn => caps.focusOn | .focusOff => caps.focusOff
  | .saveTitle => caps.saveTitle | .restoreTitle => caps.restoreTitle | .setTitle _ => caps.setTitle
  | .cursorDefault => caps.cursorStyles | .cursorColorReset => caps.cursorFg
  | _ => true

def wrOk (caps : ModeCaps) : Ev → Bool
  | .put k => capOk caps k
  | _ => false

def evOk (caps : ModeCaps) : Ev → Bool
  | .put k => capOk caps k
  | _ => true

theorem all_ite {α : Type} (c : Prop) [Decidable c] (x y : List α) (p : α → Bool) :
    (if c then x else y).all p = if c then x.all p else y.all p := by split <;> rfl

theorem all_evOk {caps : ModeCaps} {l : List Ev} (h : l.all (wrOk caps) = true) : l.all (evOk caps) = true :=
  List.all_eq_true.mpr fun e he => by
    have := List.all_eq_true.mp h e he
    cases e <;> first | exact this | rfl

theorem enableMouse_wr (cf : ModeCfg) (f : Nat) : (enableMouse cf f).all (wrOk cf.caps) = true := by
  unfold enableMouse
  split
  · simp [all_ite, wrOk, capOk, *]
  · rfl

theorem enablePasting_wr (cf : ModeCfg) (on : Bool) : (enablePasting cf on).all (wrOk cf.caps) = true := by
  cases on <;> simp [enablePasting, all_ite, wrOk, capOk]

theorem focus_wr (cf : ModeCfg) :
    (enableFocusReporting cf).all (wrOk cf.caps) = true ∧ (disableFocusReporting cf).all (wrOk cf.caps) = true := by
  simp [enableFocusReporting, disableFocusReporting, all_ite, wrOk, capOk]

theorem engageEvs_wr (cf : ModeCfg) (q : ModeReq) : (engageEvs cf q).all (wrOk cf.caps) = true := by
  simp [engageEvs, all_ite, enableMouse_wr, enablePasting_wr, focus_wr, wrOk, capOk]
  cases cf.caps.setTitle <;> simp

theorem disengageEvs_wr (v : Bool) (cf : ModeCfg) (sh ti : Bool) : (disengageEvsV v cf sh ti).all (wrOk cf.caps) = true := by
  simp [disengageEvsV, all_ite, enableMouse_wr, enablePasting_wr, focus_wr, wrOk, capOk]
  cases cf.caps.cursorStyles <;> cases cf.caps.cursorFg <;> simp

theorem stepV_evOk (v : Bool) (cf : ModeCfg) (st : MState) (op : MOp) : (stepV v cf st op).2.all (evOk cf.caps) = true := by
  have dis : (disengageV v cf st).2.all (evOk cf.caps) = true := by
    unfold disengageV; split
    · rfl
    · simp [all_evOk (disengageEvs_wr v cf _ _), evOk]
  cases op <;> simp only [stepV]
  case enableMouse f => rw [all_ite]; split <;> first | exact all_evOk (enableMouse_wr cf _) | rfl
  case disableMouse => rw [all_ite]; split <;> first | exact all_evOk (enableMouse_wr cf _) | rfl
  case enablePaste => rw [all_ite]; split <;> first | exact all_evOk (enablePasting_wr cf _) | rfl
  case disablePaste => rw [all_ite]; split <;> first | exact all_evOk (enablePasting_wr cf _) | rfl
  case enableFocus => rw [all_ite]; split <;> first | exact all_evOk (focus_wr cf).1 | rfl
  case disableFocus => rw [all_ite]; split <;> first | exact all_evOk (focus_wr cf).2 | rfl
  case setTitle t => rw [all_ite]; split <;> simp_all [evOk, capOk]
  case beep => rfl
  case suspend => exact dis
  case resume => unfold engage; split <;> simp [all_evOk (engageEvs_wr cf _), evOk]
  case fini => unfold finiV; split <;> simp [dis, evOk]
  case scr sop => cases sop <;> simp only [scrStep] <;> (try split) <;> rfl
end Tcell.ModesA
