import Tcell.Model.Color
/-
Lemmas about the FindColor scan (colorfit.go) for an arbitrary metric.
-/
namespace Tcell.Color

/-- What the theorems need from float64 `<` restricted to non-NaN values: a strict weak order
(irreflexive, transitive, and `a < b → a < c ∨ c < b`), and `+Inf` is not a NaN.  IEEE-754 `<` on non-NaN values is a
strict total order, which is a special case (`Props.C16.bitsMetric_ordered`). -/
structure Metric.Ordered (m : Metric α) : Prop where
  inf_num : m.isNaN m.inf = false
  irrefl : ∀ a, m.isNaN a = false → m.lt a a = false
  trans : ∀ a b c, m.isNaN a = false → m.isNaN b = false → m.isNaN c = false →
    m.lt a b = true → m.lt b c = true → m.lt a c = true
  weak : ∀ a b c, m.isNaN a = false → m.isNaN b = false → m.isNaN c = false →
    m.lt a b = true → m.lt a c = true ∨ m.lt c b = true

variable {α : Type} (m : Metric α)

theorem Metric.nd_num (h : m.Ordered) (c q : Nat) : m.isNaN (m.nd c q) = false := by
  unfold Metric.nd
  split
  · exact h.inf_num
  · rename_i hn; simpa using hn

theorem fcScan_nil (c : Nat) (st : FCState α) : fcScan m c st [] = st := rfl

theorem fcScan_cons (c : Nat) (st : FCState α) (q : Nat) (t : List Nat) :
    fcScan m c st (q :: t) = fcScan m c (fcStep m c st q) t := rfl

theorem fcStep_of_default (c : Nat) (x : α) (q : Nat) : fcStep m c (cDefault, x) q = (q, m.nd c q) := by
  simp [fcStep]

theorem fcStep_of_ne (c : Nat) (st : FCState α) (q : Nat) (h : st.1 ≠ cDefault) :
    fcStep m c st q = if m.lt (m.nd c q) st.2 = true then (q, m.nd c q) else st := by
  unfold fcStep
  have : (st.1 == cDefault) = false := by simpa using h
  simp [this]

/-- first-minimum characterisation of a palette position -/
def IsFirstMin (c : Nat) (pal : List Nat) (r : Nat) : Prop :=
  ∃ pre suf, pal = pre ++ r :: suf ∧
    (∀ q ∈ pre, m.lt (m.nd c r) (m.nd c q) = true) ∧
    (∀ q ∈ suf, m.lt (m.nd c q) (m.nd c r) = false)

theorem findColor_cons (c q : Nat) (t : List Nat) :
    findColor m c (q :: t) = (fcScan m c (q, m.nd c q) t).1 := by
  unfold findColor
  rw [fcScan_cons, fcStep_of_default]

/-- one more palette entry: it becomes the first minimum iff it is strictly closer -/
theorem IsFirstMin.snoc (h : m.Ordered) {c : Nat} {pal : List Nat} {r : Nat} (hr : IsFirstMin m c pal r) (q : Nat) :
    IsFirstMin m c (pal ++ [q]) (if m.lt (m.nd c q) (m.nd c r) = true then q else r) := by
  obtain ⟨pre, suf, hs, hpre, hsuf⟩ := hr
  have num := m.nd_num h c
  by_cases hlt : m.lt (m.nd c q) (m.nd c r) = true
  · rw [if_pos hlt]
    refine ⟨pal, [], rfl, fun x hx => ?_, nofun⟩
    rw [hs, List.mem_append, List.mem_cons] at hx
    rcases hx with hx | rfl | hx
    · exact h.trans _ _ _ (num q) (num r) (num x) hlt (hpre x hx)
    · exact hlt
    · exact (h.weak _ _ (m.nd c x) (num q) (num r) (num x) hlt).resolve_right (by rw [hsuf x hx]; nofun)
  · rw [if_neg hlt]
    refine ⟨pre, suf ++ [q], by rw [hs, List.append_assoc, List.cons_append], hpre, fun x hx => ?_⟩
    rcases List.mem_append.mp hx with hx | hx
    · exact hsuf x hx
    · rw [List.mem_singleton.mp hx]; simpa using hlt

theorem fcScan_isFirstMin (h : m.Ordered) (c : Nat) :
    ∀ (t pal : List Nat) (r : Nat), cDefault ∉ t → r ≠ cDefault → IsFirstMin m c pal r →
      IsFirstMin m c (pal ++ t) (fcScan m c (r, m.nd c r) t).1
  | [], pal, r, _, _, hr => by rw [List.append_nil]; exact hr
  | q :: t, pal, r, ht, hne, hr => by
    have ht' : cDefault ∉ t := fun e => ht (List.mem_cons_of_mem _ e)
    have hs := IsFirstMin.snoc m h hr q
    rw [fcScan_cons, fcStep_of_ne m c _ q hne, List.append_cons]
    split at hs <;> rename_i hlt
    · rw [if_pos hlt]; exact fcScan_isFirstMin h c t _ q ht' (fun e => ht (by simp [e])) hs
    · rw [if_neg hlt]; exact fcScan_isFirstMin h c t _ r ht' hne hs

theorem findColor_isFirstMin (h : m.Ordered) (c : Nat) (pal : List Nat) (hne : pal ≠ []) (hd : cDefault ∉ pal) :
    IsFirstMin m c pal (findColor m c pal) := by
  cases pal with
  | nil => exact absurd rfl hne
  | cons q t =>
    rw [findColor_cons]
    exact fcScan_isFirstMin m h c t [q] q (fun e => hd (List.mem_cons_of_mem _ e)) (fun e => hd (by simp [e]))
      ⟨[], [], rfl, nofun, nofun⟩
theorem IsFirstMin.mem {c : Nat} {pal : List Nat} {r : Nat} (h : IsFirstMin m c pal r) : r ∈ pal := by
  obtain ⟨pre, suf, hs, _, _⟩ := h
  rw [hs]; simp

theorem IsFirstMin.argmin (ho : m.Ordered) {c : Nat} {pal : List Nat} {r : Nat} (h : IsFirstMin m c pal r) :
    ∀ q ∈ pal, m.lt (m.nd c q) (m.nd c r) = false := by
  obtain ⟨pre, suf, hs, hpre, hsuf⟩ := h
  intro q hq
  rw [hs] at hq
  rcases List.mem_append.mp hq with h1 | h2
  · -- asymmetry
    have hlt := hpre q h1
    cases hc : m.lt (m.nd c q) (m.nd c r) with
    | false => rfl
    | true =>
      have := ho.trans _ _ _ (m.nd_num ho c r) (m.nd_num ho c q) (m.nd_num ho c r) hlt hc
      rw [ho.irrefl _ (m.nd_num ho c r)] at this; cases this
  · rcases List.mem_cons.mp h2 with e | h3
    · rw [e]; exact ho.irrefl _ (m.nd_num ho c r)
    · exact hsuf q h3

/-- membership needs no hypothesis at all: the first iteration always takes the first element -/
theorem fcScan_mem (c : Nat) : ∀ (l : List Nat) (st : FCState α), (fcScan m c st l).1 = st.1 ∨ (fcScan m c st l).1 ∈ l := by
  intro l
  induction l with
  | nil => intro st; left; rfl
  | cons q t ih =>
    intro st
    rw [fcScan_cons]
    have hs : fcStep m c st q = (q, m.nd c q) ∨ fcStep m c st q = st := by
      unfold fcStep
      by_cases hc : (st.1 == cDefault || m.lt (m.nd c q) st.2) = true
      · left; rw [if_pos hc]
      · right; rw [if_neg hc]
    rcases ih (fcStep m c st q) with h1 | h2
    · rcases hs with e | e
      · right; rw [h1, e]; simp
      · left; rw [h1, e]
    · right; exact List.mem_cons_of_mem _ h2

theorem findColor_mem' (c : Nat) (pal : List Nat) (hne : pal ≠ []) : findColor m c pal ∈ pal := by
  cases pal with
  | nil => exact absurd rfl hne
  | cons q t =>
    rw [findColor_cons]
    rcases fcScan_mem m c t (q, m.nd c q) with h | h
    · rw [h]; simp
    · exact List.mem_cons_of_mem _ h

/-- the scan does not depend on the distance stored next to a default match -/
theorem fcScan_default_irrel (c : Nat) (x y : α) (l : List Nat) :
    (fcScan m c (cDefault, x) l).1 = (fcScan m c (cDefault, y) l).1 := by
  induction l generalizing x y with
  | nil => rfl
  | cons q t ih => rw [fcScan_cons, fcScan_cons, fcStep_of_default, fcStep_of_default]

theorem fcScan_append (c : Nat) (st : FCState α) (l₁ l₂ : List Nat) :
    fcScan m c st (l₁ ++ l₂) = fcScan m c (fcScan m c st l₁) l₂ := by
  unfold fcScan; rw [List.foldl_append]

end Tcell.Color
