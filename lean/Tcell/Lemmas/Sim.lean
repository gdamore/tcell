/-
Lemmas about the SimulationScreen model (C18): the history induction behind `sim_show_faithful` — every in-range,
unlocked cell the logical buffer reports clean shows, in the reported (front) cells, exactly `render` of its logical
content.  Dirty tracking is C08's specification ghost (`GhostInv`, `QuietStep`), as in Lemmas/WScreen for C19;
the width invariant `WOk` / `RwOk` and `obsMain` / `obsWidth` are the definitions of Lemmas/DrawDefs (C01), with
`getContent_wok` of Lemmas/DrawBuf.
-/
import Tcell.Model.Sim
import Tcell.Lemmas.DrawBuf
import Tcell.Props.C08
namespace Tcell.SimL
open Tcell Tcell.Buf

variable {rw : Rune → Int} {v : SimVariant} {enc : Encoder} {fb : RuneMap} {scr : Style}

/-- `WOk` is C08's `WidthExact` -/
theorem wok_closed (hrw : RwOk rw) : Cell.Closed (WOk rw) := Props.C08.widthExact_closed rw hrw.zero

variable (rw v enc fb scr) in
/-- `Sim.render` as a function of the stored content triple, the screen width and the column -/
def renderC (pw x : Int) (c : Content) : SimCell :=
  let style := if c.2.2 = {} then scr else c.2.2
  if x > pw - obsWidth rw c.1 then { bytes := [32], style := style, runes := [32] }
  else { bytes := Sim.simBytes v enc fb (obsMain rw c.1 :: c.2.1), style := style, runes := obsMain rw c.1 :: c.2.1 }

theorem render_eq (hrw : RwOk rw) (s : Sim) (x y : Int) (hr : s.back.inRange x y) (hw : WOk rw (s.back.cells x y)) :
    s.render v enc x y = renderC rw v enc s.fallback s.style s.physw x (s.back.cells x y).content := by
  unfold Sim.render renderC
  rw [getContent_wok hrw s.back x y hr hw]
  rfl

theorem renderC_markClean (hrw : RwOk rw) (pw x : Int) (c : Cell) :
    renderC rw v enc fb scr pw x c.markClean.content = renderC rw v enc fb scr pw x c.content := by
  have := obsMain_markClean hrw c.currMain
  simp only [renderC, Cell.content, Cell.markClean_currMain, this.1, this.2]
  rfl

variable (rw v enc fb scr) in
/-- the reported cells show the ghost: whatever C08's specification ghost remembers as "content when last marked
clean" is what the front buffer holds for that (in-range) cell -/
def PG (b : Buf) (g : Ghost) (front : Int → Int → SimCell) : Prop :=
  ∀ x y c, b.inRange x y → g x y = some c → front x y = renderC rw v enc fb scr b.w x c

variable (rw v enc fb scr) in
/-- invariant over the six components drawing reads or writes; it mentions no other field of the state, so `{ h with }`
carries it to a state that differs only elsewhere -/
structure CInv (s : Sim) : Prop where
  style : s.style = scr
  fallback : s.fallback = fb
  pw : s.physw = s.back.w
  ph : s.physh = s.back.h
  wok : ∀ x y, WOk rw (s.back.cells x y)
  shown : ∃ g, Props.C08.GhostInv s.back g ∧ PG rw v enc fb scr s.back g s.front

variable (rw v enc fb scr) in
def SInv (s : Sim) : Prop := CInv rw v enc fb scr s ∧ s.clear = false

theorem PG_none (b : Buf) (front : Int → Int → SimCell) : PG rw v enc fb scr b Ghost.none front :=
  fun _ _ _ _ h => nomatch h

/-! ### buffer steps that keep the invariant whatever the front buffer is

SetContent, Fill, LockCell, UnlockCell and LockRegion are quiet steps (`Props.C08.QuietStep`): the size stays, `WOk` is
kept and the ghost only forgets. -/

theorem CInv.of_quiet {s : Sim} {b' : Buf} (h : CInv rw v enc fb scr s) (hq : Props.C08.QuietStep (WOk rw) s.back b') :
    CInv rw v enc fb scr { s with back := b' } := by
  obtain ⟨g, hg, hpg⟩ := h.shown
  obtain ⟨g', hg', le⟩ := hq.ghost g hg
  refine ⟨h.style, h.fallback, h.pw.trans hq.w.symm, h.ph.trans hq.h.symm, hq.cells h.wok, g', hg', fun i j c hri hc => ?_⟩
  rw [inRange_iff, hq.w, hq.h] at hri
  exact (hpg i j c hri (le i j c hc)).trans (by rw [hq.w])

/-- a quiet op whose Fill is within its contract (`SimOp.ok`) -/
theorem wok_quiet_apply (hrw : RwOk rw) (b : Buf) {op : CbOp} (hq : op.Quiet) (hf : Props.C08.FillOk rw false op) :
    Props.C08.QuietStep (WOk rw) b (b.apply rw op) :=
  Props.C08.quiet_apply rw (wok_closed hrw) b hq fun _ => Props.C08.widthExact_write rw false hrw.space hf

section
variable (v enc)

/-- simulation.go:163 drawCell in one equation -/
theorem drawCell_fst (s : Sim) (x y : Int) :
    (s.drawCell v enc x y).1 =
      if s.back.dirty x y = true ∧ s.inPhys x y then
        if x > s.physw - (s.back.getContent x y).2.2.2 ∧ !v.lastColClean then s.setFront x y (s.render v enc x y)
        else { (s.setFront x y (s.render v enc x y)) with back := s.back.setDirty x y false }
      else s := by
  unfold Sim.drawCell; dsimp only
  cases s.back.dirty x y <;> by_cases hp : s.inPhys x y <;> simp only [hp] <;> simp <;> split <;> rfl

theorem drawCell_snd (s : Sim) (x y : Int) : (s.drawCell v enc x y).2 = (s.back.getContent x y).2.2.2 := by
  unfold Sim.drawCell; dsimp only; split
  · rfl
  · split
    · rfl
    · split <;> rfl

theorem drawCell_clear (s : Sim) (x y : Int) : (s.drawCell v enc x y).1.clear = s.clear := by
  rw [drawCell_fst]; split
  · split <;> rfl
  · rfl

end

theorem drawCell_of_dirty (hv : v.lastColClean = true) (s : Sim) (x y : Int) (hd : s.back.dirty x y = true) (hp : s.inPhys x y) :
    (s.drawCell v enc x y).1 = { (s.setFront x y (s.render v enc x y)) with back := s.back.setDirty x y false } := by
  rw [drawCell_fst, if_pos ⟨hd, hp⟩, if_neg (by simp [hv])]

theorem CInv.inPhys {s : Sim} (h : CInv rw v enc fb scr s) {x y : Int} (hd : s.back.dirty x y = true) : s.inPhys x y := by
  have := (inRange_iff s.back x y).1 (dirty_inRange hd)
  unfold Sim.inPhys; rw [h.pw, h.ph]; exact this

/-- the one step where the ghost learns: the cell is marked clean and the front cell becomes `render` of it -/
theorem drawCell_cinv (hrw : RwOk rw) (hv : v.lastColClean = true) (s : Sim) (x y : Int) (h : CInv rw v enc fb scr s) :
    CInv rw v enc fb scr (s.drawCell v enc x y).1 := by
  by_cases hd : s.back.dirty x y = true
  · have hr := dirty_inRange hd
    obtain ⟨g, hg, hpg⟩ := h.shown
    rw [drawCell_of_dirty hv s x y hd (h.inPhys hd)]
    refine ⟨h.style, h.fallback, h.pw.trans (setDirty_w ..).symm, h.ph.trans (setDirty_h ..).symm,
      applyV_cells (wok_closed hrw) false rw s.back (.setDirty x y false) (fun _ => id) h.wok,
      g.step s.back (s.back.setDirty x y false) (.setDirty x y false),
      Props.C08.ghostInv_step rw s.back g (.setDirty x y false) hg, fun i j c hri hc => ?_⟩
    · show (s.setFront x y (s.render v enc x y)).front i j = renderC rw v enc fb scr (s.back.setDirty x y false).w i c
      rw [inRange_iff, setDirty_w, setDirty_h] at hri
      rw [Ghost.step_setDirty] at hc
      simp only [setDirty_w, Sim.setFront]
      by_cases hij : i = x ∧ j = y
      · rw [if_pos ⟨hij.1, hij.2, hr⟩] at hc
        obtain ⟨rfl, rfl⟩ := hij
        cases hc
        rw [if_pos ⟨rfl, rfl⟩, setDirty_false_cells, if_pos ⟨rfl, rfl, hr⟩, renderC_markClean hrw,
          render_eq hrw s i j hr (h.wok i j), h.style, h.fallback, h.pw]
      · rw [if_neg (fun hh => hij ⟨hh.1, hh.2.1⟩)] at hc
        rw [if_neg hij]
        exact hpg i j c hri hc
  · rw [drawCell_fst, if_neg (fun hh => hd hh.1)]; exact h

theorem drawCell_clean_after (hv : v.lastColClean = true) (s : Sim) (x y : Int) (h : CInv rw v enc fb scr s) :
    (s.drawCell v enc x y).1.back.dirty x y = false := by
  by_cases hd : s.back.dirty x y = true
  · rw [drawCell_of_dirty hv s x y hd (h.inPhys hd)]
    exact Props.C08.clean_after_setDirty_false s.back x y
  · rw [drawCell_fst, if_neg (fun hh => hd hh.1)]; simpa using hd

section
variable (v enc)

theorem drawRow_succ (y : Int) (n : Nat) (s : Sim) (x : Int) :
    Sim.drawRow v enc y (n + 1) s x =
      if x < s.back.w then Sim.drawRow v enc y n (s.drawCell v enc x y).1 (x + (s.drawCell v enc x y).2) else s := rfl

theorem drawRows_succ (n : Nat) (s : Sim) (y : Int) :
    Sim.drawRows v enc (n + 1) s y = Sim.drawRows v enc n (Sim.drawRow v enc y s.back.w.toNat s 0) (y + 1) := rfl

theorem drawRow_ind {P : Sim → Prop} (hP : ∀ s x y, P s → P (s.drawCell v enc x y).1) (y : Int) :
    ∀ (fuel : Nat) (s : Sim) (x : Int), P s → P (Sim.drawRow v enc y fuel s x)
  | 0, _, _, h => h
  | n + 1, s, x, h => by
    rw [drawRow_succ]; split
    · exact drawRow_ind hP y n _ _ (hP s x y h)
    · exact h

theorem drawRows_ind {P : Sim → Prop} (hP : ∀ s x y, P s → P (s.drawCell v enc x y).1) :
    ∀ (n : Nat) (s : Sim) (y : Int), P s → P (Sim.drawRows v enc n s y)
  | 0, _, _, h => h
  | n + 1, s, y, h => drawRows_ind hP n _ _ (drawRow_ind v enc hP y _ s 0 h)

end

/-- the state the loops of `draw` start from (simulation.go:264-267) -/
def drawStart (s : Sim) : Sim :=
  if s.clear then ({ s with cursorvis := false } : Sim).clearScreen else { s with cursorvis := false }

variable (v enc) in
theorem draw_eq (s : Sim) :
    s.draw v enc = (Sim.drawRows v enc (drawStart s).back.h.toNat (drawStart s) 0).showCursor := rfl

theorem drawStart_of_clear_false (s : Sim) (hc : s.clear = false) : drawStart s = { s with cursorvis := false } := by
  simp [drawStart, hc]

/-- `draw` from a state whose front buffer is right once a pending `clearScreen` is done -/
theorem draw_sinv (hrw : RwOk rw) (hv : v.lastColClean = true) (s : Sim) (h : CInv rw v enc fb scr (drawStart s)) :
    SInv rw v enc fb scr (s.draw v enc) := by
  have h2 := drawRows_ind v enc (fun s x y => drawCell_cinv hrw hv s x y) (drawStart s).back.h.toNat _ 0 h
  refine ⟨{ h2 with }, ?_⟩
  show (Sim.drawRows v enc _ (drawStart s) 0).clear = false
  refine drawRows_ind v enc (P := fun t => t.clear = false) (fun s x y hs => (drawCell_clear v enc s x y).trans hs) _ _ _ ?_
  unfold drawStart; split
  · rfl
  · simpa using ‹¬ s.clear = true›

theorem resize_noop (s : Sim) (hpw : s.physw = s.back.w) (hph : s.physh = s.back.h) : s.resize = s := by
  unfold Sim.resize; simp [hpw, hph]

theorem stepS_inv (hrw : RwOk rw) (hv1 : v.lastColClean = true) (hv2 : v.setSizeEvent = true) (s : Sim) (op : SimOp)
    (hok : op.ok rw) (h : SInv rw v enc fb scr s) : SInv rw v enc fb scr (s.stepS rw v enc op) := by
  obtain ⟨h, hcl⟩ := h
  cases op with
  | setContent x y m c st => exact ⟨h.of_quiet (wok_quiet_apply hrw _ (op := .setContent x y m c st) trivial trivial), hcl⟩
  | fill r st => exact ⟨h.of_quiet (wok_quiet_apply hrw _ (op := .fill r st) trivial (.inl hok)), hcl⟩
  | lockCell x y => exact ⟨h.of_quiet (wok_quiet_apply hrw _ (op := .lockCell x y) trivial trivial), hcl⟩
  | unlockCell x y => exact ⟨h.of_quiet (wok_quiet_apply hrw _ (op := .unlockCell x y) trivial trivial), hcl⟩
  | lockRegion x y w hh lock => exact ⟨h.of_quiet (Props.C08.quiet_lockRowsG (wok_closed hrw) _ x y w lock hh.toNat), hcl⟩
  | present =>
    show SInv rw v enc fb scr ((s.resize).draw v enc)
    rw [resize_noop s h.pw h.ph]
    exact draw_sinv hrw hv1 s (by rw [drawStart_of_clear_false s hcl]; exact { h with })
  | sync =>
    -- everything is invalidated and the front buffer cleared: the ghost remembers nothing
    show SInv rw v enc fb scr (s.sync v enc)
    unfold Sim.sync
    simp only [resize_noop { s with clear := true } h.pw h.ph]
    exact draw_sinv hrw hv1 _ ⟨h.style, h.fallback, h.pw, h.ph, fun i j => (wok_closed hrw).markDirty _ (h.wok i j),
      Ghost.none, Props.C08.ghostInv_of_lastMain (fun _ _ => rfl) _, PG_none _ _⟩
  | setSize w hh =>
    show SInv rw v enc fb scr (s.setSize v w hh)
    simp only [Sim.setSize, hv2, if_true, Sim.resize]
    split
    · -- an effective resize: every cell is fresh or carried over with `lastMain = 0`
      rename_i hs
      exact ⟨⟨h.style, h.fallback, (resize_w s.back w hh).symm, (resize_h s.back w hh).symm,
        applyV_cells (wok_closed hrw) false rw s.back (.resize w hh) (fun _ => id) h.wok, Ghost.none,
        Props.C08.ghostInv_of_lastMain (Props.C08.resize_lastMain s.back w hh (fun e => by omega)) _, PG_none _ _⟩, hcl⟩
    · rename_i hs
      have hs' : w = s.back.w ∧ hh = s.back.h := by omega
      obtain ⟨g, hg, hpg⟩ := h.shown
      refine ⟨⟨h.style, h.fallback, hs'.1, hs'.2, h.wok, g, hg, fun i j cc hri hc => ?_⟩, hcl⟩
      have hr := (inRange_iff s.back i j).1 hri
      show (if _ then s.front i j else {}) = _
      rw [if_pos (by rw [hs'.1, hs'.2, h.pw, h.ph]; omega)]
      exact hpg i j cc hri hc
  | setCursor | injectKey | injectMouse => exact ⟨{ h with }, hcl⟩

theorem runS_inv (hrw : RwOk rw) (hv1 : v.lastColClean = true) (hv2 : v.setSizeEvent = true) :
    ∀ (ops : List SimOp) (s : Sim), (∀ op ∈ ops, op.ok rw) → SInv rw v enc fb scr s → SInv rw v enc fb scr (s.runS rw v enc ops)
  | [], _, _, h => h
  | op :: ops, s, hok, h =>
    runS_inv hrw hv1 hv2 ops _ (fun o ho => hok o (List.mem_cons_of_mem _ ho))
      (stepS_inv hrw hv1 hv2 s op (hok op (List.mem_cons_self ..)) h)

theorem init_inv (hrw : RwOk rw) : SInv rw v enc fb scr { Sim.init fb with style := scr } :=
  ⟨⟨rfl, rfl, (resize_w _ 80 25).symm, (resize_h _ 80 25).symm,
    applyV_cells (wok_closed hrw) false rw {} (.resize 80 25) (fun _ => id) (fun _ _ => (wok_closed hrw).fresh), Ghost.none,
    Props.C08.ghostInv_of_lastMain (Props.C08.resize_lastMain _ 80 25 fun _ _ _ => rfl) _, PG_none _ _⟩, rfl⟩

theorem faithful_of_inv (hrw : RwOk rw) (s : Sim) (h : SInv rw v enc fb scr s) (x y : Int)
    (hr : s.back.inRange x y) (hl : (s.back.cells x y).lock = false) (hd : s.back.dirty x y = false) :
    s.front x y = s.render v enc x y := by
  obtain ⟨g, hg, hpg⟩ := h.1.shown
  rw [dirty, if_pos hr] at hd
  obtain ⟨h1, h2⟩ := (Cell.isDirty_false_iff _ hl).1 hd
  rw [hpg x y _ hr (hg x y hr h1), h2, render_eq hrw s x y hr (h.1.wok x y), h.1.style, h.1.fallback, h.1.pw]

/-! ### the walk of one Show: only dirty cells are drawn, every position the loops stop at is clean afterwards -/

section
variable (v enc)

theorem drawCell_dirtyLe (s : Sim) (x y : Int) : Props.C08.DirtyLe (s.drawCell v enc x y).1.back s.back := by
  rw [drawCell_fst]; split
  · split
    · exact .refl _
    · exact Props.C08.setDirty_false_dirtyLe _ _ _
  · exact .refl _

theorem drawRow_dirtyLe (y : Int) (fuel : Nat) (s : Sim) (x : Int) : Props.C08.DirtyLe (Sim.drawRow v enc y fuel s x).back s.back :=
  drawRow_ind v enc (P := fun t => Props.C08.DirtyLe t.back s.back) (fun t x y ht => (drawCell_dirtyLe v enc t x y).trans ht) y fuel s x (.refl _)

theorem drawRows_dirtyLe (n : Nat) (s : Sim) (y : Int) : Props.C08.DirtyLe (Sim.drawRows v enc n s y).back s.back :=
  drawRows_ind v enc (P := fun t => Props.C08.DirtyLe t.back s.back) (fun t x y ht => (drawCell_dirtyLe v enc t x y).trans ht) n s y (.refl _)

/-- the columns the inner loop of `draw` stops at (same recursion as `Sim.drawRow`) -/
def rowVisits (y : Int) : Nat → Sim → Int → List Int
  | 0, _, _ => []
  | fuel + 1, s, x =>
    if x < s.back.w then x :: rowVisits y fuel (s.drawCell v enc x y).1 (x + (s.drawCell v enc x y).2) else []

/-- the positions the two loops stop at (same recursion as `Sim.drawRows`) -/
def visits : Nat → Sim → Int → List (Int × Int)
  | 0, _, _ => []
  | n + 1, s, y =>
    (rowVisits v enc y s.back.w.toNat s 0).map (fun x => (x, y)) ++ visits n (Sim.drawRow v enc y s.back.w.toNat s 0) (y + 1)

end

theorem rowVisits_clean (hrw : RwOk rw) (hv : v.lastColClean = true) (y : Int) : ∀ (fuel : Nat) (s : Sim) (x : Int),
    CInv rw v enc fb scr s → ∀ x' ∈ rowVisits v enc y fuel s x, (Sim.drawRow v enc y fuel s x).back.dirty x' y = false
  | 0, _, _, _, _, h => nomatch h
  | n + 1, s, x, hinv, x', h => by
    unfold rowVisits at h
    rw [drawRow_succ]
    split at h
    · rename_i hx
      rw [if_pos hx]
      rcases List.mem_cons.1 h with rfl | h2
      · exact (drawRow_dirtyLe v enc y n _ _).clean (drawCell_clean_after hv s x' y hinv)
      · exact rowVisits_clean hrw hv y n _ _ (drawCell_cinv hrw hv s x y hinv) x' h2
    · cases h

theorem visited_clean (hrw : RwOk rw) (hv : v.lastColClean = true) : ∀ (n : Nat) (s : Sim) (y : Int),
    CInv rw v enc fb scr s → ∀ q ∈ visits v enc n s y, (Sim.drawRows v enc n s y).back.dirty q.1 q.2 = false
  | 0, _, _, _, _, h => nomatch h
  | n + 1, s, y, hinv, q, h => by
    unfold visits at h
    rw [drawRows_succ]
    rcases List.mem_append.1 h with h1 | h2
    · obtain ⟨x', hx', rfl⟩ := List.mem_map.1 h1
      exact (drawRows_dirtyLe v enc n _ _).clean (rowVisits_clean hrw hv y _ s 0 hinv x' hx')
    · exact visited_clean hrw hv n _ _ (drawRow_ind v enc (fun s x y => drawCell_cinv hrw hv s x y) y _ s 0 hinv) q h2

variable (v enc) in
/-- the positions the `draw` of a `Show` on state `s` stops at -/
def showVisits (s : Sim) : List (Int × Int) := visits v enc s.back.h.toNat { s with cursorvis := false } 0

variable (v enc) in
theorem showScr_eq (s : Sim) (hpw : s.physw = s.back.w) (hph : s.physh = s.back.h) (hc : s.clear = false) :
    s.showScr v enc = (Sim.drawRows v enc s.back.h.toNat { s with cursorvis := false } 0).showCursor := by
  rw [Sim.showScr, resize_noop s hpw hph, draw_eq, drawStart_of_clear_false s hc]

variable (v enc) in
theorem show_dirtyLe (s : Sim) (hpw : s.physw = s.back.w) (hph : s.physh = s.back.h) (hc : s.clear = false) :
    Props.C08.DirtyLe (s.showScr v enc).back s.back := by
  rw [showScr_eq v enc s hpw hph hc]
  exact drawRows_dirtyLe v enc _ { s with cursorvis := false } 0

theorem show_visits_clean (hrw : RwOk rw) (hv : v.lastColClean = true) (s : Sim) (h : SInv rw v enc fb scr s) :
    ∀ q ∈ showVisits v enc s, (s.showScr v enc).back.dirty q.1 q.2 = false := by
  intro q hq
  rw [showScr_eq v enc s h.1.pw h.1.ph h.2]
  exact visited_clean hrw hv _ { s with cursorvis := false } 0 { h.1 with } q hq

variable (rw v enc) in
theorem runS_append (s : Sim) (ops : List SimOp) (op : SimOp) :
    s.runS rw v enc (ops ++ [op]) = (s.runS rw v enc ops).stepS rw v enc op := by
  simp [Sim.runS, List.foldl_append]

end Tcell.SimL
