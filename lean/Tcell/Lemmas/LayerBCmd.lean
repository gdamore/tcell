/-
Layer B of C01/C13/C09: simulation of every abstract command and of command lists.

`CapsFx dc rc` collects what the simulation needs to know about the terminal description: the *effect on the reference emulator*
of the bytes rendered for each kind of command; `IchFx` the same for the insert-character string of the bottom-right corner trick,
asked only of terminals that use the trick.  `Lemmas/LayerBXterm.lean` and `Lemmas/LayerBXtermFx.lean` prove `CapsFx` for every
description whose strings are in the class `CapsOk` (`xl_capsFx`).  `Admit` is the side condition under which a command is
simulated; `Lemmas/LayerBAdmit.lean` proves it for every command the draw path emits over any history.
-/
import Tcell.Lemmas.LayerBSim
namespace Tcell.LayerB
open Tcell Tcell.Spec.Ecma48 Tcell.Spec.Ecma48.Term

/-- styles covered by the pen simulation: no hyperlink (`_partial`: OSC 8 with a URL is validated, not proved) -/
def StyleOk (s : Style) : Prop := s.url = ""

/-- effect on the emulator of the bytes of each command kind -/
structure CapsFx (dc : DrawCfg) (rc : RenderCfg) : Prop where
  goto : ∀ (t : Term) (x y : Nat), Good dc.rw t → (x : Int) + 1 < TParm.maxInt64 → (y : Int) + 1 < TParm.maxInt64 →
    t.feed (Render.render rc (.goto x y)) =
      { t with cx := min x (t.w - 1), cy := min y (t.h - 1), pendingWrap := false, cursorKnown := true }
  pen : ∀ (t : Term) (s : Style), Good dc.rw t → Quiet rc t → StyleOk s →
    t.feed (Render.render rc (.setPen s)) = { t with pen := penOf rc s, penKnown := true, linkKnown := true }
  /-- the hide-cursor string, when the description has one (otherwise hideCursor moves the cursor instead) -/
  hide : ∀ (t : Term), Good dc.rw t → dc.hasHide = true →
    ∃ m', t.feed (Render.render rc .hideCursor) = { t with modes := m' } ∧ ModesOk t.modes m' ∧
      m'.cursorVisible = false ∧ m'.cursorShape = t.modes.cursorShape
  /-- a description without a hide-cursor string is one the draw configuration knows to have none -/
  hideEq : dc.hasHide = false → rc.ti.hideCursor = []
  show_ : ∀ (t : Term) (cs cc : Nat), Good dc.rw t → Quiet rc t → Color.valid cc = false → cc ≠ colorReset →
    ∃ m', t.feed (Render.render rc (.showCursor cs cc)) = { t with modes := m' } ∧ ModesOk t.modes m' ∧
      m'.cursorVisible = true ∧ (cs < 7 → rc.d.cursorStyles ≠ none → m'.cursorShape = cs)
  clear : ∀ (t : Term) (s : Style), Good dc.rw t → Quiet rc t →
    ∃ t', t.feed (Render.render rc (.clear s)) = t' ∧ Good dc.rw t' ∧ Quiet rc t' ∧ t'.grid.w = t.grid.w ∧ t'.grid.h = t.grid.h ∧
      t'.modes.cursorVisible = t.modes.cursorVisible ∧ t'.modes.cursorShape = t.modes.cursorShape

/-- the effect asked of the insert-character string -/
def IchFx (dc : DrawCfg) (rc : RenderCfg) : Prop :=
  ∀ t : Term, Good dc.rw t → t.feed (Render.render rc .insertChar) = t.insertChars 1

/-- the situation in which the corner trick inserts: cursor known, in the grid, in the last-but-one column, on a narrow
    glyph the terminal is known to show; the last cell is not known to be a right half -/
def AdmitIch (a : ATerm) : Prop :=
  ∃ x y b st, a.cur = some (x, y) ∧ a.inGrid x y ∧ a.grid x y = .shown b false st ∧ a.grid (x + 1) y ≠ .cont ∧ x + 2 = a.w

/-- side condition of the simulation of one command in abstract state `a` -/
def Admit (dc : DrawCfg) (a : ATerm) : Cmd → Prop
  | .goto x y => 0 ≤ x ∧ 0 ≤ y ∧ x + 1 < TParm.maxInt64 ∧ y + 1 < TParm.maxInt64
  | .setPen s => StyleOk s
  | .put bytes width => ∃ x y st, a.cur = some (x, y) ∧ a.pen = some st ∧ a.inGrid x y ∧ x + width ≤ a.w ∧
      PayloadOk dc.rw bytes width
  | .hideCursor => dc.hasHide = true
  | .showCursor _ cc => Color.valid cc = false ∧ cc ≠ colorReset
  | .clear _ => True
  | .insertChar => dc.cornerTrick = true ∧ AdmitIch a

def AdmitAll (dc : DrawCfg) : ATerm → List Cmd → Prop
  | _, [] => True
  | a, c :: cs => Admit dc a c ∧ AdmitAll dc (a.apply c) cs

theorem admitAll_append (dc : DrawCfg) (a : ATerm) (l1 l2 : List Cmd) :
    AdmitAll dc a (l1 ++ l2) ↔ AdmitAll dc a l1 ∧ AdmitAll dc (a.applyAll l1) l2 := by
  induction l1 generalizing a with
  | nil => simp [AdmitAll, ATerm.applyAll]
  | cons c cs ih =>
    simp only [List.cons_append, AdmitAll, ih, ATerm.applyAll, List.foldl_cons, and_assoc]

theorem curRep_modes {t : Term} {m' : Modes} (hm : ModesOk t.modes m') {x y : Int} (h : CurRep t x y) :
    CurRep { t with modes := m' } x y := by
  obtain ⟨a, b, c, d⟩ := h
  refine ⟨a, b, c, ?_⟩
  intro hx; have := d hx
  exact ⟨this.1, by show t.pendingWrap = m'.autoMargin; rw [hm.am]; exact this.2⟩

theorem insertAt_corner_grid (a : ATerm) (x y : Int) (b : List Nat) (st : Style) (hsh : a.grid x y = .shown b false st)
    (hw2 : x + 2 = a.w) (i j : Int) :
    (a.insertAt x y).grid i j =
      if j = y ∧ i = x then .garbage else if j = y ∧ i = x + 1 then .shown b false st else a.grid i j := by
  simp only [ATerm.insertAt]
  by_cases h1 : j = y ∧ i = x
  · rw [if_pos h1, if_pos h1]
  · rw [if_neg h1, if_neg h1, if_neg (by rw [hsh]; intro h; cases h.2.2)]
    by_cases h2 : j = y ∧ i = x + 1
    · rw [if_pos ⟨h2.1, by omega, by omega⟩, if_pos h2]
      obtain ⟨rfl, rfl⟩ := h2
      rw [show x + 1 - 1 = x by omega, hsh]
    · rw [if_neg h2, if_neg (by intro h; exact h2 ⟨h.1, by omega⟩)]

/-- **simulation of `insertChar`** (ICH) in the corner-trick situation -/
theorem sim_insertChar {dc : DrawCfg} {rc : RenderCfg} (hich : IchFx dc rc) {t : Term} {a : ATerm} (R : Rep dc rc t a)
    (had : AdmitIch a) : Rep dc rc (t.feed (Render.render rc .insertChar)) (a.apply .insertChar) := by
  obtain ⟨x, y, b, st, hcur, hin, hsh, hnc, hw2⟩ := had
  obtain ⟨ck, ccy, c1, _⟩ := R.cur x y hcur hin.1 hin.2.2.1
  have hgw := R.w; have hgh := R.h
  obtain ⟨ccx, cpw⟩ := c1 (by have := hin.2.1; omega)
  have ea : a.apply .insertChar = a.insertAt x y := by simp only [ATerm.apply, hcur]; rw [if_pos hin]
  obtain ⟨hx0, hxw, hy0, hyh⟩ := hin
  obtain rfl : x = (t.cx : Int) := by omega
  obtain rfl : y = (t.cy : Int) := by omega
  have hcxw : t.cx + 2 = t.grid.w := by omega
  have hcyh : t.cy < t.grid.h := by omega
  have cr := R.cells t.cx t.cy (by omega) hcyh
  rw [hsh] at cr
  have hc1 : (t.grid.get (t.cx + 1) t.cy).cont = false := by
    cases h : (t.grid.get (t.cx + 1) t.cy).cont
    · rfl
    · rcases R.conts t.cx t.cy h with h' | h'
      · exact absurd h' hnc
      · rw [hsh] at h'; cases h'
  obtain ⟨hGw, hGh, hget⟩ := insertBlanks_corner t.grid t.blankCell t.blocks t.cx t.cy hcxw cr.1 hc1
  have hagrid := insertAt_corner_grid a t.cx t.cy b st hsh hw2
  have et : t.insertChars 1 = { t with grid := t.grid.insertBlanks t.blankCell t.blocks t.cx t.cy 1, pendingWrap := false } := by
    simp [insertChars, ck]
  rw [ea, hich t R.good, et]
  generalize t.grid.insertBlanks t.blankCell t.blocks t.cx t.cy 1 = G at hget hGw hGh
  have S : Same t ({ t with grid := G, pendingWrap := false } : Term) := ⟨rfl, rfl, rfl, rfl, rfl, rfl, rfl, rfl, rfl, hGw, hGh⟩
  apply rep_transfer (a' := a.insertAt t.cx t.cy) R S rfl rfl rfl rfl rfl
  · intro i j hi hj
    have hi' : i < t.grid.w := hGw ▸ hi
    have hj' : j < t.grid.h := hGh ▸ hj
    show CellRep rc (G.get i j) _
    rw [hget, if_pos ⟨hi', hj'⟩, hagrid]
    by_cases h1 : j = t.cy ∧ i = t.cx
    · rw [if_pos (show (j : Int) = t.cy ∧ (i : Int) = t.cx by omega)]; trivial
    · rw [if_neg h1, if_neg (show ¬ ((j : Int) = t.cy ∧ (i : Int) = t.cx) by omega)]
      by_cases h2 : j = t.cy ∧ i = t.cx + 1
      · rw [if_pos h2, if_pos (show (j : Int) = t.cy ∧ (i : Int) = (t.cx : Int) + 1 by omega)]; exact cr
      · rw [if_neg h2, if_neg (show ¬ ((j : Int) = t.cy ∧ (i : Int) = (t.cx : Int) + 1) by omega)]; exact R.cells i j hi' hj'
  · intro i j hc
    have hc' : (G.get (i + 1) j).cont = true := hc
    rw [hget] at hc'
    split at hc'
    · by_cases h1 : j = t.cy ∧ i + 1 = t.cx
      · rw [if_pos h1] at hc'; cases hc'
      · rw [if_neg h1] at hc'
        by_cases h2 : j = t.cy ∧ i + 1 = t.cx + 1
        · rw [if_pos h2] at hc'; simp [Grid.touch, cr.1] at hc'
        · rw [if_neg h2, ] at hc'
          rw [hagrid, hagrid, if_neg (show ¬ ((j : Int) = t.cy ∧ (i : Int) + 1 = t.cx) by omega),
            if_neg (show ¬ ((j : Int) = t.cy ∧ (i : Int) + 1 = (t.cx : Int) + 1) by omega),
            if_neg (show ¬ ((j : Int) = t.cy ∧ (i : Int) = (t.cx : Int) + 1) by omega)]
          rcases R.conts i j hc' with h | h
          · exact .inl h
          · right; split
            · rfl
            · exact h
    · cases hc'
  · intro x' y' hc hx' hy'
    have : (a.insertAt t.cx t.cy).cur = a.cur := rfl
    rw [this, hcur] at hc
    simp only [Option.some.injEq, Prod.mk.injEq] at hc
    obtain ⟨rfl, rfl⟩ := hc
    exact ⟨ck, ccy, fun _ => ⟨ccx, rfl⟩, fun h => by exfalso; have h' : (t.cx : Int) = ((G.w : Nat) : Int) := h; omega⟩

/-- **simulation of one command**; `hich`: on a terminal that needs the bottom-right corner trick the insert-character string
    is ICH (nothing is asked on other terminals: the draw path never emits `Cmd.insertChar` there) -/
theorem sim_cmd {dc : DrawCfg} {rc : RenderCfg} (hrw : RwB dc.rw) (fx : CapsFx dc rc)
    (hich : dc.cornerTrick = true → IchFx dc rc) {t : Term} {a : ATerm}
    (R : Rep dc rc t a) (cmd : Cmd) (had : Admit dc a cmd) :
    Rep dc rc (t.feed (Render.render rc cmd)) (a.apply cmd) := by
  cases cmd with
  | goto x y =>
    obtain ⟨hx0, hy0, hx1, hy1⟩ := had
    have e := fx.goto t x.toNat y.toNat R.good (by omega) (by omega)
    rw [show ((x.toNat : Nat) : Int) = x by omega, show ((y.toNat : Nat) : Int) = y by omega] at e
    rw [e]
    have hw := R.w; have hh := R.h
    exact { R with
      good := good_of_eq R.good rfl rfl (.refl _) rfl
      quiet := ⟨R.quiet.link, R.quiet.vis, R.quiet.ff⟩
      cur := by
        intro x' y' hc hx' hy'
        simp only [ATerm.apply, Option.some.injEq, Prod.mk.injEq] at hc
        obtain ⟨rfl, rfl⟩ := hc
        simp only [ATerm.clampX, ATerm.clampY] at hx' hy' ⊢
        refine ⟨rfl, ?_, ?_, ?_⟩
        · show min y.toNat (t.grid.h - 1) = _
          split <;> (try split) <;> omega
        · intro hlt
          refine ⟨?_, rfl⟩
          show min x.toNat (t.grid.w - 1) = _
          split <;> (try split) <;> omega
        · intro heq; exfalso
          revert heq hx'; show _ → (_ = (t.grid.w : Int)) → False
          split <;> (try split) <;> omega }
  | setPen s =>
    rw [fx.pen t s R.good R.quiet had]
    exact { R with
      good := good_of_eq R.good rfl rfl (.refl _) rfl
      quiet := ⟨fun _ => ⟨rfl, by show (penOf rc s).link = none; simp [penOf, show s.url = "" from had]⟩, R.quiet.vis, R.quiet.ff⟩
      pen := fun s' h => by cases h; exact ⟨rfl, rfl, rfl⟩ }
  | put bytes width =>
    obtain ⟨x, y, st, hcur, hpen, hin, hfit, m, comb, rfl, hv, h32, hc, hw, hw12, hcomb⟩ := had
    have e : a.apply (.put (Utf8.encode m ++ comb.flatMap Utf8.encode) width) =
        a.putAt x y (Utf8.encode m ++ comb.flatMap Utf8.encode) width st := by
      simp only [ATerm.apply, hcur, hpen, if_pos hin]
    rw [e]
    show Rep dc rc (t.feed (Utf8.encode m ++ comb.flatMap Utf8.encode)) _
    rcases hw12 with rfl | rfl
    · exact sim_put R m comb st x y 1 hv h32 hc hw (.inl rfl) hcomb hcur hpen hin hfit
    · exact sim_put R m comb st x y 2 hv h32 hc hw (.inr rfl) hcomb hcur hpen hin hfit
  | hideCursor =>
    obtain ⟨m', e, mo, hv, hs⟩ := fx.hide t R.good had
    rw [e]
    exact { R with
      good := good_of_eq R.good rfl rfl mo rfl
      -- without a hide string nothing was written, so the cursor would be both visible and hidden
      quiet := ⟨R.quiet.link, fun h => by
        have : Render.render rc .hideCursor = [] := by simp [Render.render, h]
        rw [this] at e
        have hm : t.modes = m' := congrArg Term.modes e
        exact absurd (R.quiet.vis h) (by rw [hm, hv]; decide), R.quiet.ff⟩
      cur := fun x y h hx hy => curRep_modes mo (R.cur x y h hx hy)
      vis := fun b h => by cases h; exact hv
      shape := fun cs cc h h7 hn => hs.trans (R.shape cs cc h h7 hn) }
  | showCursor cs cc =>
    obtain ⟨m', e, mo, hv, hs⟩ := fx.show_ t cs cc R.good R.quiet had.1 had.2
    rw [e]
    exact { R with
      good := good_of_eq R.good rfl rfl mo rfl
      quiet := ⟨R.quiet.link, fun _ => hv, R.quiet.ff⟩
      cur := fun x y h hx hy => curRep_modes mo (R.cur x y h hx hy)
      vis := fun b h => by cases h; exact hv
      shape := fun cs' cc' h h7 hn => by cases h; exact hs h7 hn }
  | clear s =>
    obtain ⟨t', e, g', q', hw, hh, hv, hs⟩ := fx.clear t s R.good R.quiet
    rw [e]
    exact {
      good := g', quiet := q'
      w := by rw [hw]; exact R.w
      h := by rw [hh]; exact R.h
      cells := fun _ _ _ _ => trivial
      conts := fun _ _ _ => Or.inr rfl
      cur := fun x y h => by cases h
      pen := fun s' h => by cases h
      vis := fun b h => by rw [hv]; exact R.vis b h
      shape := fun cs cc h h7 hn => by rw [hs]; exact R.shape cs cc h h7 hn }
  | insertChar => exact sim_insertChar (hich had.1) R had.2

/-- **simulation of a command list**: the bytes of the whole list, fed to an emulator representing `a`, give an
    emulator representing `a.applyAll cmds` -/
theorem sim_all {dc : DrawCfg} {rc : RenderCfg} (hrw : RwB dc.rw) (fx : CapsFx dc rc)
    (hich : dc.cornerTrick = true → IchFx dc rc) :
    ∀ (cmds : List Cmd) {t : Term} {a : ATerm}, Rep dc rc t a → AdmitAll dc a cmds →
      Rep dc rc (t.feed (Render.renderAll rc cmds)) (a.applyAll cmds) := by
  intro cmds
  induction cmds with
  | nil => intro t a R _; simpa [Render.renderAll, ATerm.applyAll] using R
  | cons c cs ih =>
    intro t a R had
    have R1 := sim_cmd hrw fx hich R c had.1
    have R2 := ih R1 had.2
    simp only [Render.renderAll, List.flatMap_cons, ATerm.applyAll, List.foldl_cons] at R2 ⊢
    rw [← feed_append]; exact R2

end Tcell.LayerB
