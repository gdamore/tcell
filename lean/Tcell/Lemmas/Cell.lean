import Tcell.Model.CellOps
import Tcell.Model.LockRegion
/-
The cell buffer (cell.go): what every operation does to a cell and to the buffer, field by field; `Cell.Closed`, a cell predicate
all operations keep, carried over single operations and histories (`Buf.applyV_cells`, `Buf.runV_cells`); the specification ghost
of dirty tracking (`Ghost`); and LockRegion as a composition of LockCell / UnlockCell / SetDirty(true) steps (`LockSteps`).
-/
namespace Tcell

namespace Cell
/-- the triple Dirty compares against -/
def last (c : Cell) : Content := (c.lastMain, c.lastComb, c.lastStyle)

@[simp] theorem markDirty_currMain (c : Cell) : c.markDirty.currMain = c.currMain := rfl
@[simp] theorem markDirty_currComb (c : Cell) : c.markDirty.currComb = c.currComb := rfl
@[simp] theorem markDirty_currStyle (c : Cell) : c.markDirty.currStyle = c.currStyle := rfl
@[simp] theorem markDirty_lastMain (c : Cell) : c.markDirty.lastMain = 0 := rfl
@[simp] theorem markDirty_width (c : Cell) : c.markDirty.width = c.width := rfl
@[simp] theorem markDirty_lock (c : Cell) : c.markDirty.lock = c.lock := rfl
@[simp] theorem markDirty_content (c : Cell) : c.markDirty.content = c.content := rfl
@[simp] theorem markDirty_idem (c : Cell) : c.markDirty.markDirty = c.markDirty := rfl

@[simp] theorem setLock_content (c : Cell) (v) : (c.setLock v).content = c.content := rfl
@[simp] theorem setLock_last (c : Cell) (v) : (c.setLock v).last = c.last := rfl
@[simp] theorem setLock_lastMain (c : Cell) (v) : (c.setLock v).lastMain = c.lastMain := rfl
@[simp] theorem setLock_width (c : Cell) (v) : (c.setLock v).width = c.width := rfl
@[simp] theorem setLock_currMain (c : Cell) (v) : (c.setLock v).currMain = c.currMain := rfl
@[simp] theorem setLock_lock (c : Cell) (v) : (c.setLock v).lock = v := rfl

@[simp] theorem store_last (rw) (c : Cell) (m cc s) : (c.store rw m cc s).last = c.last := rfl
@[simp] theorem store_lastMain (rw) (c : Cell) (m cc s) : (c.store rw m cc s).lastMain = c.lastMain := rfl
@[simp] theorem store_lock (rw) (c : Cell) (m cc s) : (c.store rw m cc s).lock = c.lock := rfl
@[simp] theorem store_currMain (rw) (c : Cell) (m cc s) : (c.store rw m cc s).currMain = m := rfl
@[simp] theorem store_currComb (rw) (c : Cell) (m cc s) : (c.store rw m cc s).currComb = cc := rfl
@[simp] theorem store_currStyle (rw) (c : Cell) (m cc s) : (c.store rw m cc s).currStyle = c.currStyle.merge s := rfl
@[simp] theorem store_width (rw) (c : Cell) (m cc s) :
    (c.store rw m cc s).width = if c.currMain ≠ m then rw m else c.width := rfl

@[simp] theorem filled_last (c : Cell) (r s) : (c.filled r s).last = c.last := rfl
@[simp] theorem filled_lastMain (c : Cell) (r s) : (c.filled r s).lastMain = c.lastMain := rfl
@[simp] theorem filled_lock (c : Cell) (r s) : (c.filled r s).lock = c.lock := rfl
@[simp] theorem filled_content (c : Cell) (r s) : (c.filled r s).content = (r, [], c.currStyle.merge s) := rfl
@[simp] theorem filled_width (c : Cell) (r s) : (c.filled r s).width = 1 := rfl

theorem fillRune_false (rw : Rune → Int) (r : Rune) : fillRune false rw r = r := by simp [fillRune]
theorem fillRune_ne0 (fz : Bool) (rw : Rune → Int) (r : Rune) (h : rw r ≠ 0) : fillRune fz rw r = r := by
  simp [fillRune, h]
theorem fillRune_true_zero (rw : Rune → Int) (r : Rune) (h : rw r = 0) : fillRune true rw r = 32 := by
  simp [fillRune, h]
theorem fillRune_true_width (rw : Rune → Int) (r : Rune) (h32 : rw 32 = 1) (h0 : 0 ≤ rw r) (h1 : rw r ≤ 1) :
    rw (fillRune true rw r) = 1 := by
  by_cases h : rw r = 0
  · rw [fillRune_true_zero rw r h, h32]
  · rw [fillRune_ne0 true rw r h]; omega

@[simp] theorem carry_lastMain (c : Cell) : c.carry.lastMain = 0 := rfl
@[simp] theorem carry_content (c : Cell) : c.carry.content = c.content := rfl
@[simp] theorem carry_width (c : Cell) : c.carry.width = c.width := rfl
@[simp] theorem carry_lock (c : Cell) : c.carry.lock = false := rfl
@[simp] theorem carry_currMain (c : Cell) : c.carry.currMain = c.currMain := rfl

@[simp] theorem markClean_last (c : Cell) : c.markClean.last = c.markClean.content := rfl
@[simp] theorem markClean_lock (c : Cell) : c.markClean.lock = c.lock := rfl
@[simp] theorem markClean_width (c : Cell) : c.markClean.width = c.width := rfl
theorem markClean_lastMain_ne (c : Cell) : c.markClean.lastMain ≠ 0 := by
  unfold markClean; simp only; split <;> simp_all
@[simp] theorem markClean_currMain (c : Cell) : c.markClean.currMain = if c.currMain = 0 then 32 else c.currMain := rfl

theorem isDirty_eq (c : Cell) : c.isDirty = (!c.lock && (decide (c.lastMain = 0) || decide (c.last ≠ c.content))) := by
  unfold isDirty last content
  cases hl : c.lock <;> simp
  by_cases h0 : c.lastMain = 0 <;> simp [h0]
  by_cases h1 : c.lastMain = c.currMain <;> simp [h1]
  by_cases h2 : c.lastStyle = c.currStyle <;> simp [h2]

theorem isDirty_false_iff (c : Cell) (hl : c.lock = false) :
    c.isDirty = false ↔ (c.lastMain ≠ 0 ∧ c.last = c.content) := by
  rw [isDirty_eq]; simp [hl]

/-- `store` keeps width and rune together or records the width of the new rune: it keeps every relation between the
two that holds of `rw m` and `m` -/
theorem store_width_rune {Q : Int → Rune → Prop} (rw) (c : Cell) (m cc s) (hm : Q (rw m) m) (h : Q c.width c.currMain) :
    Q (c.store rw m cc s).width m := by
  rw [store_width]; split
  · exact hm
  · rename_i e; rw [← Decidable.not_not.1 e]; exact h

/-- a predicate on cells kept by every per-cell step the buffer operations are made of, the two that write content
(`store`, `filled`) aside: what those keep depends on the rune (`CbOp.write`) -/
structure Closed (P : Cell → Prop) : Prop where
  fresh : P {}
  carry : ∀ c, P c → P c.carry
  markDirty : ∀ c, P c → P c.markDirty
  markClean : ∀ c, P c → P c.markClean
  setLock : ∀ c v, P c → P (c.setLock v)
end Cell

namespace Buf

@[simp] theorem upd_w (b : Buf) (x y f) : (b.upd x y f).w = b.w := rfl
@[simp] theorem upd_h (b : Buf) (x y f) : (b.upd x y f).h = b.h := rfl
theorem upd_cells (b : Buf) (x y f i j) :
    (b.upd x y f).cells i j = if i = x ∧ j = y then f (b.cells i j) else b.cells i j := rfl

@[simp] theorem setDirty_w (b : Buf) (x y d) : (b.setDirty x y d).w = b.w := by
  unfold setDirty; split
  · split <;> rfl
  · rfl
@[simp] theorem setDirty_h (b : Buf) (x y d) : (b.setDirty x y d).h = b.h := by
  unfold setDirty; split
  · split <;> rfl
  · rfl

theorem setDirty_true_cells (b : Buf) (x y i j) :
    (b.setDirty x y true).cells i j =
      if i = x ∧ j = y ∧ b.inRange x y then (b.cells i j).markDirty else b.cells i j := by
  unfold setDirty
  by_cases h : b.inRange x y <;> simp [h, upd_cells]

theorem setDirty_false_cells (b : Buf) (x y i j) :
    (b.setDirty x y false).cells i j =
      if i = x ∧ j = y ∧ b.inRange x y then (b.cells i j).markClean else b.cells i j := by
  unfold setDirty
  by_cases h : b.inRange x y <;> simp [h, upd_cells]

@[simp] theorem dirtySpan_w (b : Buf) (x y n) : (b.dirtySpan x y n).w = b.w := by
  induction n with
  | zero => rfl
  | succ n ih => simp [dirtySpan, ih]
@[simp] theorem dirtySpan_h (b : Buf) (x y n) : (b.dirtySpan x y n).h = b.h := by
  induction n with
  | zero => rfl
  | succ n ih => simp [dirtySpan, ih]

theorem dirtySpan_cells (b : Buf) (x y : Int) (n : Nat) (i j : Int) :
    (b.dirtySpan x y n).cells i j =
      if j = y ∧ x ≤ i ∧ i < x + n ∧ b.inRange i j then (b.cells i j).markDirty else b.cells i j := by
  induction n with
  | zero => exact (if_neg (by omega)).symm
  | succ n ih =>
    rw [dirtySpan, setDirty_true_cells, ih]
    simp only [inRange_iff, dirtySpan_w, dirtySpan_h]
    -- column `x + n`, marked last, is not among the first `n`
    by_cases hn : i = x + n ∧ j = y ∧ 0 ≤ x + n ∧ 0 ≤ y ∧ x + n < b.w ∧ y < b.h
    · rw [if_pos hn, if_neg (by omega), if_pos (by omega)]
    · rw [if_neg hn]
      exact ite_congr (propext (by omega)) (fun _ => rfl) (fun _ => rfl)

theorem preDirty_cells (b : Buf) (x y : Int) (m : Rune) (c : List Rune) (i j : Int) :
    (b.preDirty x y m c).cells i j =
      if ((b.cells x y).width > 0 ∧ (m ≠ (b.cells x y).currMain ∨ c ≠ (b.cells x y).currComb)) ∧
          j = y ∧ x ≤ i ∧ i < x + (b.cells x y).width ∧ b.inRange i j
      then (b.cells i j).markDirty else b.cells i j := by
  unfold preDirty
  by_cases h : (b.cells x y).width > 0 ∧ (m ≠ (b.cells x y).currMain ∨ c ≠ (b.cells x y).currComb)
  · rw [if_pos h, dirtySpan_cells]
    have hw : (((b.cells x y).width.toNat : Nat) : Int) = (b.cells x y).width := by omega
    rw [hw]; simp only [h, true_and]
  · rw [if_neg h]; simp only [h, false_and, if_false]

@[simp] theorem preDirty_w (b : Buf) (x y m c) : (b.preDirty x y m c).w = b.w := by
  unfold preDirty; split <;> simp
@[simp] theorem preDirty_h (b : Buf) (x y m c) : (b.preDirty x y m c).h = b.h := by
  unfold preDirty; split <;> simp

theorem preDirty_cases (b : Buf) (x y : Int) (m : Rune) (c : List Rune) (i j : Int) :
    (b.preDirty x y m c).cells i j = b.cells i j ∨ (b.preDirty x y m c).cells i j = (b.cells i j).markDirty := by
  rw [preDirty_cells]; split <;> simp

@[simp] theorem setContent_w (rw) (b : Buf) (x y m c s) : (b.setContent rw x y m c s).w = b.w := by
  unfold setContent; split <;> simp
@[simp] theorem setContent_h (rw) (b : Buf) (x y m c s) : (b.setContent rw x y m c s).h = b.h := by
  unfold setContent; split <;> simp

theorem setContent_cells (rw) (b : Buf) (x y m c s i j) :
    (b.setContent rw x y m c s).cells i j =
      if b.inRange x y then
        (if i = x ∧ j = y then ((b.preDirty x y m c).cells i j).store rw m c s else (b.preDirty x y m c).cells i j)
      else b.cells i j := by
  unfold setContent; split <;> simp [upd_cells]

@[simp] theorem lockCell_w (b : Buf) (x y) : (b.lockCell x y).w = b.w := by unfold lockCell; split <;> simp
@[simp] theorem lockCell_h (b : Buf) (x y) : (b.lockCell x y).h = b.h := by unfold lockCell; split <;> simp
theorem lockCell_cells (b : Buf) (x y i j) :
    (b.lockCell x y).cells i j = if i = x ∧ j = y ∧ b.inRange x y then (b.cells i j).setLock true else b.cells i j := by
  unfold lockCell; by_cases h : b.inRange x y <;> simp [h, upd_cells]

@[simp] theorem unlockCell_w (b : Buf) (x y) : (b.unlockCell x y).w = b.w := by unfold unlockCell; split <;> simp
@[simp] theorem unlockCell_h (b : Buf) (x y) : (b.unlockCell x y).h = b.h := by unfold unlockCell; split <;> simp
theorem unlockCell_cells (b : Buf) (x y i j) :
    (b.unlockCell x y).cells i j =
      if i = x ∧ j = y ∧ b.inRange x y then ((b.cells i j).setLock false).markDirty else b.cells i j := by
  unfold unlockCell
  by_cases h : b.inRange x y
  · have h' : (b.upd x y (·.setLock false)).inRange x y := by simpa [inRange_iff] using h
    rw [if_pos h, setDirty_true_cells]
    simp only [h', h, and_true, upd_cells]
    split <;> rfl
  · simp [h]

@[simp] theorem invalidate_w (b : Buf) : b.invalidate.w = b.w := rfl
@[simp] theorem invalidate_h (b : Buf) : b.invalidate.h = b.h := rfl
@[simp] theorem invalidate_cells (b : Buf) (i j) : b.invalidate.cells i j = (b.cells i j).markDirty := rfl
@[simp] theorem fill_w (b : Buf) (r s) : (b.fill r s).w = b.w := rfl
@[simp] theorem fill_h (b : Buf) (r s) : (b.fill r s).h = b.h := rfl
@[simp] theorem fill_cells (b : Buf) (r s i j) : (b.fill r s).cells i j = (b.cells i j).filled r s := rfl

@[simp] theorem fillV_w (fz rw) (b : Buf) (r s) : (b.fillV fz rw r s).w = b.w := rfl
@[simp] theorem fillV_h (fz rw) (b : Buf) (r s) : (b.fillV fz rw r s).h = b.h := rfl
theorem fillV_eq (fz rw) (b : Buf) (r s) : b.fillV fz rw r s = b.fill (Cell.fillRune fz rw r) s := rfl
@[simp] theorem fillV_cells (fz rw) (b : Buf) (r s i j) :
    (b.fillV fz rw r s).cells i j = (b.cells i j).filled (Cell.fillRune fz rw r) s := rfl
/-- the pinned variant of `fillV` is `fill` -/
theorem fillV_false (rw) (b : Buf) (r s) : b.fillV false rw r s = b.fill r s := by
  rw [fillV_eq, Cell.fillRune_false]
/-- the two trees agree on every rune that is not zero-width -/
theorem fillV_of_ne0 (fz rw) (b : Buf) (r s) (h : rw r ≠ 0) : b.fillV fz rw r s = b.fill r s := by
  rw [fillV_eq, Cell.fillRune_ne0 fz rw r h]

theorem resize_same (b : Buf) : b.resize b.w b.h = b := by simp [resize]
theorem resize_cells_eq (b : Buf) (w h i j) :
    (b.resize w h).cells i j =
      if b.h = h ∧ b.w = w then b.cells i j
      else if 0 ≤ i ∧ 0 ≤ j ∧ i < w ∧ j < h ∧ i < b.w ∧ j < b.h then (b.cells i j).carry else {} := by
  unfold resize; split <;> rfl
theorem resize_cells (b : Buf) (w h i j) (hne : ¬ (b.h = h ∧ b.w = w)) :
    (b.resize w h).cells i j =
      if 0 ≤ i ∧ 0 ≤ j ∧ i < w ∧ j < h ∧ i < b.w ∧ j < b.h then (b.cells i j).carry else {} := by
  rw [resize_cells_eq, if_neg hne]
theorem resize_w (b : Buf) (w h) : (b.resize w h).w = w := by
  unfold resize; split
  · rename_i hh; exact hh.2
  · rfl
theorem resize_h (b : Buf) (w h) : (b.resize w h).h = h := by
  unfold resize; split
  · rename_i hh; exact hh.1
  · rfl

theorem dirty_inRange {b : Buf} {x y : Int} (h : b.dirty x y = true) : b.inRange x y := by
  unfold dirty at h; split at h
  · assumption
  · cases h

end Buf

/-- what an op stores in the cells it writes: SetContent and Fill write content, every other op only moves marks, locks
and whole cells -/
def CbOp.write (fz : Bool) (rw : Rune → Int) : CbOp → Cell → Cell
  | .setContent _ _ m c s => (·.store rw m c s)
  | .fill r s => (·.filled (Cell.fillRune fz rw r) s)
  | _ => id

/-- the ops that keep the size and teach the specification ghost nothing -/
def CbOp.Quiet : CbOp → Prop
  | .resize _ _ | .setDirty _ _ false => False
  | _ => True

namespace Buf

theorem applyV_false (rw) (b : Buf) (op : CbOp) : b.applyV false rw op = b.apply rw op := by
  cases op <;> first | rfl | exact fillV_false rw b _ _

theorem applyV_size (fz rw) (b : Buf) {op : CbOp} (hq : op.Quiet) :
    (b.applyV fz rw op).w = b.w ∧ (b.applyV fz rw op).h = b.h := by
  cases op <;> first | exact hq.elim | simp [applyV, apply]

/-- Every op of either tree acts on each cell by per-cell steps, so a closed cell predicate that the op's write keeps
is kept on every cell. -/
theorem applyV_cells {P : Cell → Prop} (hP : Cell.Closed P) (fz rw) (b : Buf) (op : CbOp)
    (hw : ∀ c, P c → P (op.write fz rw c)) (hb : ∀ x y, P (b.cells x y)) (i j : Int) :
    P ((b.applyV fz rw op).cells i j) := by
  have hij := hb i j
  cases op with
  | setContent x y m c s =>
    have pre : P ((b.preDirty x y m c).cells i j) := by
      rcases preDirty_cases b x y m c i j with e | e <;> rw [e]
      · exact hij
      · exact hP.markDirty _ hij
    simp only [applyV, apply, setContent_cells]
    split
    · split
      · exact hw _ pre
      · exact pre
    · exact hij
  | fill r s => exact hw _ hij
  | resize w h =>
    simp only [applyV, apply, resize_cells_eq]
    split
    · exact hij
    · split
      · exact hP.carry _ hij
      · exact hP.fresh
  | invalidate => exact hP.markDirty _ hij
  | setDirty x y d =>
    cases d
    · simp only [applyV, apply, setDirty_false_cells]; split
      · exact hP.markClean _ hij
      · exact hij
    · simp only [applyV, apply, setDirty_true_cells]; split
      · exact hP.markDirty _ hij
      · exact hij
  | lockCell x y =>
    simp only [applyV, apply, lockCell_cells]; split
    · exact hP.setLock _ _ hij
    · exact hij
  | unlockCell x y =>
    simp only [applyV, apply, unlockCell_cells]; split
    · exact hP.markDirty _ (hP.setLock _ _ hij)
    · exact hij

theorem runV_cells {P : Cell → Prop} (hP : Cell.Closed P) (fz rw) (ops : List CbOp)
    (hw : ∀ op ∈ ops, ∀ c, P c → P (op.write fz rw c)) (b : Buf) (hb : ∀ x y, P (b.cells x y)) :
    ∀ x y, P ((runV fz rw b ops).cells x y) := by
  induction ops generalizing b with
  | nil => exact hb
  | cons op ops ih =>
    exact ih (fun o h => hw o (List.mem_cons_of_mem _ h)) _ (applyV_cells hP fz rw b op (hw op (List.mem_cons_self ..)) hb)

end Buf

namespace Ghost

theorem step_setDirty (g : Ghost) (b a : Buf) (x y : Int) (d : Bool) (i j : Int) :
    g.step b a (.setDirty x y d) i j =
      if i = x ∧ j = y ∧ b.inRange x y then (if d then Option.none else some (a.cells x y).content) else g i j := by
  simp only [step]; split <;> simp [*]

theorem step_unlockCell (g : Ghost) (b a : Buf) (x y i j : Int) :
    g.step b a (.unlockCell x y) i j = if i = x ∧ j = y ∧ b.inRange x y then Option.none else g i j := by
  simp only [step]; split <;> simp [*]

theorem step_setContent (g : Ghost) (b a : Buf) (x y : Int) (m : Rune) (c : List Rune) (s : Style) (i j : Int) :
    g.step b a (.setContent x y m c s) i j =
      if b.inRange x y ∧ ((b.cells x y).width > 0 ∧ (m ≠ (b.cells x y).currMain ∨ c ≠ (b.cells x y).currComb)) ∧
          j = y ∧ x ≤ i ∧ i < x + (b.cells x y).width then Option.none else g i j := by
  simp only [step]
  by_cases h1 : b.inRange x y
  · by_cases h2 : (b.cells x y).width > 0 ∧ (m ≠ (b.cells x y).currMain ∨ c ≠ (b.cells x y).currComb) <;> simp [h1, h2]
  · simp [h1]

/-- only `SetDirty(x, y, false)` teaches the ghost anything: every other op leaves a position alone or forgets it -/
theorem step_forgets (g : Ghost) (b a : Buf) {op : CbOp} (hq : op.Quiet) (i j : Int)
    (c : Content) (h : g.step b a op i j = some c) : g i j = some c := by
  cases op with
  | setContent x y m cc s => rw [step_setContent] at h; split at h <;> first | exact h | cases h
  | fill r s => exact h
  | resize w hh => exact hq.elim
  | invalidate => cases h
  | setDirty x y d =>
    cases d
    · exact hq.elim
    · rw [step_setDirty] at h; split at h <;> first | exact h | cases h
  | lockCell x y => exact h
  | unlockCell x y => rw [step_unlockCell] at h; split at h <;> first | exact h | cases h

end Ghost
/-! ### LockRegion (screen.go:424, `Tcell.lockRowsG`) as a composition of LockCell / UnlockCell / SetDirty(true) steps -/

/-- `P` is kept by the steps LockRegion(…, `lock`) is made of: LockCell, or UnlockCell and (repaired tree) SetDirty(true) -/
structure LockSteps (lock : Bool) (P : Buf → Prop) : Prop where
  lockCell : lock = true → ∀ b x y, P b → P (b.lockCell x y)
  unlockCell : lock = false → ∀ b x y, P b → P (b.unlockCell x y)
  redirty : lock = false → ∀ b x y, P b → P (b.setDirty x y true)

/-- one iteration of the loop of `lockRowsG` -/
def lockRowG (b : Buf) (x y w : Int) (lock : Bool) : Buf :=
  if lock = false ∧ w > 0 ∧ b.locked x y = true then redirtyLeft (lockRow b x y lock w.toNat) x y
  else lockRow b x y lock w.toNat

theorem lockRowsG_succ (b : Buf) (x y w : Int) (lock : Bool) (m : Nat) :
    lockRowsG b x y w lock (m + 1) = lockRowG (lockRowsG b x y w lock m) x (y + m) w lock := rfl

section
variable {lock : Bool} {P : Buf → Prop} {b : Buf}

theorem LockSteps.lockRow (hP : LockSteps lock P) (h : P b) (x y : Int) : ∀ n, P (lockRow b x y lock n)
  | 0 => h
  | n + 1 => by
    simp only [Tcell.lockRow]; split
    · exact hP.lockCell ‹_› _ _ _ (hP.lockRow h x y n)
    · exact hP.unlockCell (Bool.eq_false_iff.2 ‹_›) _ _ _ (hP.lockRow h x y n)

theorem LockSteps.lockRows (hP : LockSteps lock P) (h : P b) (x y w : Int) : ∀ m, P (lockRows b x y w lock m)
  | 0 => h
  | m + 1 => hP.lockRow (hP.lockRows h x y w m) x (y + m) w.toNat

theorem LockSteps.lockRowG (hP : LockSteps lock P) (h : P b) (x y w : Int) : P (lockRowG b x y w lock) := by
  have h1 := hP.lockRow h x y w.toNat
  unfold Tcell.lockRowG redirtyLeft
  split
  · rename_i hc; split
    · exact hP.redirty hc.1 _ _ _ h1
    · exact h1
  · exact h1

theorem LockSteps.lockRowsG (hP : LockSteps lock P) (h : P b) (x y w : Int) : ∀ m, P (lockRowsG b x y w lock m)
  | 0 => h
  | m + 1 => hP.lockRowG (hP.lockRowsG h x y w m) x (y + m) w

end

end Tcell
