/-
Layer B of C01/C13/C09: the effect on the reference emulator of the parameterless strings (`sgr0` forms, attribute strings with or
without padding, `civis` forms) and of cursor addressing, for every terminal description whose strings are in the class `CapsOk`;
the conjuncts of the class predicate by name (`TiFacts`, `UCaps`).  `Lemmas/LayerBXtermFx.lean` has the rest of `CapsFx`.
-/
import Tcell.Lemmas.LayerBCmd
import Tcell.Lemmas.Color
namespace Tcell.LayerB
open Tcell Tcell.Spec.Ecma48 Tcell.Spec.Ecma48.Term
open Tcell.Render (tp parm ints)

/-- SGR reset -/
def reset (t : Term) : Term := { t with pen := { link := t.pen.link }, penKnown := true }
def withPen (t : Term) (p : Pen) : Term := { t with pen := p }

/-- the pen is in the state SGR reset leaves it in (sendFgBg is only ever called right after `sgr0`) -/
def PenReset (t : Term) : Prop := t.penKnown = true ∧ t.pen = { link := t.pen.link }

theorem reset_of_penReset {t : Term} (h : PenReset t) : reset t = t := by
  obtain ⟨h1, h2⟩ := h
  cases t with | mk cfg grid other cx cy pw pen pk lk ck modes st sv svo last mal blocks =>
  simp only at h1 h2
  subst h1
  show Term.mk cfg grid other cx cy pw { link := pen.link } true lk ck modes st sv svo last mal blocks = _
  rw [← h2]

theorem good_reset {rw} {t : Term} (g : Good rw t) : Good rw (reset t) := good_of_eq g rfl rfl (.refl _) rfl
theorem good_withPen {rw} {t : Term} (g : Good rw t) (p : Pen) : Good rw (withPen t p) := good_of_eq g rfl rfl (.refl _) rfl

theorem modes_eta {t : Term} {m : Modes} (h : m = t.modes) : ({ t with modes := m } : Term) = t := by subst h; rfl

/-! The pieces of the `sgr0` forms, each in front of the bytes `rest` that follow it. -/

theorem escB_effect {rw} {t : Term} (g : Good rw t) (rest : Bytes) : t.feed (27 :: 40 :: 66 :: rest) = t.feed rest := by
  have : t.feed [27, 40, 66] = { t with modes := { t.modes with acsG0 := false } } := by
    simp [feedByte, g.st, feedGround, c0, feedEsc, feedEscInter]
  show (t.feed [27, 40, 66]).feed rest = _
  rw [this, modes_eta (by rw [← g.g0])]

theorem si_effect {rw} {t : Term} (g : Good rw t) (rest : Bytes) : t.feed (15 :: rest) = t.feed rest := by
  have : t.feed [15] = { t with modes := { t.modes with shiftOut := false } } := by
    simp [feedByte, g.st, feedGround, c0]
  show (t.feed [15]).feed rest = _
  rw [this, modes_eta (by rw [← g.so])]

/-- `CSI " q` (DECSCA with the default parameter: characters not protected) changes nothing -/
theorem decsca_effect {rw} {t : Term} (g : Good rw t) : t.feed [27, 91, 34, 113] = t := by
  rw [show ([27, 91, 34, 113] : List Nat) = csiSeq [34] 0x71 from rfl, feed_csi t g.st _ _ (by simp) (by omega)]
  have hp : parseCsiBody [34] = some { priv := 0, params := [[none]], inter := [34] } := by decide
  simp [dispatchCsi, hp, flat, arg]

/-- SGR reset in its three spellings `CSI m`, `CSI 0 m`, `CSI 0;10 m` (the primary font is in use already) -/
theorem sgrReset_effect {rw} {t : Term} (g : Good rw t) (s : Bytes)
    (hs : s = [27, 91, 109] ∨ s = [27, 91, 48, 109] ∨ s = [27, 91, 48, 59, 49, 48, 109]) (rest : Bytes) :
    t.feed (s ++ rest) = (reset t).feed rest := by
  rw [← feed_append]
  congr 1
  rcases hs with rfl | rfl | rfl
  · exact (sgrActs_reset [] (.inl rfl)).feed t g.st
  · exact (sgrActs_reset _ (.inr rfl)).feed t g.st
  · exact (((sgrActs_reset _ (.inr rfl)).append sgrActs_font0).feed t g.st).trans (modes_eta (by rw [← g.font]))

theorem attrOff_effect {rw} {t : Term} (g : Good rw t) (s : Bytes) (hs : s ∈ attrOffForms) : t.feed s = reset t := by
  have gr := good_reset g
  simp only [attrOffForms, List.mem_cons, List.not_mem_nil, or_false] at hs
  rcases hs with rfl | rfl | rfl | rfl | rfl | rfl | rfl | rfl | rfl
  · exact (escB_effect g _).trans (sgrReset_effect g _ (.inl rfl) [])
  · exact (sgrReset_effect g _ (.inl rfl) _).trans (si_effect gr [])
  · exact (sgrReset_effect g _ (.inl rfl) _).trans (escB_effect gr [])
  · exact (sgrReset_effect g _ (.inr (.inl rfl)) _).trans (si_effect gr [])
  · exact sgrReset_effect g _ (.inl rfl) []
  · exact sgrReset_effect g _ (.inr (.inl rfl)) []
  · exact sgrReset_effect g _ (.inr (.inr rfl)) []
  · exact (sgrReset_effect g _ (.inr (.inr rfl)) _).trans (escB_effect gr [])
  · exact (sgrReset_effect g _ (.inl rfl) _).trans ((si_effect gr _).trans (decsca_effect gr))

/-- a single-digit SGR in the scope of `sgrSimple`: `smul`, `bold`, `rev`, … -/
theorem sgr1_effect {rw} {t : Term} (g : Good rw t) (n : Nat) (hn : 0 < n ∧ n < 10) (f : Pen → Pen)
    (hs : ∀ p, sgrSimple p n = some (f p)) : t.feed (sgr1 n) = withPen t (f t.pen) := by
  rw [show sgr1 n = csiSeq (dec n) 0x6d by simp [sgr1, csiSeq, dec_lt10 n hn.2]]
  exact (sgrActs_simple n f hs (by omega)).feed t g.st

theorem ulStyle_effect {rw} {t : Term} (g : Good rw t) (s : Nat) (hs : s ≤ 5) :
    t.feed (ulStyleStd s) = withPen t { t.pen with ul := s } := by
  rw [show ulStyleStd s = csiSeq (dec 4 ++ 0x3a :: dec s) 0x6d by simp [ulStyleStd, csiSeq, dec_lt10 s (by omega), dec_lt10 4]]
  exact (sgrActs_ulStyle s hs).feed t g.st

theorem ulReset_effect {rw} {t : Term} (g : Good rw t) : t.feed ulResetStd = withPen t { t.pen with ulColor := .default } :=
  (sgrActs_simple 59 _ (fun _ => rfl) (by decide)).feed t g.st

theorem fgbgReset_effect {rw} {t : Term} (g : Good rw t) :
    t.feed resetStd = withPen t { t.pen with fg := .default, bg := .default } :=
  ((sgrActs_simple 39 _ (fun _ => rfl) (by decide)).append (sgrActs_simple 49 _ (fun _ => rfl) (by decide))).feed t g.st

/-- the two colour-setting `op` forms: the pen's colours become `opSel` -/
theorem opAix_effect {rw} {t : Term} (g : Good rw t) :
    t.feed opAix = withPen t { t.pen with fg := .idx 2, bg := .idx 0 } := by
  rw [show opAix = csiSeq (dec 32) 0x6d ++ csiSeq (dec 40) 0x6d from rfl, ← feed_append,
    (sgrActs_simple 32 _ (fun _ => rfl) (by decide)).feed t g.st]
  exact (sgrActs_simple 40 _ (fun _ => rfl) (by decide)).feed _ g.st

theorem opPc_effect {rw} {t : Term} (g : Good rw t) :
    t.feed opPc = withPen t { t.pen with fg := .idx 7, bg := .idx 0 } :=
  ((sgrActs_simple 37 _ (fun _ => rfl) (by decide)).append (sgrActs_simple 40 _ (fun _ => rfl) (by decide))).feed t g.st

theorem urlClose_effect {rw} {t : Term} (g : Good rw t) :
    t.feed urlClose = { t with linkKnown := true, pen := { t.pen with link := none } } := osc8_close_effect t g.st

open Tcell.Spec.TermCaps (stripPadding)

theorem opt_of {s std : Bytes} (h : optForm s std = true) : s = [] ∨ s = std := by
  simpa [optForm] using h
theorem optSent_of {s std : Bytes} (h : optSent s std = true) : s = [] ∨ stripPadding s = std := by
  simpa [optSent] using h

/-- the conjuncts of `tiCapsOk`, named -/
structure TiFacts (ti : Terminfo) : Prop where
  cup : ∃ p ∈ cupPads, ti.setCursor = cupStd ++ p
  attrOff : stripPadding ti.attrOff ∈ attrOffForms
  clear : stripPadding ti.clear ∈ clearForms
  vis : (stripPadding ti.showCursor ∈ showForms ∧ stripPadding ti.hideCursor ∈ hideForms) ∨ (ti.showCursor = [] ∧ ti.hideCursor = [])
  underline : ti.underline = [] ∨ stripPadding ti.underline = sgr1 4
  bold : ti.bold = [] ∨ stripPadding ti.bold = sgr1 1
  reverse : ti.reverse = [] ∨ stripPadding ti.reverse = sgr1 7
  blink : ti.blink = [] ∨ stripPadding ti.blink = sgr1 5
  dim : ti.dim = [] ∨ stripPadding ti.dim = sgr1 2
  italic : ti.italic = [] ∨ stripPadding ti.italic = sgr1 3
  strike : ti.strikeThrough = [] ∨ stripPadding ti.strikeThrough = sgr1 9
  col : ((palKind ti).isSome = true ∧ ti.resetFgBg ∈ opForms) ∨ monoOk ti = true
  fRGB : ti.setFgRGB = [] ∨ ti.setFgRGB = setfRGB
  bRGB : ti.setBgRGB = [] ∨ ti.setBgRGB = setbRGB
  fbRGB : ti.setFgBgRGB = [] ∨ ti.setFgBgRGB = setfbRGB
  coh1 : ti.setFgRGB.isEmpty = ti.setBgRGB.isEmpty
  coh2 : ti.setFgBgRGB.isEmpty = true ∨ ti.setFgRGB.isEmpty = false

theorem xl_noCorner {ti : Terminfo} (h : XtermLike ti = true) :
    (ti.autoMargin && ti.disableAutoMargin.isEmpty && !ti.insertChar.isEmpty) = false := by
  simp only [XtermLike, tiOk, Bool.and_eq_true] at h; exact (Bool.not_eq_true' _).mp h.1.2

theorem tiFacts {ti : Terminfo} (h : CapsOk ti = true) : TiFacts ti := by
  have h1 : tiCapsOk ti = true := by simp only [CapsOk, Bool.and_eq_true] at h; exact h.1
  simp only [tiCapsOk, Bool.and_eq_true, and_assoc] at h1
  obtain ⟨a1, a2, a3, a4, a5, a6, a7, a8, a9, a10, a11, a12, a13, a14, a15, a17, a18⟩ := h1
  refine ⟨?_, by simpa using a2, by simpa using a3, ?_, optSent_of a5, optSent_of a6, optSent_of a7, optSent_of a8,
    optSent_of a9, optSent_of a10, optSent_of a11, ?_, opt_of a13, opt_of a14, opt_of a15,
    by simpa using a17, by simpa using a18⟩
  · simp only [List.any_eq_true, beq_iff_eq] at a1; exact a1
  · simp only [Bool.or_eq_true, Bool.and_eq_true, beq_iff_eq, List.contains_eq_mem, decide_eq_true_eq] at a4; exact a4
  · simp only [Bool.or_eq_true, Bool.and_eq_true, List.contains_eq_mem, decide_eq_true_eq] at a12; exact a12

/-- what the class says about the underline strings and the cursor strings -/
structure UCaps (rc : RenderCfg) : Prop where
  underline : rc.ti.underline = [] ∨ Tcell.Spec.TermCaps.stripPadding rc.ti.underline = sgr1 4
  du : rc.d.doubleUnder = [] ∨ rc.d.doubleUnder = ulStyleStd 2
  cu : rc.d.curlyUnder = [] ∨ rc.d.curlyUnder = ulStyleStd 3
  dou : rc.d.dottedUnder = [] ∨ rc.d.dottedUnder = ulStyleStd 4
  dau : rc.d.dashedUnder = [] ∨ rc.d.dashedUnder = ulStyleStd 5
  uc : rc.d.underColor = [] ∨ rc.d.underColor = ulIdx
  urgb : rc.d.underRGB = [] ∨ rc.d.underRGB = ulRGB
  ufg : rc.d.underFg = [] ∨ rc.d.underFg = ulResetStd
  coh : rc.d.underRGB.isEmpty = rc.d.underColor.isEmpty
  cstyles : rc.d.cursorStyles = none ∨ rc.d.cursorStyles = some cursorStylesStd

/-- the conjuncts of `dOk` (with `smul`), and the hyperlink strings: tcell's OSC 8 pair or none -/
theorem xl_dOk {rc : RenderCfg} (hx : CapsOk rc.ti = true) (hd : rc.d = derive rc.ti) :
    UCaps rc ∧ ((rc.d.enterUrl = urlOpen ∧ rc.d.exitUrl = urlClose) ∨ (rc.d.enterUrl = [] ∧ rc.d.exitUrl = [])) := by
  have h2 : dOk rc.d = true := by rw [hd]; simp only [CapsOk, Bool.and_eq_true] at hx; exact hx.2
  simp only [dOk, Bool.and_eq_true, Bool.or_eq_true, beq_iff_eq, and_assoc] at h2
  obtain ⟨b1, b3, b4, b5, b6, b7, b8, b9, b10, b11⟩ := h2
  exact ⟨⟨(tiFacts hx).underline, opt_of b3, opt_of b4, opt_of b5, opt_of b6, opt_of b7, opt_of b8, opt_of b9, b11, b10⟩, b1⟩

/-- a numeric control sequence has no `$`: TPuts writes it as it is -/
theorem csiParams_clean {a pa} (h : CsiParams a pa) (final : Nat) (hf : final ≠ 36) : ∀ b ∈ csiSeq a final, b ≠ 36 := by
  intro b hb
  simp only [csiSeq, List.mem_append, List.mem_cons, List.not_mem_nil, or_false] at hb
  rcases hb with ((h1 | h1) | h1) | h1
  · omega
  · omega
  · rcases h.num b h1 with h2 | h2 | h2 <;> omega
  · omega

/-- **cursor addressing**: `TPuts(TGoto(x, y))` on a terminal of the class (standard `cup`, with or without the padding of
    the DEC entries), for every position a Go int can hold -/
theorem xl_goto_effect {rw} {rc : RenderCfg} (hx : CapsOk rc.ti = true) {t : Term} (g : Good rw t) (x y : Nat)
    (hx1 : (x : Int) + 1 < TParm.maxInt64) (hy1 : (y : Int) + 1 < TParm.maxInt64) :
    t.feed (Render.render rc (.goto x y)) =
      { t with cx := min x (t.w - 1), cy := min y (t.h - 1), pendingWrap := false, cursorKnown := true } := by
  obtain ⟨p, hp, hc⟩ := (tiFacts hx).cup
  have e : Render.render rc (.goto x y) = tp rc (parm (cupStd ++ p) (ints [(y : Int), (x : Int)])) := by
    simp only [Render.render, TPuts.tgoto, hc]; rfl
  have hs : stripPadding p = [] := by
    simp only [cupPads, List.mem_cons, List.not_mem_nil, or_false] at hp
    rcases hp with rfl | rfl | rfl <;> decide
  rw [e, parm_cup_pad p hp y x hy1 hx1,
    tp_padded rc _ p (csiParams_clean ((csiParams_dec (y + 1)).append (csiParams_dec (x + 1))) 0x48 (by omega)) hs]
  exact cup_effect t g.st y x

/-- the bytes `s` change nothing but `modes`, by `f`, and nothing there that the draw invariant looks at -/
structure ModeFx (rw : Int → Int) (s : Bytes) (f : Modes → Modes) : Prop where
  feed : ∀ {t : Term}, Good rw t → t.feed s = { t with modes := f t.modes }
  ok : ∀ m, ModesOk m (f m)

theorem ModeFx.append {rw a b f g} (ha : ModeFx rw a f) (hb : ModeFx rw b g) : ModeFx rw (a ++ b) (fun m => g (f m)) :=
  ⟨fun h => by rw [← feed_append, ha.feed h]; exact hb.feed (good_of_eq h rfl rfl (ha.ok _) rfl),
   fun m => (ha.ok m).trans (hb.ok _)⟩

/-- the form in which `CapsFx.hide` / `CapsFx.show_` ask for a string that sets the cursor visibility to `v` and leaves the shape -/
theorem ModeFx.cursor {rw s f} (h : ModeFx rw s f) {t : Term} (g : Good rw t) {v : Bool}
    (hf : ∀ m, (f m).cursorVisible = v ∧ (f m).cursorShape = m.cursorShape) :
    ∃ m', t.feed s = { t with modes := m' } ∧ ModesOk t.modes m' ∧ m'.cursorVisible = v ∧ m'.cursorShape = t.modes.cursorShape :=
  ⟨_, h.feed g, h.ok _, (hf _).1, (hf _).2⟩

/-- DECSET / DECRST of a mode that only sets a flag in `modes` -/
theorem modeFx_dec {rw} (n : Nat) (on : Bool) (f : Modes → Modes) (hf : ∀ t : Term, t.decMode n on = { t with modes := f t.modes })
    (hok : ∀ m, ModesOk m (f m)) : ModeFx rw (csiSeq (0x3f :: dec n) (if on then 0x68 else 0x6c)) f :=
  ⟨fun g => (decmode_effect _ g.st n on).trans (hf _), hok⟩

theorem modeFx_25 {rw} (on : Bool) : ModeFx rw (csiSeq (0x3f :: dec 25) (if on then 0x68 else 0x6c)) ({ · with cursorVisible := on }) :=
  modeFx_dec 25 on _ (fun _ => by simp [decMode]) fun _ => ⟨rfl, rfl, rfl, rfl, rfl⟩

/-- the linux console's `CSI ? n c` only records the console cursor setting -/
theorem modeFx_linux {rw} (n : Nat) (hn : n < 2) : ModeFx rw (csiSeq [0x3f, 48 + n] 0x63) ({ · with linuxCursor := [n] }) :=
  ⟨fun {t} g => by
    rw [feed_csi t g.st _ _ (by intro b hb; simp at hb; omega) (by omega)]
    have hp : parseCsiBody [0x3f, 48 + n] = some { priv := 0x3f, params := [[some n]], inter := [] } := by
      have : n = 0 ∨ n = 1 := by omega
      rcases this with rfl | rfl <;> decide
    simp [dispatchCsi, hp, flat], fun _ => ⟨rfl, rfl, rfl, rfl, rfl⟩⟩

theorem hideForm_effect {rw} {t : Term} (g : Good rw t) (s : Bytes) (hs : s ∈ hideForms) :
    ∃ m', t.feed s = { t with modes := m' } ∧ ModesOk t.modes m' ∧ m'.cursorVisible = false ∧
      m'.cursorShape = t.modes.cursorShape := by
  simp only [hideForms, List.mem_cons, List.not_mem_nil, or_false] at hs
  rcases hs with rfl | rfl
  · exact (modeFx_25 false).cursor g fun _ => ⟨rfl, rfl⟩
  · exact ((modeFx_25 false).append (modeFx_linux 1 (by omega))).cursor g fun _ => ⟨rfl, rfl⟩

theorem xl_hide_effect {rw} {rc : RenderCfg} (hx : CapsOk rc.ti = true) {t : Term} (g : Good rw t)
    (hne : rc.ti.hideCursor ≠ []) :
    ∃ m', t.feed (Render.render rc .hideCursor) = { t with modes := m' } ∧ ModesOk t.modes m' ∧ m'.cursorVisible = false ∧
      m'.cursorShape = t.modes.cursorShape := by
  rcases (tiFacts hx).vis with h | h
  · have e : Render.render rc .hideCursor = stripPadding rc.ti.hideCursor := by simp only [Render.render]; exact tp_strip rc _
    rw [e]; exact hideForm_effect g _ h.2
  · exact absurd h.2 hne

/-- **attributes off** (`sgr0`) in any of the forms of the class = SGR reset -/
theorem xl_attrOff_effect {rw} {rc : RenderCfg} (hx : CapsOk rc.ti = true) {t : Term} (g : Good rw t) :
    t.feed (tp rc rc.ti.attrOff) = reset t := by
  rw [tp_strip]; exact attrOff_effect g _ (tiFacts hx).attrOff

theorem isRGB_of_invalid (c : Nat) (h : Color.valid c = false) : Color.isRGB c = false := by
  rw [Color.isRGB_eq]; rw [Color.valid_eq] at h; simp [h]

/-- an attribute string that is absent or (padding removed) the single-digit SGR `n`, which gives the field `get` / `set` of the
    pen the value `v`; written when `b` holds, with `p` in the pen -/
theorem opt_attr {rw} {rc : RenderCfg} {t : Term} (g : Good rw t) (p : Pen) (b : Bool) (s : Bytes) (n : Nat) (hn : 0 < n ∧ n < 10)
    (ho : s = [] ∨ stripPadding s = sgr1 n) {α : Type} (get : Pen → α) (set : Pen → α → Pen) (v : α)
    (hset : ∀ p, set p (get p) = p) (hs : ∀ p, sgrSimple p n = some (set p v)) :
    ∃ p', (withPen t p).feed (if b then tp rc s else []) = withPen t p' ∧
      p' = set p (if (b && !s.isEmpty) = true then v else get p) := by
  refine ⟨_, ?_, rfl⟩
  cases b
  · simp [hset]
  · rcases ho with rfl | h
    · simp [hset]
    · have hne : s.isEmpty = false := by
        cases s with
        | nil => exact absurd h (by simp [sgr1, show stripPadding ([] : Bytes) = [] from rfl])
        | cons _ _ => rfl
      simp only [if_true, tp_strip, h, Bool.true_and, hne, Bool.not_false, sgr1_effect (good_withPen g p) n hn _ hs]
      rfl

end Tcell.LayerB
