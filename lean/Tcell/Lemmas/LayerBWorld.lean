/-
Layer B of C01/C13/C09: histories.  The byte-level world: Layer A's `World` (library state, tty size, abstract
terminal, ghosts) together with the reference emulator, which is fed the bytes `Render.renderAll rc cmds` of every
command list the library emits and suffers the environment's moves (`corrupt`, `resize`).  Theorem `rep_reach`: after
every history of valid operations the emulator represents the abstract terminal.
-/
import Tcell.Lemmas.LayerBAdmit
namespace Tcell.LayerB
open Tcell Tcell.Buf Tcell.Spec.Ecma48

/-- domain of the Layer-B statement, per operation (beyond `ScrOp.Valid`): combining runes are zero-width non-control
    scalar values, styles carry no hyperlink, no cursor colour is requested, window sizes are non-negative Go ints -/
def OpB (c : DrawCfg) : ScrOp → Prop
  | .setContent _ _ _ comb st => (∀ k ∈ comb, CombOk c.rw k) ∧ st.url = ""
  | .fill _ st => st.url = ""
  | .setStyle st => st.url = ""
  | .setCursorStyle _ cc => Color.valid cc = false ∧ cc ≠ colorReset
  | .ttyResizeQuiet w h => 0 ≤ w ∧ 0 ≤ h ∧ w + 1 < TParm.maxInt64 ∧ h + 1 < TParm.maxInt64
  | .ttyResizeNotify w h => 0 ≤ w ∧ 0 ≤ h ∧ w + 1 < TParm.maxInt64 ∧ h + 1 < TParm.maxInt64
  | _ => True

def SizeOk (w h : Int) : Prop := 0 ≤ w ∧ 0 ≤ h ∧ w + 1 < TParm.maxInt64 ∧ h + 1 < TParm.maxInt64

structure BWInv (c : DrawCfg) (wd : World) : Prop where
  b : BInv c wd.sw.s
  tty : SizeOk wd.sw.ttyw wd.sw.ttyh

theorem BWInv.of_sw {c : DrawCfg} {wd : World} {sw : ScrW} (e : wd.sw = sw) (b : BInv c sw.s) (t : SizeOk sw.ttyw sw.ttyh) :
    BWInv c wd := by subst e; exact ⟨b, t⟩

theorem BInv.resize {c : DrawCfg} {s : Scr} (h : BInv c s) (w' h' : Int) (hs : SizeOk w' h') :
    BInv c (s.resize (some (w', h'))) := by
  unfold Scr.resize; simp only
  split
  · exact h
  · exact { h with buf := (h.buf.resize w' h').invalidate, size := hs }

theorem BInv.draw {c : DrawCfg} {s : Scr} (h : BInv c s) : BInv c (s.draw c).1 :=
  BInv.of_rel (s := { s with clear := false }) { h with } (draw_rel c s).1

theorem BInv.prepResize {c : DrawCfg} {s : Scr} (h : BInv c s) (w' h' : Int) (hs : SizeOk w' h') :
    BInv c (s.prepResize (some (w', h'))) := by
  unfold Scr.prepResize
  have h1 : BInv c (s.forgetCursor.resize (some (w', h'))) := BInv.resize (s := s.forgetCursor) { h with } w' h' hs
  exact { h1 with buf := h1.buf.invalidate }

theorem BInv.prepSync {c : DrawCfg} {s : Scr} (h : BInv c s) (w' h' : Int) (hs : SizeOk w' h') :
    BInv c (s.prepSync (some (w', h'))) :=
  { h.prepResize w' h' hs with }

theorem show_eq {c : DrawCfg} {wd : World} (hf : wd.sw.s.fini = false) :
    (wd.step c .show).sw = { wd.sw with s := ((wd.sw.s.resize (some (wd.sw.ttyw, wd.sw.ttyh))).draw c).1 } ∧
      (wd.step c .show).t = wd.t.applyAll ((wd.sw.s.resize (some (wd.sw.ttyw, wd.sw.ttyh))).draw c).2 ∧
      (wd.sw.step c .show).2 = ((wd.sw.s.resize (some (wd.sw.ttyw, wd.sw.ttyh))).draw c).2 := by
  simp only [World.step, ScrW.step, Scr.show, hf, Bool.false_eq_true, if_false]
  split <;> simp

theorem sync_eq {c : DrawCfg} {wd : World} (hf : wd.sw.s.fini = false) :
    (wd.step c .sync).sw = { wd.sw with s := ((wd.sw.s.prepSync (some (wd.sw.ttyw, wd.sw.ttyh))).draw c).1 } ∧
      (wd.step c .sync).t = wd.t.applyAll ((wd.sw.s.prepSync (some (wd.sw.ttyw, wd.sw.ttyh))).draw c).2 ∧
      (wd.sw.step c .sync).2 = ((wd.sw.s.prepSync (some (wd.sw.ttyw, wd.sw.ttyh))).draw c).2 := by
  simp only [World.step, ScrW.step, Scr.sync, hf, Bool.false_eq_true, if_false, and_self]

theorem bwinv_step {c : DrawCfg} {wd : World} (inv : WInv c wd) (bi : BWInv c wd) (op : ScrOp) (hb : OpB c op) :
    BWInv c (wd.step c op) := by
  have hf := inv.fini
  cases op with
  | setContent x y m comb st =>
    exact ⟨{ bi.b with buf := bi.b.buf.setContent x y m comb st hb.1 hb.2 }, bi.tty⟩
  | fill r st => exact ⟨{ bi.b with buf := bi.b.buf.fillV c.fillZW r st hb }, bi.tty⟩
  | setStyle st =>
    refine ⟨?_, bi.tty⟩
    simp only [World.step, ScrW.step, hf, Bool.false_eq_true, if_false]
    exact { bi.b with style := hb }
  | showCursor x y => exact ⟨{ bi.b with }, bi.tty⟩
  | setCursorStyle cs cc => exact ⟨{ bi.b with ccol := hb }, bi.tty⟩
  | lockRegion x y w h lock =>
    refine ⟨{ bi.b with buf := ?_ }, bi.tty⟩
    show BufB c.rw (if c.guardLocked then lockRowsG wd.sw.s.cells x y w lock h.toNat else lockRows wd.sw.s.cells x y w lock h.toNat)
    split
    · exact (bufB_lockSteps c.rw lock).lockRowsG bi.b.buf x y w _
    · exact (bufB_lockSteps c.rw lock).lockRows bi.b.buf x y w _
  | «show» => exact .of_sw (show_eq hf).1 (bi.b.resize _ _ bi.tty).draw bi.tty
  | sync => exact .of_sw (sync_eq hf).1 (bi.b.prepSync _ _ bi.tty).draw bi.tty
  | ttyResizeQuiet w h => exact ⟨bi.b, hb⟩
  | ttyResizeNotify w h => exact ⟨(bi.b.prepResize _ _ hb).draw, hb⟩
  | corrupt => exact ⟨bi.b, bi.tty⟩

structure BWorld where
  wd : World := {}
  e : Term

/-- the environment disturbing the display (`Term.corrupt`: every cell garbage; pen, hyperlink state and cursor unknown).  On a
    terminal for which the screen has no hyperlink strings the disturbance leaves the hyperlink state alone: the library has no
    way to re-establish it there (tscreen.go:905 writes nothing), so no statement about the display could survive it — such
    terminals do not know OSC 8 in the first place. -/
def corruptFor (rc : RenderCfg) (t : Term) : Term :=
  if rc.d.enterUrl = [] then { t.corrupt with linkKnown := t.linkKnown } else t.corrupt

def BWorld.step (c : DrawCfg) (rc : RenderCfg) (b : BWorld) (op : ScrOp) : BWorld :=
  let cmds := (b.wd.sw.step c op).2
  { wd := b.wd.step c op,
    e := match op with
      | .corrupt => corruptFor rc b.e
      | .ttyResizeQuiet w h => b.e.resize w.toNat h.toNat
      | .ttyResizeNotify w h => (b.e.resize w.toNat h.toNat).feed (Render.renderAll rc cmds)
      | _ => b.e.feed (Render.renderAll rc cmds) }

def BWorld.run (c : DrawCfg) (rc : RenderCfg) (b : BWorld) (ops : List ScrOp) : BWorld := ops.foldl (BWorld.step c rc) b

theorem run_wd (c : DrawCfg) (rc : RenderCfg) (ops : List ScrOp) : ∀ b : BWorld, (b.run c rc ops).wd = b.wd.run c ops := by
  induction ops with
  | nil => intro b; rfl
  | cons o os ih => intro b; simp only [BWorld.run, List.foldl_cons, World.run] at ih ⊢; rw [ih]; rfl

theorem rep_corrupt {dc : DrawCfg} {rc : RenderCfg} {t : Term} {a : ATerm} (R : Rep dc rc t a) :
    Rep dc rc (corruptFor rc t) a.corrupt := by
  obtain ⟨k, e, hk⟩ : ∃ k, corruptFor rc t = { t.corrupt with linkKnown := k } ∧ (rc.d.enterUrl = [] → k = t.linkKnown) := by
    unfold corruptFor; split
    · exact ⟨_, rfl, fun _ => rfl⟩
    · rename_i h; exact ⟨_, rfl, fun h' => absurd h' h⟩
  rw [e]
  exact { good := { R.good with }, quiet := ⟨fun h => ⟨(hk h).trans (R.quiet.link h).1, (R.quiet.link h).2⟩, R.quiet.vis, R.quiet.ff⟩,
          w := R.w, h := R.h, cells := fun _ _ _ _ => trivial, conts := fun _ _ _ => Or.inr rfl,
          cur := fun _ _ h => (nomatch h), pen := fun _ h => (nomatch h), vis := fun _ h => (nomatch h), shape := R.shape }

theorem rep_resize {dc : DrawCfg} {rc : RenderCfg} {t : Term} {a : ATerm} (R : Rep dc rc t a) (w h : Int) (hw : 0 ≤ w) (hh : 0 ≤ h) :
    Rep dc rc (t.resize w.toNat h.toNat) (a.resized w h) :=
  { good := { R.good with }, quiet := { R.quiet with }, w := Int.toNat_of_nonneg hw, h := Int.toNat_of_nonneg hh,
    cells := fun _ _ _ _ => trivial, conts := fun _ _ _ => Or.inr rfl,
    cur := fun _ _ h => (nomatch h), pen := fun _ h => (nomatch h), vis := fun _ h => (nomatch h), shape := R.shape }

/-- hypotheses on the configuration shared by all Layer-B history theorems.  The bottom-right corner trick is allowed
    (`walk`: `cornerTrick` arbitrary); on a terminal that uses it the insert-character string has to be ICH (`ich`) and the
    histories have to satisfy Layer A's side condition (`World.SafeRun`, a hypothesis of the theorems, vacuous without the trick). -/
structure CfgB (c : DrawCfg) (rc : RenderCfg) : Prop where
  rwOk : RwOk c.rw
  rwB : RwB c.rw
  pay : Utf8Payload c
  walk : c.Walk
  fx : CapsFx c rc
  ich : c.cornerTrick = true → IchFx c rc

/-- a draw keeps `Rep`; of the side condition `CornerSafe` the byte-level simulation needs the width only -/
theorem rep_draw {c : DrawCfg} {rc : RenderCfg} (hc : CfgB c rc) {s : Scr} {t : Term} {a : ATerm} (R : Rep c rc t a)
    (hw : a.w = s.w) (hh : a.h = s.h) (hb : BufOkS c s) (he : BInv c s) (hsafe : CornerSafe c (s.draw c).1) :
    Rep c rc (t.feed (Render.renderAll rc (s.draw c).2)) (a.applyAll (s.draw c).2) :=
  sim_all hc.rwB hc.fx hc.ich _ R (draw_admits hc.rwOk hc.rwB hc.pay
    { tw := hw, th := hh, buf := hb, ext := he, w2 := fun h => (CornerSafe.of_draw hsafe h).1 })

/-- a step that is a draw from `s` (`e`, the shape of `show_eq` / `sync_eq`) keeps `Rep` -/
theorem rep_drawStep {c : DrawCfg} {rc : RenderCfg} (hc : CfgB c rc) {wd : World} {t : Term} (R : Rep c rc t wd.t) {op : ScrOp} {s : Scr}
    (e : (wd.step c op).sw = { wd.sw with s := (s.draw c).1 } ∧ (wd.step c op).t = wd.t.applyAll (s.draw c).2 ∧
      (wd.sw.step c op).2 = (s.draw c).2)
    (hw : wd.t.w = s.w) (hh : wd.t.h = s.h) (hb : BufOkS c s) (he : BInv c s) (hsafe : CornerSafe c (wd.step c op).sw.s) :
    Rep c rc (t.feed (Render.renderAll rc (wd.sw.step c op).2)) (wd.step c op).t := by
  rw [e.2.1, e.2.2]
  exact rep_draw hc R hw hh hb he (by rwa [e.1] at hsafe)

theorem rep_step {c : DrawCfg} {rc : RenderCfg} (hc : CfgB c rc) {b : BWorld} (inv : WInv c b.wd) (bi : BWInv c b.wd)
    (R : Rep c rc b.e b.wd.t) (op : ScrOp) (hb : OpB c op) (hsafe : b.wd.SafeAt c op) :
    Rep c rc (b.step c rc op).e (b.step c rc op).wd.t := by
  have hf := inv.fini
  cases op with
  | corrupt => exact rep_corrupt R
  | ttyResizeQuiet w h => exact rep_resize R w h hb.1 hb.2.1
  | «show» =>
    obtain ⟨hbuf, hw, hh, _⟩ := resize_ok hc.rwOk inv.buf b.wd.sw.ttyw b.wd.sw.ttyh
    exact rep_drawStep hc R (show_eq hf) (inv.tdim.1.trans hw.symm) (inv.tdim.2.trans hh.symm) hbuf (bi.b.resize _ _ bi.tty) hsafe
  | sync =>
    obtain ⟨hbuf, _, hw, hh, _⟩ := (prep_ok hc.rwOk b.wd.sw.s b.wd.sw.ttyw b.wd.sw.ttyh inv.buf inv.fini inv.clear).1
    exact rep_drawStep hc R (sync_eq hf) (inv.tdim.1.trans hw.symm) (inv.tdim.2.trans hh.symm) hbuf (bi.b.prepSync _ _ bi.tty) hsafe
  | ttyResizeNotify w h =>
    obtain ⟨hbuf, _, hw, hh, _⟩ := (prep_ok hc.rwOk b.wd.sw.s w h inv.buf inv.fini inv.clear).2
    exact rep_draw hc (rep_resize R w h hb.1 hb.2.1) hw.symm hh.symm hbuf (bi.b.prepResize _ _ hb) hsafe
  -- the other operations write nothing
  | _ => simpa [BWorld.step, World.step, ScrW.step, Render.renderAll, ATerm.applyAll] using R

/-- Layer A's invariant, the Layer-B buffer facts and `Rep` travel along a history together -/
theorem reach_b {c : DrawCfg} {rc : RenderCfg} (hc : CfgB c rc) (ops : List ScrOp) :
    ∀ (b : BWorld), WInv c b.wd → BWInv c b.wd → Rep c rc b.e b.wd.t →
      (∀ op ∈ ops, op.Valid c ∧ OpB c op) → World.SafeRun c b.wd ops →
      WInv c (b.run c rc ops).wd ∧ BWInv c (b.run c rc ops).wd ∧ Rep c rc (b.run c rc ops).e (b.run c rc ops).wd.t := by
  induction ops with
  | nil => intro b inv bi R _ _; exact ⟨inv, bi, R⟩
  | cons o os ih =>
    intro b inv bi R hv hs
    have ho := hv o (List.mem_cons_self ..)
    exact ih (b.step c rc o) (step_inv_c hc.rwOk hc.walk inv o ho.1 hs.1) (bwinv_step inv bi o ho.2)
      (rep_step hc inv bi R o ho.2 hs.1) (fun o' h' => hv o' (List.mem_cons_of_mem _ h')) hs.2

/-- **after every history the emulator represents the abstract terminal** (on corner-trick terminals: every history along which
    Layer A's side condition `World.SafeRun` holds) -/
theorem rep_reach {c : DrawCfg} {rc : RenderCfg} (hc : CfgB c rc) (ops : List ScrOp) :
    ∀ (b : BWorld), WInv c b.wd → BWInv c b.wd → Rep c rc b.e b.wd.t →
      (∀ op ∈ ops, op.Valid c ∧ OpB c op) → World.SafeRun c b.wd ops → Rep c rc (b.run c rc ops).e (b.run c rc ops).wd.t :=
  fun b inv bi R hv hs => (reach_b hc ops b inv bi R hv hs).2.2

theorem safeRun_split {c : DrawCfg} : ∀ (ops : List ScrOp) (wd : World) (op : ScrOp),
    World.SafeRun c wd (ops ++ [op]) → World.SafeRun c wd ops ∧ (wd.run c ops).SafeAt c op
  | [], _, _, h => ⟨trivial, h.1⟩
  | o :: ops, wd, op, h => by
    have r := safeRun_split ops (wd.step c o) op h.2
    exact ⟨⟨h.1, r.1⟩, by simpa [World.run] using r.2⟩

end Tcell.LayerB
