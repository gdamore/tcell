/-
The upper half of "in proportion to the fill factors" (C20): the largest-remainder pass of BoxLayout
(boxlayout.go:79-92) never picks a cell twice, so every padding is `⌊share⌋` or `⌊share⌋ + 1`, and it is
`⌊share⌋ + 1` only for a cell whose share is not an integer: `|pad − share| < 1`.  Exact arithmetic (`Rat`).
-/
import Tcell.Lemmas.Views
namespace Tcell.Views
open LayoutNum

abbrev RC := PCell Rat

def fsum (cs : List RC) : Rat := (cs.map (·.frac)).sum

theorem fsum_nil : fsum [] = 0 := rfl
theorem fsum_cons (c : RC) (cs : List RC) : fsum (c :: cs) = c.frac + fsum cs := by simp [fsum]

theorem pick_max (c : RC) (i : Nat) (b : Option (Nat × Rat)) (k' : Nat) (b' : Rat) (h : pick c i b = some (k', b')) :
    (c.fill ≠ 0 → c.frac ≤ b') ∧ (∀ k0 b0, b = some (k0, b0) → b0 ≤ b') := by
  unfold pick at h
  by_cases hz : c.fill = 0
  · rw [if_pos ((eqz_true_iff _).2 hz)] at h
    exact ⟨fun hne => absurd hz hne, fun k0 b0 hb => by rw [hb] at h; cases h; exact Rat.le_refl⟩
  · rw [if_neg (by rwa [eqz_true_iff])] at h
    cases b with
    | none => cases h; exact ⟨fun _ => Rat.le_refl, nofun⟩
    | some p =>
      obtain ⟨k0, b0⟩ := p
      dsimp only at h
      by_cases hg : b0 < c.frac
      · rw [if_pos ((gt_true_iff _ _).2 hg)] at h; cases h
        exact ⟨fun _ => Rat.le_refl, fun _ _ hb => by cases hb; exact Rat.le_of_lt hg⟩
      · rw [if_neg (by rwa [gt_true_iff])] at h; cases h
        exact ⟨fun _ => Rat.not_lt.1 hg, fun _ _ hb => by cases hb; exact Rat.le_refl⟩

theorem bestFrom_max : ∀ (cs : List RC) (i : Nat) (b : Option (Nat × Rat)) (k : Nat) (bf : Rat),
    bestFrom cs i b = some (k, bf) →
    (∀ c ∈ cs, c.fill ≠ 0 → c.frac ≤ bf) ∧ (∀ k0 b0, b = some (k0, b0) → b0 ≤ bf)
  | [], i, b, k, bf, h => ⟨(fun _ hm => nomatch hm), fun k0 b0 hb => by rw [bestFrom, hb] at h; cases h; exact Rat.le_refl⟩
  | c :: cs, i, b, k, bf, h => by
    rw [bestFrom_cons] at h
    obtain ⟨h1, h2⟩ := bestFrom_max cs (i + 1) _ k bf h
    cases hp : pick c i b with
    | none =>
      have hn : ¬ (pick c i b).isSome = true := by rw [hp]; exact Bool.false_ne_true
      refine ⟨fun c' hc' hne => ?_, fun k0 b0 hb => absurd (pick_isSome c i b (.inl (by rw [hb]; rfl))) hn⟩
      rcases List.mem_cons.1 hc' with rfl | hm
      · exact absurd (pick_isSome c' i b (.inr ((eqz_false_iff _).2 hne))) hn
      · exact h1 c' hm hne
    | some p =>
      obtain ⟨hm1, hm2⟩ := pick_max c i b p.1 p.2 hp
      have hb' := h2 p.1 p.2 hp
      refine ⟨fun c' hc' hne => ?_, fun k0 b0 hb => Rat.le_trans (hm2 k0 b0 hb) hb'⟩
      rcases List.mem_cons.1 hc' with rfl | hm
      · exact Rat.le_trans (hm1 hne) hb'
      · exact h1 c' hm hne

/-- **best is a maximum**: the picked cell has `fill ≠ 0` and no cell with `fill ≠ 0` has a larger `frac` -/
theorem best_max (cs : List RC) (i : Nat) (h : best cs = some i) :
    ∃ ci, cs[i]? = some ci ∧ ci.fill ≠ 0 ∧ ∀ c ∈ cs, c.fill ≠ 0 → c.frac ≤ ci.frac := by
  unfold best at h
  cases hb : bestFrom cs 0 none with
  | none => rw [hb] at h; cases h
  | some p =>
    obtain ⟨k, bf⟩ := p
    rw [hb] at h; cases h
    rcases bestFrom_index cs 0 none k bf hb with h1 | ⟨_, c, hc, rfl, hne⟩
    · cases h1
    · exact ⟨c, hc, (eqz_false_iff _).1 hne, (bestFrom_max cs 0 none k _ hb).1⟩

/-! ### the pass never picks a cell twice -/

theorem fsum_bump : ∀ (cs : List RC) (i : Nat) (ci : RC), cs[i]? = some ci → fsum (bump cs i) = fsum cs - ci.frac
  | [], i, ci, h => by simp at h
  | c :: cs, 0, ci, h => by
    obtain rfl : c = ci := by simpa using h
    rw [bump_zero, fsum_cons, fsum_cons]
    show (0 : Rat) + fsum cs = c.frac + fsum cs - c.frac
    grind
  | c :: cs, i + 1, ci, h => by
    rw [bump_succ, fsum_cons, fsum_cons, fsum_bump cs i ci (by simpa using h)]
    grind

theorem exists_pos_of_fsum_pos : ∀ (cs : List RC), (∀ c ∈ cs, 0 ≤ c.frac) → 0 < fsum cs → ∃ c ∈ cs, 0 < c.frac
  | [], _, h => by rw [fsum_nil] at h; exact absurd h (by decide)
  | c :: cs, hn, h => by
    by_cases hc : 0 < c.frac
    · exact ⟨c, List.mem_cons_self, hc⟩
    · have h0 := hn c List.mem_cons_self
      rw [fsum_cons] at h
      have : 0 < fsum cs := by grind
      obtain ⟨c', hm, hp⟩ := exists_pos_of_fsum_pos cs (fun c' hc' => hn c' (List.mem_cons_of_mem _ hc')) this
      exact ⟨c', List.mem_cons_of_mem _ hm, hp⟩

/-- relation between a cell of the list as first computed (`c0`) and the same cell during the pass (`c`): untouched,
or picked exactly once — and then its original fractional part was positive -/
def Once (c0 c : RC) : Prop :=
  c.fill = c0.fill ∧ ((c.pad = c0.pad ∧ c.frac = c0.frac) ∨ (c.pad = c0.pad + 1 ∧ c.frac = 0 ∧ 0 < c0.frac))

/-- the cells as first computed: fractional parts in [0,1), positive only where `fill ≠ 0` -/
def Fracs (cs0 : List RC) : Prop := ∀ c0 ∈ cs0, 0 ≤ c0.frac ∧ c0.frac < 1 ∧ (0 < c0.frac → c0.fill ≠ 0)

def PassInv (cs0 cs : List RC) : Prop :=
  cs.length = cs0.length ∧ ∀ (j : Nat) (c : RC), cs[j]? = some c → ∃ c0, cs0[j]? = some c0 ∧ Once c0 c

theorem passInv_frac (cs0 cs : List RC) (hf : Fracs cs0) (h : PassInv cs0 cs) :
    ∀ c ∈ cs, 0 ≤ c.frac ∧ c.frac < 1 ∧ (0 < c.frac → c.fill ≠ 0) := by
  intro c hc
  obtain ⟨j, hj⟩ := List.getElem?_of_mem hc
  obtain ⟨c0, hc0, hfill, hcase⟩ := h.2 j c hj
  obtain ⟨f1, f2, f3⟩ := hf c0 (List.mem_of_getElem? hc0)
  rcases hcase with ⟨_, he⟩ | ⟨_, he, _⟩
  · rw [he, hfill]; exact ⟨f1, f2, f3⟩
  · rw [he]; exact ⟨Rat.le_refl, by decide, fun h => absurd h (by decide)⟩

/-- one iteration: with `Σ frac > n` (so some fractional part is positive) the picked cell has a positive fractional
part, hence has not been picked before -/
theorem pass_step (cs0 cs : List RC) (hf : Fracs cs0) (h : PassInv cs0 cs) (n : Nat) (hs : (n : Rat) < fsum cs)
    (i : Nat) (hb : best cs = some i) :
    PassInv cs0 (bump cs i) ∧ ((n : Rat) - 1 < fsum (bump cs i)) := by
  obtain ⟨ci, hci, hne, hmax⟩ := best_max cs i hb
  have hfr := passInv_frac cs0 cs hf h
  have hpos : 0 < fsum cs := by
    have : (0 : Rat) ≤ (n : Rat) := by exact_mod_cast Nat.zero_le n
    grind
  obtain ⟨c, hc, hcp⟩ := exists_pos_of_fsum_pos cs (fun c hc => (hfr c hc).1) hpos
  have hcip : 0 < ci.frac := by
    have := hmax c hc ((hfr c hc).2.2 hcp)
    grind
  have hci1 : ci.frac < 1 := (hfr ci (List.mem_of_getElem? hci)).2.1
  refine ⟨⟨by rw [bump_length]; exact h.1, ?_⟩, ?_⟩
  · intro j c' hj
    rw [bump, List.getElem?_modify, Option.map_eq_map] at hj
    obtain ⟨cj, hcj, rfl⟩ := Option.map_eq_some_iff.1 hj
    obtain ⟨c0, hc0, hfill, hcase⟩ := h.2 j cj hcj
    refine ⟨c0, hc0, ?_⟩
    split
    · subst i
      obtain rfl : ci = cj := Option.some.inj (hci.symm.trans hcj)
      rcases hcase with ⟨hp, he⟩ | ⟨_, he, _⟩
      · exact ⟨hfill, .inr ⟨congrArg (· + 1) hp, rfl, he ▸ hcip⟩⟩
      · rw [he] at hcip; exact absurd hcip (by decide)
    · exact ⟨hfill, hcase⟩
  · rw [fsum_bump cs i ci hci]; grind

theorem pass_inv : ∀ (n : Nat) (cs0 cs : List RC), Fracs cs0 → PassInv cs0 cs → ((n : Rat) - 1 < fsum cs) →
    PassInv cs0 (distribute n cs)
  | 0, _, _, _, h, _ => h
  | n + 1, cs0, cs, hf, h, hs => by
    unfold distribute
    cases hb : best cs with
    | none => exact h
    | some i =>
      have hs' : (n : Rat) < fsum cs := by
        have : ((n + 1 : Nat) : Rat) = (n : Rat) + 1 := by push_cast; rfl
        rw [this] at hs; grind
      obtain ⟨h1, h2⟩ := pass_step cs0 cs hf h n hs' i hb
      exact pass_inv n cs0 (bump cs i) hf h1 h2

theorem passInv_refl (cs : List RC) : PassInv cs cs :=
  ⟨rfl, fun _ c hj => ⟨c, hj, rfl, Or.inl ⟨rfl, rfl⟩⟩⟩

theorem fracs_shareCells (extra : Int) (totf : Rat) (fills : List Rat) (he : 0 ≤ extra) (ht : 0 < totf)
    (hf : ∀ f ∈ fills, 0 ≤ f) : Fracs (fills.map (shareCell extra totf)) := by
  intro c0 hc0
  obtain ⟨f, hm, rfl⟩ := List.mem_map.1 hc0
  rw [shareCell_eq extra totf f he ht (hf f hm)]
  have h1 := Rat.floor_le (share extra totf f)
  have h2 := Rat.lt_floor_add_one (share extra totf f)
  refine ⟨by dsimp only; grind, by dsimp only; grind, ?_⟩
  rintro hpos rfl
  rw [share_zero, floor_zero] at hpos
  dsimp only at hpos; grind

theorem fsum_shareCells (extra : Int) (totf : Rat) (he : 0 ≤ extra) (ht : 0 < totf) : ∀ (fills : List Rat),
    (∀ f ∈ fills, 0 ≤ f) →
    fsum (fills.map (shareCell extra totf)) =
      (fills.map (share extra totf)).sum - ((psum (fills.map (shareCell extra totf)) : Int) : Rat)
  | [], _ => by simp [fsum, psum, sumInt]; grind
  | f :: fs, hf => by
    have ih := fsum_shareCells extra totf he ht fs (fun g hg => hf g (List.mem_cons_of_mem _ hg))
    rw [List.map_cons, psum_cons, fsum_cons, ih, shareCell_eq extra totf f he ht (hf f List.mem_cons_self), List.map_cons,
      List.sum_cons, Rat.intCast_add]
    grind

theorem fsum_nonneg : ∀ (cs : List RC), (∀ c ∈ cs, 0 ≤ c.frac) → 0 ≤ fsum cs
  | [], _ => by rw [fsum_nil]; exact Rat.le_refl
  | c :: cs, h => by
    have h1 := h c List.mem_cons_self
    have h2 := fsum_nonneg cs (fun c' hc' => h c' (List.mem_cons_of_mem _ hc'))
    rw [fsum_cons]; grind

/-- **the pass on the cells of a layout**: the integer parts of the shares leave `Σ frac` cells to hand out, and after the
largest-remainder pass every cell is untouched or was picked exactly once, and then its exact share is not an integer -/
theorem pass_on_shares (extra : Int) (fills : List Rat) (he : 0 ≤ extra) (hf : ∀ f ∈ fills, 0 ≤ f)
    (ht : 0 < totFill fills) :
    psum (fills.map (shareCell extra (totFill fills))) ≤ extra ∧
    PassInv (fills.map (shareCell extra (totFill fills)))
      (distribute (extra - psum (fills.map (shareCell extra (totFill fills)))).toNat (fills.map (shareCell extra (totFill fills)))) := by
  have hne : totFill fills ≠ 0 := by grind
  have hfs := fsum_shareCells extra (totFill fills) he ht fills hf
  rw [sum_shares, ← totFill_eq_sum, Rat.mul_div_cancel hne] at hfs
  have hfr := fracs_shareCells extra (totFill fills) fills he ht hf
  have hnn := fsum_nonneg _ (fun c hc => (hfr c hc).1)
  have hn : psum (fills.map (shareCell extra (totFill fills))) ≤ extra :=
    Rat.intCast_le_intCast.1 (by rw [hfs] at hnn; grind)
  refine ⟨hn, pass_inv _ _ _ hfr (passInv_refl _) ?_⟩
  rw [hfs]
  generalize psum (fills.map (shareCell extra (totFill fills))) = ps at *
  have : (((extra - ps).toNat : Nat) : Rat) = ((extra - ps : Int) : Rat) := by
    rw [← Int.toNat_of_nonneg (show 0 ≤ extra - ps by omega)]; rfl
  rw [this, Rat.intCast_sub]
  grind

end Tcell.Views
