/-
Layer B of C04, part 1 (emulator side, independent of any terminal description): the *mode registers* of the
reference emulator (`MR`, a projection of `Spec.Ecma48.Term`), and which functions of the emulator leave them — and
the parser state — alone (`Keep`).  Main results: `keep_dispatchPlain` (every CSI sequence without private marker
and intermediate bytes, other than the window operations `CSI … t`, is neutral: SGR, cursor movement, erase, SM/RM …),
`keep_printByte` (printing a byte).
-/
import Tcell.Spec.Ecma48Lemmas
namespace Tcell.ModesB
open Tcell Tcell.Spec.Ecma48 Tcell.Spec.Ecma48.Term

/-- the mode registers C04 talks about, exactly as the emulator keeps them -/
structure MR where
  alt : Bool := false
  cv : Bool := true
  kpApp : Bool := false        -- ESC = / ESC >
  ckApp : Bool := false        -- DECSET 1
  smooth : Bool := false       -- DECSET 4
  am : Bool := true
  m1000 : Bool := false
  m1002 : Bool := false
  m1003 : Bool := false
  m1006 : Bool := false
  paste : Bool := false
  focus : Bool := false
  shape : Nat := 0
  color : Option (Nat × Nat × Nat) := none
  colorName : String := ""
  tstack : List String := []
  title : String := ""
deriving DecidableEq, Repr

def mr (t : Term) : MR :=
  { alt := t.modes.altScreen, cv := t.modes.cursorVisible, kpApp := t.modes.keypadApp, ckApp := t.modes.cursorKeysApp,
    smooth := t.modes.smoothScroll, am := t.modes.autoMargin, m1000 := t.modes.mouse1000, m1002 := t.modes.mouse1002,
    m1003 := t.modes.mouse1003, m1006 := t.modes.mouse1006, paste := t.modes.paste2004, focus := t.modes.focus1004,
    shape := t.modes.cursorShape, color := t.modes.cursorColor, colorName := t.modes.cursorColorName,
    tstack := t.modes.titleStack, title := t.modes.title }

/-- parser state and mode registers untouched -/
def Keep (t t' : Term) : Prop := t'.st = t.st ∧ mr t' = mr t

theorem Keep.refl (t : Term) : Keep t t := ⟨rfl, rfl⟩
theorem Keep.trans {a b c : Term} (h1 : Keep a b) (h2 : Keep b c) : Keep a c := ⟨h2.1.trans h1.1, h2.2.trans h1.2⟩

theorem keep_of (t t' : Term) (h1 : t'.st = t.st) (h2 : mr t' = mr t) : Keep t t' := ⟨h1, h2⟩

/-- the frame rule behind the `keep_*` lemmas: an operation that writes neither `st` nor `modes` (grid, cursor, pen, saved
    cursor, complaints only) keeps the registers.  Stated on `modes` so that `rfl` compares one projection, not the 17 of `mr`. -/
theorem Keep.of_modes {t t' : Term} (h1 : t'.st = t.st) (h2 : t'.modes = t.modes) : Keep t t' :=
  ⟨h1, by unfold mr; rw [h2]⟩

/-- along an `if` of the emulator (cheaper than `split`, which abstracts the condition out of the whole state) -/
theorem Keep.ite {t a b : Term} {p : Prop} [Decidable p] (ha : Keep t a) (hb : Keep t b) : Keep t (if p then a else b) := by
  split <;> assumption

theorem keep_complain (t : Term) (msg : String) : Keep t (t.complain msg) := .of_modes rfl rfl
theorem keep_garbageAll (t : Term) : Keep t t.garbageAll := .of_modes rfl rfl

theorem keep_lineFeed (t : Term) : Keep t t.lineFeed := by
  unfold lineFeed; exact .ite (.of_modes rfl rfl) (.ite (.of_modes rfl rfl) (.of_modes rfl rfl))

theorem keep_reverseIndex (t : Term) : Keep t t.reverseIndex := by
  unfold reverseIndex; exact .ite (.of_modes rfl rfl) (.ite (.of_modes rfl rfl) (.of_modes rfl rfl))

theorem keep_doWrap (t : Term) : Keep t t.doWrap := by
  unfold doWrap; exact .ite (.ite ((keep_lineFeed t).trans (.of_modes rfl rfl)) (.of_modes rfl rfl)) (.refl t)

theorem keep_insertChars (t : Term) (n : Nat) : Keep t (t.insertChars n) := by
  unfold insertChars; exact .ite (keep_garbageAll t) (.of_modes rfl rfl)
theorem keep_deleteChars (t : Term) (n : Nat) : Keep t (t.deleteChars n) := by
  unfold deleteChars; exact .ite (keep_garbageAll t) (.of_modes rfl rfl)

theorem keep_putNarrowAt (t : Term) (cp : Int) : Keep t (t.putNarrowAt cp) := by
  unfold putNarrowAt; exact .ite (.of_modes rfl rfl) (.of_modes rfl rfl)
theorem keep_putWideAt (t : Term) (cp : Int) : Keep t (t.putWideAt cp) := by
  unfold putWideAt; exact .ite (.of_modes rfl rfl) (.of_modes rfl rfl)

theorem keep_putNarrow (t : Term) (cp : Int) : Keep t (t.putNarrow cp) := by
  unfold putNarrow
  exact .ite (keep_garbageAll t)
    (Keep.trans (.ite ((keep_doWrap t).trans (keep_insertChars _ 1)) (keep_doWrap t)) (keep_putNarrowAt _ cp))

theorem keep_putWide (t : Term) (cp : Int) : Keep t (t.putWide cp) := by
  unfold putWide
  refine .ite (keep_garbageAll t) ?_
  have h1 : Keep t (if t.doWrap.w < t.doWrap.cx + 2 ∧ t.doWrap.modes.autoMargin = true then { t.doWrap.lineFeed with cx := 0 }
      else t.doWrap) := .ite ((keep_doWrap t).trans ((keep_lineFeed _).trans (.of_modes rfl rfl))) (keep_doWrap t)
  exact .ite h1 (h1.trans (Keep.trans (.ite (keep_insertChars _ 2) (.refl _)) (keep_putWideAt _ cp)))

theorem keep_addMark (t : Term) (x y : Nat) (cp : Int) : Keep t (t.addMark x y cp) := .of_modes rfl rfl

theorem keep_putCombiningPos (t : Term) (cp : Int) : Keep t (t.putCombiningPos cp) := by
  unfold putCombiningPos; exact .ite (.refl t) (keep_addMark _ _ _ _)

theorem keep_putCombining (t : Term) (cp : Int) : Keep t (t.putCombining cp) := by
  unfold putCombining
  refine .ite (keep_garbageAll t) ?_
  split
  · exact .ite (keep_addMark _ _ _ _) (keep_putCombiningPos t cp)
  · exact keep_putCombiningPos t cp

theorem keep_putGlyph (t : Term) (cp : Int) (wd : Nat) : Keep t (t.putGlyph cp wd) := by
  unfold putGlyph; split
  · exact keep_putCombining t cp
  · exact keep_putNarrow t cp
  · exact keep_putWide t cp

theorem keep_printByte (t : Term) (b : Nat) : Keep t (t.printByte b) := by
  unfold printByte; exact .ite (keep_putGlyph _ _ _) (.ite (keep_putGlyph _ _ _) (keep_putGlyph _ _ _))

theorem keep_eraseDisplay (t : Term) (mode : Nat) : Keep t (t.eraseDisplay mode) := by
  unfold eraseDisplay
  exact .ite (.of_modes rfl rfl) <| .ite (.refl t) <| .ite (keep_garbageAll t) <| .ite (.of_modes rfl rfl) (.of_modes rfl rfl)

theorem keep_eraseLine (t : Term) (mode : Nat) : Keep t (t.eraseLine mode) := by
  unfold eraseLine
  exact .ite (keep_garbageAll t) <| .ite (.of_modes rfl rfl) <| .ite (.of_modes rfl rfl) (.of_modes rfl rfl)

theorem keep_ansiMode (t : Term) (n : Nat) (on : Bool) : Keep t (t.ansiMode n on) := by
  unfold ansiMode; exact .ite ⟨rfl, rfl⟩ (.ite ⟨rfl, rfl⟩ (keep_complain _ _))

theorem keep_eachParam (f : Term → Nat → Term) (hf : ∀ t n, Keep t (f t n)) (ps : List Param) (t : Term) :
    Keep t (eachParam ps f t) := by
  unfold eachParam
  induction ps generalizing t with
  | nil => exact Keep.refl t
  | cons p r ih =>
    rw [List.foldl_cons]
    refine Keep.trans ?_ (ih _)
    split
    · exact hf _ _
    · exact keep_complain _ _

theorem keep_sgrStep (k : List Param → Term → Term) (p : Param) (rest : List Param) (t : Term)
    (hk : ∀ r2 t', Keep t' (k r2 t')) : Keep t (sgrStep k p rest t) := by
  have K : ∀ {r2 t'}, Keep t t' → Keep t (k r2 t') := fun h => h.trans (hk _ _)
  have C : ∀ msg, Keep t (t.complain msg) := keep_complain t
  unfold sgrStep
  split
  · exact K (.of_modes rfl rfl)
  · exact K (.of_modes rfl rfl)
  · refine .ite ?_ (.ite (K (.of_modes rfl rfl)) (.ite (K ⟨rfl, rfl⟩) ?_))
    · split
      · exact .ite (K (.of_modes rfl rfl)) (K (C _))
      · exact .ite (K (.of_modes rfl rfl)) (K (C _))
      · exact C _
    · split
      · exact K (.of_modes rfl rfl)
      · exact K (C _)
  · refine .ite ?_ (.ite ?_ (K (C _)))
    · split
      · exact .ite (K (.of_modes rfl rfl)) (K (C _))
      · exact K (C _)
    · split
      · exact .ite (K (.of_modes rfl rfl)) (K (C _))
      · exact K (C _)
  · exact K (C _)

theorem keep_applySgr : ∀ (f : Nat) (ps : List Param) (t : Term), Keep t (applySgr f ps t) := by
  intro f
  induction f with
  | zero => intro ps t; cases ps <;> exact Keep.refl t
  | succ f ih =>
    intro ps t
    cases ps with
    | nil => exact Keep.refl t
    | cons p rest =>
      rw [applySgr_step]
      exact keep_sgrStep _ _ _ _ (fun r2 t' => ih r2 t')

theorem keep_sgr (t : Term) (ps : List Param) : Keep t (t.sgr ps) := keep_applySgr _ _ _

theorem keep_dispatchPlain (t : Term) (ps : List Param) (final : Nat) (hf : final ≠ 0x74) :
    Keep t (dispatchPlain t ps final) := by
  unfold dispatchPlain
  rw [if_neg hf]
  exact .ite (keep_sgr t ps) <| .ite (keep_complain _ _) <| .ite (.ite (.of_modes rfl rfl) (keep_complain _ _)) <|
    .ite (keep_eachParam _ (fun t n => keep_ansiMode t n true) ps t) <|
    .ite (keep_eachParam _ (fun t n => keep_ansiMode t n false) ps t) <|
    .ite (.ite (.of_modes rfl rfl) (keep_complain _ _)) <| .ite (keep_complain _ _) <|
    .ite (.of_modes rfl rfl) <| .ite (.of_modes rfl rfl) <| .ite (.of_modes rfl rfl) <| .ite (.of_modes rfl rfl) <|
    .ite (.ite (keep_eraseDisplay _ _) (keep_complain _ _)) <| .ite (.ite (keep_eraseLine _ _) (keep_complain _ _)) <|
    .ite (keep_insertChars _ _) <| .ite (keep_deleteChars _ _) (keep_complain _ _)

/-- title stack operations on the registers -/
def MR.push (m : MR) : MR := { m with tstack := m.title :: m.tstack }
def MR.pop (m : MR) : MR :=
  match m.tstack with
  | [] => m
  | s :: r => { m with title := s, tstack := r }

theorem mr_pushTitle (t : Term) : mr t.pushTitle = (mr t).push := rfl
theorem mr_popTitle (t : Term) : mr t.popTitle = (mr t).pop := by
  unfold popTitle MR.pop
  cases h : t.modes.titleStack with
  | nil => simp [mr, h]
  | cons s r => simp [mr, h]
theorem st_pushTitle (t : Term) : t.pushTitle.st = t.st := rfl
theorem st_popTitle (t : Term) : t.popTitle.st = t.st := by
  unfold popTitle; split <;> rfl

end Tcell.ModesB
