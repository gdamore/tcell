/-
Layer B of C01/C13/C09, part 1: the capability strings of the draw path in their standard ECMA-48 forms.

* `XtermLike ti` — decidable class of terminal descriptions whose draw-path capabilities are, once TPuts has removed
  their padding (`tp_strip`), one of a few standard ECMA-48 forms — or absent where the library tolerates it;
  `Tcell.Props.C01B.db_layerB` lists the entries of the regenerated database in the class (41 of 49);
  `CornerLike ti` — the sister class of the terminals on which drawCell uses the bottom-right insert-character trick (the same
  strings `CapsOk`, `ich1` = ICH; `db_cornerLike`: the other four ECMA-48 entries beterm, cygwin, sun, sun-color).
* closed forms of the TParm expansions of the parameterised strings of the class, for ALL parameter values
  (`parm_cup_pad`, `parm_setaf256`, `parm_setab256`, `parm_setfgbg256`, `parm_setafBasic`, `parm_setafAdd`,
  `parm_setafExt`, `parm_setafColon`, …, `parm_set…RGB`, `parm_ul…`),
  stated with the decimal renderer `Ecma48.dec` the emulator lemmas use;
* `tp_clean`: TPuts is the identity on strings without `$`.
-/
import Tcell.Model.Render
import Tcell.Lemmas.TParm
import Tcell.Spec.Ecma48Lemmas
import Tcell.Lemmas.Cup
namespace Tcell.LayerB
open Tcell Tcell.TParm Tcell.Spec.Ecma48
open Tcell.Spec.TermCaps (stripPadding)

/-! ## decimal rendering: `strconv.Itoa` of the model = `dec` of the emulator lemmas -/

theorem itoa_nat (n : Nat) : itoa (n : Int) = dec n := by rw [itoa_nonneg, TParm.natDigits_eq]

/-- a sum the program computes, when it is a natural number a Go `int` holds: no wrap, and `Itoa` of it is `dec` -/
theorem itoa_wrap (z : Int) (m : Nat) (hz : z = m) (hm : (m : Int) < maxInt64) : itoa (wrap64 z) = dec m := by
  have : wrap64 z = m := by unfold wrap64 two63 two64; unfold maxInt64 at hm; omega
  rw [this, itoa_nat]

/-! ## padding: what TPuts writes -/

/-- **TPuts writes the string with its padding specifications removed** (C15 `tputs_spec`; terminfo.go:596-644 sleeps instead
    of writing pad characters) -/
theorem tp_strip (c : RenderCfg) (s : Bytes) : Render.tp c s = stripPadding s := by
  have := TPuts.tputsAux_bytes c.ti.padChar (s.length + 1) s {} (Nat.lt_succ_self _)
  simpa [Render.tp, TPuts.tputs, TPuts.tputsV, TPuts.currentStrict] using this

theorem tp_padded (c : RenderCfg) (s pad : Bytes) (h : ∀ b ∈ s, b ≠ 36) (hp : stripPadding pad = []) :
    Render.tp c (s ++ pad) = s := by
  rw [tp_strip, TPuts.strip_append_no36 s pad h, hp, List.append_nil]

theorem tp_clean (c : RenderCfg) (s : Bytes) (h : ∀ b ∈ s, b ≠ 36) : Render.tp c s = s := by
  rw [tp_strip, TPuts.strip_no36 s h]

@[simp] theorem tp_nil (c : RenderCfg) : Render.tp c [] = [] := tp_clean c [] (by simp)

/-! ## the standard forms -/

def esc (l : List Nat) : Bytes := 27 :: l

/-- `ESC [ %i %p1 %d ; %p2 %d H` -/
def cupStd : Bytes := [27,91,37,105,37,112,49,37,100,59,37,112,50,37,100,72]
/-- `ESC [ 3 %p1 %d m` / `ESC [ 4 %p1 %d m` -/
def setafBasic : Bytes := [27,91,51,37,112,49,37,100,109]
def setabBasic : Bytes := [27,91,52,37,112,49,37,100,109]
/-- `ESC [ 3 %p1 %d ; 4 %p2 %d m` -/
def setfgbgBasic : Bytes := [27,91,51,37,112,49,37,100,59,52,37,112,50,37,100,109]
/-- `ESC [ %? %p1 %{8} %< %t 3 %p1 %d %e %p1 %{16} %< %t 9 %p1 %{8} %- %d %e 38;5; %p1 %d %; m` -/
def setaf256 : Bytes :=
  [27,91,37,63,37,112,49,37,123,56,125,37,60,37,116,51,37,112,49,37,100,37,101,37,112,49,37,123,49,54,125,
   37,60,37,116,57,37,112,49,37,123,56,125,37,45,37,100,37,101,51,56,59,53,59,37,112,49,37,100,37,59,109]
/-- `ESC [ %? %p1 %{8} %< %t 4 %p1 %d %e %p1 %{16} %< %t 10 %p1 %{8} %- %d %e 48;5; %p1 %d %; m` -/
def setab256 : Bytes :=
  [27,91,37,63,37,112,49,37,123,56,125,37,60,37,116,52,37,112,49,37,100,37,101,37,112,49,37,123,49,54,125,
   37,60,37,116,49,48,37,112,49,37,123,56,125,37,45,37,100,37,101,52,56,59,53,59,37,112,49,37,100,37,59,109]
/-- the two conditionals of `setaf256` / `setab256` in one sequence, separated by `;` -/
def setfgbg256 : Bytes :=
  [27,91,37,63,37,112,49,37,123,56,125,37,60,37,116,51,37,112,49,37,100,37,101,37,112,49,37,123,49,54,125,
   37,60,37,116,57,37,112,49,37,123,56,125,37,45,37,100,37,101,51,56,59,53,59,37,112,49,37,100,37,59,59,
   37,63,37,112,50,37,123,56,125,37,60,37,116,52,37,112,50,37,100,37,101,37,112,50,37,123,49,54,125,
   37,60,37,116,49,48,37,112,50,37,123,56,125,37,45,37,100,37,101,52,56,59,53,59,37,112,50,37,100,37,59,109]
/-- `ESC [ 38;2; %p1 %d ; %p2 %d ; %p3 %d m` and the 48 / combined forms -/
def setfRGB : Bytes := [27,91,51,56,59,50,59,37,112,49,37,100,59,37,112,50,37,100,59,37,112,51,37,100,109]
def setbRGB : Bytes := [27,91,52,56,59,50,59,37,112,49,37,100,59,37,112,50,37,100,59,37,112,51,37,100,109]
def setfbRGB : Bytes :=
  [27,91,51,56,59,50,59,37,112,49,37,100,59,37,112,50,37,100,59,37,112,51,37,100,59,
   52,56,59,50,59,37,112,52,37,100,59,37,112,53,37,100,59,37,112,54,37,100,109]
/-- `ESC [ 58:5: %p1 %d m`, `ESC [ 58:2:: %p1 %d : %p2 %d : %p3 %d m` (tcell's own underline-colour strings) -/
def ulIdx : Bytes := [27,91,53,56,58,53,58,37,112,49,37,100,109]
def ulRGB : Bytes := [27,91,53,56,58,50,58,58,37,112,49,37,100,58,37,112,50,37,100,58,37,112,51,37,100,109]
/-- `ESC ] 8 ; %p2 %s ; %p1 %s ESC \` -/
def urlOpen : Bytes := [27,93,56,59,37,112,50,37,115,59,37,112,49,37,115,27,92]
def urlClose : Bytes := [27,93,56,59,59,27,92]

/-- `cup` followed by the padding the DEC entries carry: `$<5>` (vt100, vt102), `$<10>` (vt420) -/
def pad5 : Bytes := [36,60,53,62]
def pad10 : Bytes := [36,60,49,48,62]
def cupPads : List Bytes := [[], pad5, pad10]

/-- Eterm's 8-colour strings: `ESC [ %p1 %{30} %+ %d m`, `ESC [ %p1 %'(' %+ %d m` and both in one sequence -/
def setafAdd : Bytes := [27, 91, 37, 112, 49, 37, 123, 51, 48, 125, 37, 43, 37, 100, 109]
def setabAdd : Bytes := [27, 91, 37, 112, 49, 37, 39, 40, 39, 37, 43, 37, 100, 109]
def setfgbgAdd : Bytes :=
  [27, 91, 37, 112, 49, 37, 123, 51, 48, 125, 37, 43, 37, 100, 59, 37, 112, 50, 37, 39, 40, 39, 37, 43, 37, 100, 109]
/-- rxvt-unicode's palette strings: always the extended form `ESC [ 38;5; %p1 %d m` / `48;5;` / both -/
def setafExt : Bytes := [27, 91, 51, 56, 59, 53, 59, 37, 112, 49, 37, 100, 109]
def setabExt : Bytes := [27, 91, 52, 56, 59, 53, 59, 37, 112, 49, 37, 100, 109]
def setfgbgExt : Bytes := [27, 91, 51, 56, 59, 53, 59, 37, 112, 49, 37, 100, 59, 52, 56, 59, 53, 59, 37, 112, 50, 37, 100, 109]
/-- foot's palette strings: the conditionals of the 256-colour form with the colon form `38:5:n` / `48:5:n` in the last branch -/
def setafColon : Bytes :=
  [27,91,37,63,37,112,49,37,123,56,125,37,60,37,116,51,37,112,49,37,100,37,101,37,112,49,37,123,49,54,125,
   37,60,37,116,57,37,112,49,37,123,56,125,37,45,37,100,37,101,51,56,58,53,58,37,112,49,37,100,37,59,109]
def setabColon : Bytes :=
  [27,91,37,63,37,112,49,37,123,56,125,37,60,37,116,52,37,112,49,37,100,37,101,37,112,49,37,123,49,54,125,
   37,60,37,116,49,48,37,112,49,37,123,56,125,37,45,37,100,37,101,52,56,58,53,58,37,112,49,37,100,37,59,109]
def setfgbgColon : Bytes :=
  [27,91,37,63,37,112,49,37,123,56,125,37,60,37,116,51,37,112,49,37,100,37,101,37,112,49,37,123,49,54,125,
   37,60,37,116,57,37,112,49,37,123,56,125,37,45,37,100,37,101,51,56,58,53,58,37,112,49,37,100,37,59,59,
   37,63,37,112,50,37,123,56,125,37,60,37,116,52,37,112,50,37,100,37,101,37,112,50,37,123,49,54,125,
   37,60,37,116,49,48,37,112,50,37,123,56,125,37,45,37,100,37,101,52,56,58,53,58,37,112,50,37,100,37,59,109]

/-! ## closed forms of the expansions (all parameter values)

Each string is a member of one of the families of `Tcell.Lemmas.Cup` (`tparmV_cup`, `tparmV_dec`, `tparmV_add1/2`,
`tparmV_idx1/2`); what is left here is to read Go's `strconv.Itoa` of a natural number as `dec`. -/

open Tcell.Render (parm ints)

/-- **cup with any of the paddings of the class**, for every row and column a Go `int` can hold: the expansion is
    `ESC [ row+1 ; col+1 H` followed by the padding -/
theorem parm_cup_pad (pad : Bytes) (hp : pad ∈ cupPads) (r c : Nat) (hr : (r : Int) + 1 < maxInt64) (hc : (c : Int) + 1 < maxInt64) :
    parm (cupStd ++ pad) (ints [(r : Int), (c : Int)]) = csiSeq (dec (r + 1) ++ 0x3b :: dec (c + 1)) 0x48 ++ pad := by
  have h37 : ∀ p ∈ cupPads, ∀ x ∈ p, x ≠ 37 := by decide
  refine (congrArg Prod.fst (tparmV_cup current pad (h37 pad hp) r c noVars)).trans ?_
  rw [itoa_wrap _ (r + 1) (by omega) (by omega), itoa_wrap _ (c + 1) (by omega) (by omega)]
  simp [csiSeq]

/-- a string of the family `decProg`: its pieces with `strconv.Itoa` of the parameters between them -/
theorem parm_decProg (l : Bytes) (ls : List Bytes) (ns : List Int) (h9 : ls.length ≤ 9 := by decide)
    (h : ∀ l' ∈ l :: ls, ∀ x ∈ l', x ≠ 37 := by decide) : parm (decProg 1 l ls) (ints ns) = decOut (pad9 (ints ns)) 1 l ls :=
  congrArg Prod.fst (tparmV_dec current l ls _ noVars h9 h)

attribute [local simp] decOut argInt pad9 ints Value.toInt itoa_nat csiSeq

theorem parm_setafBasic (n : Nat) : parm setafBasic (ints [(n : Int)]) = csiSeq (0x33 :: dec n) 0x6d :=
  (parm_decProg [27, 91, 51] [[109]] [n]).trans
    (by simp)

theorem parm_setabBasic (n : Nat) : parm setabBasic (ints [(n : Int)]) = csiSeq (0x34 :: dec n) 0x6d :=
  (parm_decProg [27, 91, 52] [[109]] [n]).trans
    (by simp)

theorem parm_setfgbgBasic (f b : Nat) :
    parm setfgbgBasic (ints [(f : Int), (b : Int)]) = csiSeq ((0x33 :: dec f) ++ 0x3b :: (0x34 :: dec b)) 0x6d :=
  (parm_decProg [27, 91, 51] [[59, 52], [109]] [f, b]).trans
    (by simp)

theorem dec_38 : dec 38 = [51, 56] := by decide
theorem dec_48 : dec 48 = [52, 56] := by decide
theorem dec_58 : dec 58 = [53, 56] := by decide

theorem parm_setafExt (n : Nat) : parm setafExt (ints [(n : Int)]) = csiSeq (Term.ext5 38 n) 0x6d :=
  (parm_decProg [27, 91, 51, 56, 59, 53, 59] [[109]] [n]).trans
    (by simp [Term.ext5, dec_38])

theorem parm_setabExt (n : Nat) : parm setabExt (ints [(n : Int)]) = csiSeq (Term.ext5 48 n) 0x6d :=
  (parm_decProg [27, 91, 52, 56, 59, 53, 59] [[109]] [n]).trans
    (by simp [Term.ext5, dec_48])

theorem parm_setfgbgExt (f b : Nat) :
    parm setfgbgExt (ints [(f : Int), (b : Int)]) = csiSeq (Term.ext5 38 f ++ 0x3b :: Term.ext5 48 b) 0x6d :=
  (parm_decProg [27, 91, 51, 56, 59, 53, 59] [[59, 52, 56, 59, 53, 59], [109]] [f, b]).trans
    (by simp [Term.ext5, dec_38, dec_48])

/-- **direct-colour foreground** for all components -/
theorem parm_setfRGB (r g b : Nat) :
    parm setfRGB (ints [(r : Int), (g : Int), (b : Int)]) = csiSeq (Term.ext2 38 r g b) 0x6d :=
  (parm_decProg [27, 91, 51, 56, 59, 50, 59] [[59], [59], [109]] [r, g, b]).trans
    (by simp [Term.ext2, dec_38])

theorem parm_setbRGB (r g b : Nat) :
    parm setbRGB (ints [(r : Int), (g : Int), (b : Int)]) = csiSeq (Term.ext2 48 r g b) 0x6d :=
  (parm_decProg [27, 91, 52, 56, 59, 50, 59] [[59], [59], [109]] [r, g, b]).trans
    (by simp [Term.ext2, dec_48])

theorem parm_setfbRGB (r g b r' g' b' : Nat) :
    parm setfbRGB (ints [(r : Int), (g : Int), (b : Int), (r' : Int), (g' : Int), (b' : Int)]) =
      csiSeq (Term.ext2 38 r g b ++ 0x3b :: Term.ext2 48 r' g' b') 0x6d :=
  (parm_decProg [27, 91, 51, 56, 59, 50, 59] [[59], [59], [59, 52, 56, 59, 50, 59], [59], [59], [109]] [r, g, b, r', g', b']).trans
    (by simp [Term.ext2, dec_38, dec_48])

/-- body of `58:5:n` -/
def ulIdxBody (n : Nat) : List Nat := dec 58 ++ 0x3a :: 0x35 :: 0x3a :: dec n
/-- body of `58:2::r:g:b` -/
def ulRGBBody (r g b : Nat) : List Nat := dec 58 ++ 0x3a :: 0x32 :: 0x3a :: 0x3a :: (dec r ++ 0x3a :: (dec g ++ 0x3a :: dec b))

theorem parm_ulIdx (n : Nat) : parm ulIdx (ints [(n : Int)]) = csiSeq (ulIdxBody n) 0x6d :=
  (parm_decProg [27, 91, 53, 56, 58, 53, 58] [[109]] [n]).trans
    (by simp [ulIdxBody, dec_58])

theorem parm_ulRGB (r g b : Nat) :
    parm ulRGB (ints [(r : Int), (g : Int), (b : Int)]) = csiSeq (ulRGBBody r g b) 0x6d :=
  (parm_decProg [27, 91, 53, 56, 58, 50, 58, 58] [[58], [58], [109]] [r, g, b]).trans
    (by simp [ulRGBBody, dec_58])

theorem parm_setafAdd (n : Nat) (hn : n < 256) : parm setafAdd (ints [(n : Int)]) = csiSeq (dec (30 + n)) 0x6d := by
  refine (congrArg Prod.fst (tparmV_add1 current (pushes_30 _) n noVars)).trans ?_
  rw [itoa_wrap _ (30 + n) (by omega) (by unfold maxInt64; omega)]
  rfl

theorem parm_setabAdd (n : Nat) (hn : n < 256) : parm setabAdd (ints [(n : Int)]) = csiSeq (dec (40 + n)) 0x6d := by
  refine (congrArg Prod.fst (tparmV_add1 current (pushes_40 _) n noVars)).trans ?_
  rw [itoa_wrap _ (40 + n) (by omega) (by unfold maxInt64; omega)]
  rfl

theorem parm_setfgbgAdd (f b : Nat) (hf : f < 256) (hb : b < 256) :
    parm setfgbgAdd (ints [(f : Int), (b : Int)]) = csiSeq (dec (30 + f) ++ 0x3b :: dec (40 + b)) 0x6d := by
  refine (congrArg Prod.fst (tparmV_add2 current (pushes_30 _) (pushes_40 _) f b noVars)).trans ?_
  rw [itoa_wrap _ (30 + f) (by omega) (by unfold maxInt64; omega), itoa_wrap _ (40 + b) (by omega) (by unfold maxInt64; omega)]
  simp

/-- the SGR parameter text selecting palette colour `n` as foreground (`which = 38`) or background (`48`) the way
    the 256-colour `setaf` / `setab` strings do -/
def idxBody (base bright which n : Nat) : List Nat :=
  if n < 8 then dec (base + n) else if n < 16 then dec (bright + (n - 8)) else Term.ext5 which n

/-- colon form of the extended palette selection: `38:5:n` -/
def colon5 (which n : Nat) : List Nat := dec which ++ 0x3a :: 0x35 :: 0x3a :: dec n
/-- `3n`, `9(n-8)` or `38:5:n` (foot) -/
def idxBodyC (base bright which n : Nat) : List Nat :=
  if n < 8 then dec (base + n) else if n < 16 then dec (bright + (n - 8)) else colon5 which n

theorem dec_tens (a n : Nat) (ha : 0 < a) (ha' : a < 10) (hn : n < 10) : dec (a * 10 + n) = (48 + a) :: dec n := by
  rw [dec_append_digit a n ha hn, dec_lt10 a ha', dec_lt10 n hn]; rfl

theorem dec_30 (n : Nat) (h : n < 8) : dec (30 + n) = 0x33 :: dec n :=
  dec_tens 3 n (by omega) (by omega) (by omega)
theorem dec_40 (n : Nat) (h : n < 8) : dec (40 + n) = 0x34 :: dec n :=
  dec_tens 4 n (by omega) (by omega) (by omega)
theorem dec_90 (n : Nat) (h : n < 8) : dec (90 + n) = 0x39 :: dec n :=
  dec_tens 9 n (by omega) (by omega) (by omega)
theorem dec_100 (n : Nat) (h : n < 8) : dec (100 + n) = 0x31 :: 0x30 :: dec n := by
  have := dec_append_digit 10 n (by omega) (by omega)
  rw [show 10 * 10 + n = 100 + n by omega] at this
  rw [this, dec_lt10 n (by omega)]; rfl

/-- what the three-way selection of a palette string prints for a palette index, given the decimal renderings of its
    three prefixes: `base + n`, `bright + (n - 8)` or the extended form -/
theorem idxOut_nat (a b c : Bytes) (base bright : Nat) (ext : Nat → List Nat) (ha : ∀ n < 8, dec (base + n) = a ++ dec n)
    (hb : ∀ n < 8, dec (bright + n) = b ++ dec n) (hc : ∀ n, ext n = c ++ dec n) (n : Nat) :
    idxOut a b c n = if n < 8 then dec (base + n) else if n < 16 then dec (bright + (n - 8)) else ext n := by
  unfold idxOut
  by_cases h8 : n < 8
  · rw [if_pos (by omega), if_pos h8, itoa_nat, ha n h8]
  · by_cases h16 : n < 16
    · rw [if_neg (by omega), if_pos (by omega), if_neg h8, if_pos h16,
        itoa_wrap _ (n - 8) (by omega) (by unfold maxInt64; omega), hb _ (by omega)]
    · rw [if_neg (by omega), if_neg (by omega), if_neg h8, if_neg h16, itoa_nat, hc]

theorem idxOut_fg (n : Nat) : idxOut [51] [57] [51,56,59,53,59] n = idxBody 30 90 38 n :=
  idxOut_nat _ _ _ 30 90 _ dec_30 dec_90 (fun n => by simp [Term.ext5, dec_38]) n
theorem idxOut_bg (n : Nat) : idxOut [52] [49,48] [52,56,59,53,59] n = idxBody 40 100 48 n :=
  idxOut_nat _ _ _ 40 100 _ dec_40 dec_100 (fun n => by simp [Term.ext5, dec_48]) n
theorem idxOut_fgC (n : Nat) : idxOut [51] [57] [51,56,58,53,58] n = idxBodyC 30 90 38 n :=
  idxOut_nat _ _ _ 30 90 _ dec_30 dec_90 (fun n => by simp [colon5, dec_38]) n
theorem idxOut_bgC (n : Nat) : idxOut [52] [49,48] [52,56,58,53,58] n = idxBodyC 40 100 48 n :=
  idxOut_nat _ _ _ 40 100 _ dec_40 dec_100 (fun n => by simp [colon5, dec_48]) n

/-- **setaf** (256-colour form) for every palette index -/
theorem parm_setaf256 (n : Nat) : parm setaf256 (ints [(n : Int)]) = csiSeq (idxBody 30 90 38 n) 0x6d :=
  (congrArg Prod.fst (tparmV_idx1 current [51] [57] [51,56,59,53,59] n noVars)).trans
    (by rw [idxOut_fg]; rfl)

/-- **setab** (256-colour form) for every palette index -/
theorem parm_setab256 (n : Nat) : parm setab256 (ints [(n : Int)]) = csiSeq (idxBody 40 100 48 n) 0x6d :=
  (congrArg Prod.fst (tparmV_idx1 current [52] [49,48] [52,56,59,53,59] n noVars)).trans
    (by rw [idxOut_bg]; rfl)

/-- **setfgbg** (256-colour form) for every pair of palette indices -/
theorem parm_setfgbg256 (f b : Nat) :
    parm setfgbg256 (ints [(f : Int), (b : Int)]) = csiSeq (idxBody 30 90 38 f ++ 0x3b :: idxBody 40 100 48 b) 0x6d :=
  (congrArg Prod.fst (tparmV_idx2 current [51] [57] [51,56,59,53,59] [52] [49,48] [52,56,59,53,59] f b
    noVars)).trans (by rw [idxOut_fg, idxOut_bg]; simp)

theorem parm_setafColon (n : Nat) : parm setafColon (ints [(n : Int)]) = csiSeq (idxBodyC 30 90 38 n) 0x6d :=
  (congrArg Prod.fst (tparmV_idx1 current [51] [57] [51,56,58,53,58] n noVars)).trans
    (by rw [idxOut_fgC]; rfl)
theorem parm_setabColon (n : Nat) : parm setabColon (ints [(n : Int)]) = csiSeq (idxBodyC 40 100 48 n) 0x6d :=
  (congrArg Prod.fst (tparmV_idx1 current [52] [49,48] [52,56,58,53,58] n noVars)).trans
    (by rw [idxOut_bgC]; rfl)
theorem parm_setfgbgColon (f b : Nat) :
    parm setfgbgColon (ints [(f : Int), (b : Int)]) = csiSeq (idxBodyC 30 90 38 f ++ 0x3b :: idxBodyC 40 100 48 b) 0x6d :=
  (congrArg Prod.fst (tparmV_idx2 current [51] [57] [51,56,58,53,58] [52] [49,48] [52,56,58,53,58] f b
    noVars)).trans (by rw [idxOut_fgC, idxOut_bgC]; simp)

/-! ## the class -/

/-- `sgr0` as written (padding removed): SGR reset in its spellings, with the character-set resets `ESC ( B` / SI that come
    with it, `;10` (primary font) and the no-op `CSI " q` (DECSCA off, wy99) -/
def attrOffForms : List Bytes :=
  [[27,40,66,27,91,109], [27,91,109,15], [27,91,109,27,40,66], [27,91,48,109,15], [27,91,109], [27,91,48,109],
   [27,91,48,59,49,48,109], [27,91,48,59,49,48,109,27,40,66], [27,91,109,15,27,91,34,113]]
/-- `clear`: cursor home + erase display — or FF (form feed) on the terminals that clear on it (the Sun console) -/
def clearFF : Bytes := [12]
def clearForms : List Bytes := [[27,91,72,27,91,50,74], [27,91,72,27,91,74], clearFF]
/-- `cnorm`: DECTCEM on, alone or with a blink / `34` / linux-console cursor setting -/
def showForms : List Bytes :=
  [[27,91,63,50,53,104], [27,91,63,49,50,108,27,91,63,50,53,104], [27,91,51,52,104,27,91,63,50,53,104],
   [27,91,63,49,50,104,27,91,63,50,53,104], [27,91,63,50,53,104,27,91,63,48,99]]
def hideStd : Bytes := [27,91,63,50,53,108]
/-- `civis`: DECTCEM off, alone or followed by the linux console's `CSI ? 1 c` -/
def hideForms : List Bytes := [hideStd, [27,91,63,50,53,108,27,91,63,49,99]]
def sgr1 (n : Nat) : Bytes := [27,91,48 + n,109]
def resetStd : Bytes := [27,91,51,57,59,52,57,109]
/-- `op` of aixterm (`CSI 32 m CSI 40 m`) and pcansi (`CSI 37;40 m`): not a reset to the default colours — they SET colours -/
def opAix : Bytes := [27,91,51,50,109,27,91,52,48,109]
def opPc : Bytes := [27,91,51,55,59,52,48,109]
/-- `op` spelled as a full SGR reset (`CSI m`: beterm, `CSI 0 m`: sun-color): sendFgBg writes `op` right after `sgr0`, where
    resetting every attribute changes nothing -/
def opSgr : Bytes := [27,91,109]
def opSgr0 : Bytes := [27,91,48,109]
def opForms : List Bytes := [resetStd, opAix, opPc, opSgr, opSgr0]
def ulStyleStd (s : Nat) : Bytes := [27,91,52,58,48 + s,109]
def ulResetStd : Bytes := [27,91,53,57,109]
def decscusr (n : Nat) : Bytes := [27,91,48 + n,32,113]
def cursorStylesStd : List Bytes := [decscusr 0, decscusr 1, decscusr 2, decscusr 3, decscusr 4, decscusr 5, decscusr 6]

def optForm (s std : Bytes) : Bool := s == [] || s == std
/-- an optional attribute string: absent, or (once TPuts has removed its padding) the standard form -/
def optSent (s std : Bytes) : Bool := s == [] || stripPadding s == std

/-- the palette strings of the class: (setaf, setab, setfgbg) families -/
inductive PalKind | basic | add | cond | ext | colon
  deriving DecidableEq, Repr

def palKind (ti : Terminfo) : Option PalKind :=
  if ti.colors == 8 && ti.setFg == setafBasic && ti.setBg == setabBasic && optForm ti.setFgBg setfgbgBasic then some .basic
  else if ti.colors == 8 && ti.setFg == setafAdd && ti.setBg == setabAdd && optForm ti.setFgBg setfgbgAdd then some .add
  else if decide (8 ≤ ti.colors) && ti.setFg == setaf256 && ti.setBg == setab256 && optForm ti.setFgBg setfgbg256 then some .cond
  else if decide (8 ≤ ti.colors) && ti.setFg == setafExt && ti.setBg == setabExt && optForm ti.setFgBg setfgbgExt then some .ext
  else if decide (8 ≤ ti.colors) && ti.setFg == setafColon && ti.setBg == setabColon && optForm ti.setFgBg setfgbgColon then some .colon
  else none

/-- a monochrome description: no colours and no colour string of any kind (nothing is ever written for a colour) -/
def monoOk (ti : Terminfo) : Bool :=
  ti.colors == 0 && ti.setFg == [] && ti.setBg == [] && ti.setFgBg == [] && ti.resetFgBg == [] &&
  ti.setFgRGB == [] && ti.setBgRGB == [] && ti.setFgBgRGB == []

/-- the capability strings of the terminal description -/
def tiCapsOk (ti : Terminfo) : Bool :=
  (cupPads.any fun p => ti.setCursor == cupStd ++ p) &&
  attrOffForms.contains (stripPadding ti.attrOff) && clearForms.contains (stripPadding ti.clear) &&
  -- cursor visibility: both strings in a standard form, or neither
  ((showForms.contains (stripPadding ti.showCursor) && hideForms.contains (stripPadding ti.hideCursor)) ||
   (ti.showCursor == [] && ti.hideCursor == [])) &&
  optSent ti.underline (sgr1 4) && optSent ti.bold (sgr1 1) && optSent ti.reverse (sgr1 7) &&
  optSent ti.blink (sgr1 5) && optSent ti.dim (sgr1 2) && optSent ti.italic (sgr1 3) && optSent ti.strikeThrough (sgr1 9) &&
  -- colours: one of the palette families with `op` = `CSI 39;49 m` (or a full SGR reset, or one of the two colour-setting `op`s), or none at all
  (((palKind ti).isSome && opForms.contains ti.resetFgBg) || monoOk ti) &&
  optForm ti.setFgRGB setfRGB && optForm ti.setBgRGB setbRGB && optForm ti.setFgBgRGB setfbRGB &&
  -- coherence of the direct-colour strings (all three or none; tcell sets them together, terminfo.go addTrueColor)
  (ti.setFgRGB.isEmpty == ti.setBgRGB.isEmpty) && (ti.setFgBgRGB.isEmpty || !ti.setFgRGB.isEmpty)

/-- the terminal description itself: its strings, and the draw path does not use the bottom-right insert-character trick on it
    (tscreen.go:815: automatic margins that cannot be switched off and an insert-character string) -/
def tiOk (ti : Terminfo) : Bool :=
  tiCapsOk ti && !(ti.autoMargin && ti.disableAutoMargin.isEmpty && !ti.insertChar.isEmpty)

/-- the strings the screen constructor derives from it -/
def dOk (d : Derived) : Bool :=
  -- hyperlinks: tcell's OSC 8 pair, or no hyperlink strings (entries without mouse / xterm flag, the linux console)
  ((d.enterUrl == urlOpen && d.exitUrl == urlClose) || (d.enterUrl == [] && d.exitUrl == [])) &&
  optForm d.doubleUnder (ulStyleStd 2) && optForm d.curlyUnder (ulStyleStd 3) &&
  optForm d.dottedUnder (ulStyleStd 4) && optForm d.dashedUnder (ulStyleStd 5) &&
  optForm d.underColor ulIdx && optForm d.underRGB ulRGB && optForm d.underFg ulResetStd &&
  (d.cursorStyles == none || d.cursorStyles == some cursorStylesStd) &&
  -- underline colour: indexed and direct form together or not at all (prepareUnderlines derives one from the other)
  (d.underRGB.isEmpty == d.underColor.isEmpty)

/-- **the class of terminal descriptions Layer B is proved for**: every capability string the draw path uses is, once
    TPuts has removed its padding, one of the standard ECMA-48 / xterm forms listed above — or absent where the library
    tolerates that (no cursor-visibility strings, no underline / bold / reverse / blink / dim / italic / strike-through, no colours, no
    hyperlink, underline-style, underline-colour, cursor-style strings).  (Not only the xterm family: the class holds every
    ECMA-48 entry of the database except the four that use the bottom-right insert-character trick, see
    `Props.C01B.db_layerB`.) -/
def XtermLike (ti : Terminfo) : Bool := tiOk ti && dOk (derive ti)

/-- the class without the corner-trick condition: all that the per-command effects `CapsFx` depend on -/
def CapsOk (ti : Terminfo) : Bool := tiCapsOk ti && dOk (derive ti)

/-- `ich1` = ICH with the default count: `CSI @` -/
def ichStd : Bytes := [27,91,64]

/-- drawCell paints the bottom-right cell with the insert-character trick on this terminal (tscreen.go:815) -/
def usesCornerTrick (ti : Terminfo) : Bool := ti.autoMargin && ti.disableAutoMargin.isEmpty && !ti.insertChar.isEmpty

/-- **the class of corner-trick terminal descriptions Layer B is proved for**: the strings of the class (`CapsOk`), the draw path
    uses the bottom-right insert-character trick, and the insert-character string is (padding removed) ICH -/
def CornerLike (ti : Terminfo) : Bool := CapsOk ti && usesCornerTrick ti && (stripPadding ti.insertChar == ichStd)

theorem capsOk_of_cl {ti : Terminfo} (h : CornerLike ti = true) : CapsOk ti = true := by
  simp only [CornerLike, Bool.and_eq_true] at h; exact h.1.1
theorem cl_corner {ti : Terminfo} (h : CornerLike ti = true) : usesCornerTrick ti = true := by
  simp only [CornerLike, Bool.and_eq_true] at h; exact h.1.2
theorem cl_ich {ti : Terminfo} (h : CornerLike ti = true) : stripPadding ti.insertChar = [27, 91, 64] := by
  simp only [CornerLike, Bool.and_eq_true, beq_iff_eq] at h; exact h.2

theorem capsOk_of_xl {ti : Terminfo} (h : XtermLike ti = true) : CapsOk ti = true := by
  simp only [XtermLike, tiOk, CapsOk, Bool.and_eq_true] at h ⊢; exact ⟨h.1.1, h.2⟩

end Tcell.LayerB
