import Tcell.Lemmas.ChunkMono
/-
C02, loop layer: from per-parser prefix monotonicity (`Mono`) and priority stability (`Prio`: an earlier parser that
was partial does not overtake a later parser that completed) to one iteration of the main loop over an arbitrary list
of parsers (`tryParsers_mono`), and from that property of `step1` (`StepMono`) to `collect` (`collect_append_of_step`).
-/
namespace Tcell.Lemmas.Chunk
open Tcell Tcell.Model Tcell.Lemmas.Collect Tcell.Lemmas.PrefixFree Tcell.Lemmas.MouseSeq

/-- `p` (tried earlier) was partial on `a` while `q` (tried later) completed on `a`: then `p` neither completes nor
is order dependent on the longer buffer, so `q` still wins -/
def Prio (st : PState) (a b : Bytes) (p q : Parser) : Prop :=
  p st a = .part → (∃ n evs st', q st a = .complete n evs st') → Silent (p st (a ++ b))

theorem firstHit_mono (st : PState) (a b : Bytes) (ha : a ≠ []) (n : Nat) (evs : List Event) (st' : PState) :
    ∀ ps : List Parser, (∀ p ∈ ps, Mono p) → ps.Pairwise (Prio st a b) →
      firstHit st a ps = some (.complete n evs st') → firstHit st (a ++ b) ps = some (.complete n evs st') := by
  intro ps
  induction ps with
  | nil => intro _ _ h; simp [firstHit] at h
  | cons p ps ih =>
    intro hm hpw h
    have hpw' := List.pairwise_cons.mp hpw
    have ihh := ih (fun q hq => hm q (by simp [hq])) hpw'.2
    unfold firstHit at h
    cases hp : p st a with
    | complete n1 evs1 st1 =>
      rw [hp] at h
      simp at h
      have := (hm p (by simp)).complete st a b n1 evs1 st1 hp
      unfold firstHit
      rw [this, h.1, h.2.1, h.2.2]
    | ambiguous => rw [hp] at h; simp at h
    | reject =>
      rw [hp] at h
      have := (hm p (by simp)).reject st a b ha hp
      unfold firstHit
      rw [this]
      exact ihh h
    | part =>
      rw [hp] at h
      obtain ⟨q, hq, hc⟩ := (firstHit_mem h).1
      have hs : Silent (p st (a ++ b)) := hpw'.1 q hq hp ⟨n, evs, st', hc⟩
      unfold firstHit
      rcases hs with hs | hs <;> (rw [hs]; exact ihh h)

theorem tryParsers_mono (st : PState) (a b : Bytes) (ha : a ≠ []) (ps : List Parser) (hm : ∀ p ∈ ps, Mono p)
    (hpw : ps.Pairwise (Prio st a b)) (hesc : a = [27] → anyPart st a ps = true)
    (evs : List Event) (st' : PState) (rest : Bytes) (e : Bool)
    (h : tryParsers st a false ps 0 = .emit evs st' rest) :
    tryParsers st (a ++ b) e ps 0 = .emit evs st' (rest ++ b) := by
  rw [tryParsers_eq] at h ⊢
  cases hf : firstHit st a ps with
  | some v =>
    rw [hf] at h
    cases v with
    | complete n evs1 st1 =>
      simp only at h
      obtain ⟨q, hqm, hqc⟩ := (firstHit_mem hf).1
      have hb := (hm q hqm).bound st a n evs1 st1 hqc
      rw [firstHit_mono st a b ha n evs1 st1 ps hm hpw hf]
      simp only
      injection h with h1 h2 h3
      rw [h1, h2, ← h3, List.drop_append_of_le_length hb.2]
    | part => simp at h
    | reject => simp at h
    | ambiguous => simp at h
  | none =>
    rw [hf] at h
    simp only [Bool.false_eq_true, or_false, true_and] at h
    cases hap : anyPart st a ps with
    | true => simp [hap] at h
    | false =>
      simp only [hap, if_true] at h
      -- every parser rejects `a`, hence `a ++ b`
      have hall : ∀ p ∈ ps, p st (a ++ b) = .reject := fun p hp =>
        (hm p hp).reject st a b ha ((firstHit_eq_none.mp hf p hp).resolve_left (anyPart_eq_false.mp hap p hp))
      rw [firstHit_eq_none.mpr fun p hp => Or.inr (hall p hp)]
      simp only [anyPart_eq_false.mpr fun p hp => by rw [hall p hp]; nofun, true_and, true_or, if_true]
      -- the fall-through consumes one byte
      cases a with
      | nil => exact absurd rfl ha
      | cons c t =>
        simp only [List.cons_append]
        unfold fallThrough at h ⊢
        by_cases hc : c = 27
        · subst hc
          simp only [if_true] at h ⊢
          cases t with
          | nil => rw [hesc rfl] at hap; cases hap
          | cons d t' =>
            simp only [List.cons_append] at h ⊢
            injection h with h1 h2 h3
            subst h1; subst h2; subst h3; rfl
        · simp only [hc, if_false] at h ⊢
          injection h with h1 h2 h3
          subst h1; subst h2; subst h3; rfl

def Progress (cfg : Cfg) : Prop :=
  ∀ st b e evs st' rest, b ≠ [] → step1 cfg st b e = .emit evs st' rest → rest.length < b.length

theorem progress_of_mono (cfg : Cfg) (hm : ∀ p ∈ parsers cfg, Mono p) : Progress cfg := by
  intro st b e evs st' rest hb h
  rcases step1_cases cfg st b e with ⟨q, hq, n, evs1, st1, hqc, h1⟩ | ⟨_, h1⟩ | ⟨_, _, h1⟩ | ⟨_, h1⟩ <;> rw [h1] at h
  · have hbd := (hm q hq).bound st b n evs1 st1 hqc
    injection h with _ _ h3
    rw [← h3, List.length_drop]; omega
  · cases h
  · injection h with _ _ h3
    have := List.length_pos_iff.mpr hb
    rw [← h3, List.length_tail]; omega
  · cases h

theorem collectAux_fuel (cfg : Cfg) (hp : Progress cfg) (e : Bool) : ∀ (fuel : Nat) (st : PState) (b : Bytes),
    b.length ≤ fuel → collectAux cfg e fuel st b = collectAux cfg e b.length st b := by
  intro fuel
  induction fuel using Nat.strongRecOn with
  | _ fuel ih =>
    intro st b hb
    cases b with
    | nil => rw [collectAux_nil, collectAux_nil]
    | cons c t =>
      cases fuel with
      | zero => simp at hb
      | succ f =>
        simp only [List.length_cons]
        unfold collectAux
        simp only
        cases hs : step1 cfg st (c :: t) e with
        | wait => rfl
        | ambiguous => rfl
        | emit evs st' rest =>
          simp only
          have hlt := hp st (c :: t) e evs st' rest (by simp) hs
          simp only [List.length_cons] at hlt
          have hb' : t.length ≤ f := by simp only [List.length_cons] at hb; omega
          have h1 := ih f (by omega) st' rest (by omega)
          have h2 := ih t.length (by omega) st' rest (by omega)
          rw [h1, h2]

theorem collect_nil (cfg : Cfg) (st : PState) (e : Bool) : collect cfg st [] e = ⟨[], st, [], false⟩ := rfl

theorem collect_emit (cfg : Cfg) (hp : Progress cfg) (st : PState) (b : Bytes) (hb : b ≠ []) (e : Bool)
    (evs : List Event) (st' : PState) (rest : Bytes) (h : step1 cfg st b e = .emit evs st' rest) :
    collect cfg st b e = { collect cfg st' rest e with evs := evs ++ (collect cfg st' rest e).evs } := by
  cases b with
  | nil => exact absurd rfl hb
  | cons c t =>
    have hlt := hp st (c :: t) e evs st' rest hb h
    simp only [List.length_cons] at hlt
    unfold collect
    simp only [List.length_cons]
    rw [collectAux_emit cfg e t.length st st' _ rest hb evs h, collectAux_fuel cfg hp e t.length st' rest (by omega)]

theorem collect_wait (cfg : Cfg) (st : PState) (b : Bytes) (e : Bool) (h : step1 cfg st b e = .wait) :
    collect cfg st b e = ⟨[], st, b, false⟩ := by
  cases b with
  | nil => rfl
  | cons c t => unfold collect; simp [collectAux, h]

theorem collect_ambiguous (cfg : Cfg) (st : PState) (b : Bytes) (hb : b ≠ []) (e : Bool) (h : step1 cfg st b e = .ambiguous) :
    collect cfg st b e = ⟨[], st, b, true⟩ := by
  cases b with
  | nil => exact absurd rfl hb
  | cons c t => unfold collect; simp [collectAux, h]

/-- sequential composition of two reads: what the screen's main loop does with two chunks -/
def feed2 (cfg : Cfg) (st : PState) (a b : Bytes) (e : Bool) : Collected :=
  let r1 := collect cfg st a false
  let r2 := collect cfg r1.st (r1.rest ++ b) e
  ⟨r1.evs ++ r2.evs, r2.st, r2.rest, r2.amb⟩

def StepMono (cfg : Cfg) : Prop :=
  ∀ st a b e evs st' rest, a ≠ [] → step1 cfg st a false = .emit evs st' rest →
    step1 cfg st (a ++ b) e = .emit evs st' (rest ++ b)

theorem collect_append_of_step (cfg : Cfg) (hp : Progress cfg) (hs : StepMono cfg) (b : Bytes) (e : Bool) :
    ∀ (k : Nat) (a : Bytes) (st : PState), a.length ≤ k → collect cfg st (a ++ b) e = feed2 cfg st a b e := by
  intro k
  induction k with
  | zero =>
    intro a st hk
    have : a = [] := List.eq_nil_of_length_eq_zero (by omega)
    subst this
    simp [feed2, collect_nil]
  | succ k ih =>
    intro a st hk
    cases ha : a with
    | nil => simp [feed2, collect_nil]
    | cons c t =>
      have hne : a ≠ [] := by rw [ha]; simp
      rw [← ha]
      cases hstep : step1 cfg st a false with
      | wait =>
        unfold feed2
        rw [collect_wait cfg st a false hstep]
        simp
      | ambiguous =>
        unfold feed2
        rw [collect_ambiguous cfg st a hne false hstep]
        simp
      | emit evs st' rest =>
        have hlt := hp st a false evs st' rest hne hstep
        have h2 := hs st a b e evs st' rest hne hstep
        have hne' : a ++ b ≠ [] := by rw [ha]; simp
        rw [collect_emit cfg hp st (a ++ b) hne' e evs st' (rest ++ b) h2]
        rw [ih rest st' (by omega)]
        unfold feed2
        rw [collect_emit cfg hp st a hne false evs st' rest hstep]
        simp [List.append_assoc]

end Tcell.Lemmas.Chunk
