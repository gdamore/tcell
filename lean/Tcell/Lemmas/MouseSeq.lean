import Tcell.Lemmas.MouseStep
/-
X11 reports, the table-level condition `mouseClear` (no key sequence is comparable with the start of a mouse
report), and `collect` over an arbitrary sequence of rendered reports.
-/
namespace Tcell.Lemmas.MouseSeq
open Tcell Tcell.Model Tcell.Dec Tcell.Lemmas.SgrMouse Tcell.Lemmas.Collect Tcell.Lemmas.MouseStep

/-- starts of mouse reports: `ESC [ <`, `ESC [ M`, `9B <`, `9B M` -/
def mouseStarts : List Bytes := [[27, 91, 60], [27, 91, 77], [0x9b, 60], [0x9b, 77]]

def clearSeq (s : Bytes) : Bool := mouseStarts.all (fun p => !hasPrefix p s && !hasPrefix s p)

/-- no key sequence (other than the lone ESC, which parseFunctionKey skips) is a prefix of, or extends, the start of a
mouse report -/
def mouseClear (T : KeyTable) : Bool := T.all (fun e => bytesEq e.seq [27] || clearSeq e.seq)

theorem keyMatches_mouseStart (T : KeyTable) (hT : mouseClear T = true) (p : Bytes) (hp : p ∈ mouseStarts) (rest : Bytes) :
    keyMatches T (p ++ rest) = [] := by
  rw [List.eq_nil_iff_forall_not_mem]
  intro e he
  obtain ⟨heT, hesc, hpre⟩ := mem_keyMatches.mp he
  have h := List.all_eq_true.mp hT e heT
  rw [hesc, Bool.false_or] at h
  have hc := List.all_eq_true.mp h p hp
  simp only [Bool.and_eq_true, Bool.not_eq_true', ← Bool.not_eq_true, hasPrefix_iff] at hc
  rcases List.prefix_or_prefix_of_prefix hpre (List.prefix_append p rest) with h1 | h1
  · exact hc.1 h1
  · exact hc.2 h1

/-- what the model produces for `CSI M cb cx cy` -/
def x11Out (cfg : Cfg) (st : PState) (cb cx cy : Nat) : Event × PState :=
  if cfg.x11Fixed then
    let c := (((cb : Int) - 32) % 128).toNat
    let rel : Bool := c % 4 = 3 ∧ c / 64 % 2 = 0 ∧ c / 32 % 2 = 0
    let p := sgrButtons st ((cb : Int) - 32) rel
    (buildMouseEvent cfg ((cx : Int) - 32 - 1) ((cy : Int) - 32 - 1) (p.1 : Int), { st with buttondn := p.2 })
  else (buildMouseEvent cfg ((cx : Int) - 32 - 1) ((cy : Int) - 32 - 1) (cb : Int), st)

def renderX11 (intro : Bytes) (cb cx cy : Nat) : Bytes := intro ++ [77, cb, cx, cy]

theorem parseX11_report (cfg : Cfg) (st : PState) (intro : Bytes) (hi : IsIntro intro) (cb cx cy : Nat) (rest : Bytes) :
    parseXtermMouse cfg st (renderX11 intro cb cx cy ++ rest)
      = .complete (renderX11 intro cb cx cy).length [(x11Out cfg st cb cx cy).1] (x11Out cfg st cb cx cy).2 := by
  rcases hi with rfl | rfl <;>
  · simp only [renderX11, parseXtermMouse, x11Body, x11Out, sgrFinish, List.cons_append, List.nil_append]
    by_cases hfx : cfg.x11Fixed = true <;> simp [hfx]

theorem step1_x11 (cfg : Cfg) (hc : MouseOK cfg) (st : PState) (intro : Bytes) (hi : IsIntro intro) (cb cx cy : Nat)
    (rest : Bytes) (e : Bool) (hk : keyMatches cfg.keys (renderX11 intro cb cx cy ++ rest) = []) :
    step1 cfg st (renderX11 intro cb cx cy ++ rest) e
      = .emit [(x11Out cfg st cb cx cy).1] (x11Out cfg st cb cx cy).2 rest := by
  have hx := parseX11_report cfg st intro hi cb cx cy rest
  have hkey := parseFunctionKey_silent cfg.keys st _ hk
  obtain ⟨hrune, hfocus⟩ := intro_silent cfg hc st intro hi 77 (cb :: cx :: cy :: rest) (by decide)
  have e1 : intro ++ 77 :: cb :: cx :: cy :: rest = renderX11 intro cb cx cy ++ rest := by simp [renderX11]
  rw [e1] at hrune hfocus
  unfold step1 parsers
  simp only [hc.mouse, if_true]
  refine (tryParsers_silent_hit st _ e (parseXtermMouse cfg) _ _ _ _ hx
    [parseRune cfg.dec, parseFunctionKey cfg.keys, parseFocus] (by simp [hrune, hkey, hfocus]) 0).trans ?_
  simp

/-- a mouse report as the terminal sends it -/
inductive MRep where
  | sgr (intro : Bytes) (b x y : Int) (fin : Nat)
  | x11 (intro : Bytes) (cb cx cy : Nat)

def MRep.bytes : MRep → Bytes
  | .sgr intro b x y fin => render intro b x y fin
  | .x11 intro cb cx cy => renderX11 intro cb cx cy

def MRep.Valid : MRep → Prop
  | .sgr intro b x y fin => IsIntro intro ∧ Fits b ∧ Fits x ∧ Fits y ∧ (fin = 77 ∨ fin = 109)
  | .x11 intro _ _ _ => IsIntro intro

/-- event and new parser state the model produces for one report -/
def MRep.out (cfg : Cfg) (st : PState) : MRep → Event × PState
  | .sgr _ b x y fin => (sgrEvent cfg st b x y fin, sgrState st b fin)
  | .x11 _ cb cx cy => x11Out cfg st cb cx cy

def renderAll : List MRep → Bytes
  | [] => []
  | r :: rs => r.bytes ++ renderAll rs

/-- events and final state of a report sequence -/
def outs (cfg : Cfg) : PState → List MRep → List Event × PState
  | st, [] => ([], st)
  | st, r :: rs => let o := r.out cfg st; let t := outs cfg o.2 rs; (o.1 :: t.1, t.2)

theorem MRep.starts (r : MRep) (hv : r.Valid) : ∃ p ∈ mouseStarts, ∃ tail, r.bytes = p ++ tail := by
  cases r with
  | sgr intro b x y fin =>
    rcases hv.1 with rfl | rfl
    · exact ⟨[27, 91, 60], by simp [mouseStarts], showInt b ++ 59 :: (showInt x ++ 59 :: (showInt y ++ [fin])), by simp [MRep.bytes, render]⟩
    · exact ⟨[0x9b, 60], by simp [mouseStarts], showInt b ++ 59 :: (showInt x ++ 59 :: (showInt y ++ [fin])), by simp [MRep.bytes, render]⟩
  | x11 intro cb cx cy =>
    rcases hv with rfl | rfl
    · exact ⟨[27, 91, 77], by simp [mouseStarts], [cb, cx, cy], by simp [MRep.bytes, renderX11]⟩
    · exact ⟨[0x9b, 77], by simp [mouseStarts], [cb, cx, cy], by simp [MRep.bytes, renderX11]⟩

theorem MRep.bytes_ne_nil (r : MRep) (hv : r.Valid) : r.bytes ≠ [] := by
  obtain ⟨p, hp, tail, h⟩ := r.starts hv
  rw [h]
  simp [mouseStarts] at hp
  rcases hp with rfl | rfl | rfl | rfl <;> simp

theorem step1_rep (cfg : Cfg) (hc : MouseOK cfg) (hT : mouseClear cfg.keys = true) (st : PState) (r : MRep)
    (hv : r.Valid) (rest : Bytes) (e : Bool) :
    step1 cfg st (r.bytes ++ rest) e = .emit [(r.out cfg st).1] (r.out cfg st).2 rest := by
  have hk : keyMatches cfg.keys (r.bytes ++ rest) = [] := by
    obtain ⟨p, hp, tail, h⟩ := r.starts hv
    rw [h, List.append_assoc]
    exact keyMatches_mouseStart cfg.keys hT p hp _
  cases r with
  | sgr intro b x y fin =>
    exact step1_sgr cfg hc st intro hv.1 b x y hv.2.1 hv.2.2.1 hv.2.2.2.1 fin hv.2.2.2.2 rest e hk
  | x11 intro cb cx cy => exact step1_x11 cfg hc st intro hv cb cx cy rest e hk

theorem collectAux_reports (cfg : Cfg) (hc : MouseOK cfg) (hT : mouseClear cfg.keys = true) (e : Bool) :
    ∀ (rs : List MRep), (∀ r ∈ rs, r.Valid) → ∀ (st : PState) (fuel : Nat), (renderAll rs).length ≤ fuel →
      collectAux cfg e fuel st (renderAll rs) = ⟨(outs cfg st rs).1, (outs cfg st rs).2, [], false⟩ := by
  intro rs
  induction rs with
  | nil => intro _ st fuel _; simp [renderAll, outs, collectAux_nil]
  | cons r rs ih =>
    intro hv st fuel hf
    have hvr : r.Valid := hv r (by simp)
    have hne := r.bytes_ne_nil hvr
    have hlen : 0 < r.bytes.length := by cases hb : r.bytes with | nil => exact absurd hb hne | cons _ _ => simp
    simp only [renderAll, List.length_append] at hf ⊢
    cases fuel with
    | zero => omega
    | succ f =>
      rw [collectAux_emit cfg e f st _ _ _ (by simp [hne]) _ (step1_rep cfg hc hT st r hvr (renderAll rs) e)]
      rw [ih (fun x hx => hv x (by simp [hx])) _ f (by omega)]
      simp [outs]

theorem collect_reports (cfg : Cfg) (hc : MouseOK cfg) (hT : mouseClear cfg.keys = true) (e : Bool)
    (rs : List MRep) (hv : ∀ r ∈ rs, r.Valid) (st : PState) :
    collect cfg st (renderAll rs) e = ⟨(outs cfg st rs).1, (outs cfg st rs).2, [], false⟩ :=
  collectAux_reports cfg hc hT e rs hv st _ (Nat.le_refl _)

end Tcell.Lemmas.MouseSeq
