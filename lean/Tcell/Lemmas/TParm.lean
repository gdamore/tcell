import Tcell.Model.TParm
import Tcell.Model.TPuts
import Tcell.Spec.Terminfo5
import Tcell.Spec.TermCaps
/- Every `step` of the `TParm` loop shortens its input, so fuel beyond the input length changes nothing
(`run_extra_fuel`); the straight-line programs `ofToks`. -/
namespace Tcell.TParm

theorem length_dropWhile_le {α} (p : α → Bool) (l : List α) : (l.dropWhile p).length ≤ l.length := by
  induction l with
  | nil => simp
  | cons a t ih => simp only [List.dropWhile]; split <;> simp <;> omega

theorem readInt_length (l : Bytes) (acc : Int) : (readInt l acc).2.length ≤ l.length := by
  induction l generalizing acc with
  | nil => simp [readInt]
  | cons c cs ih =>
    simp only [readInt]; split
    · exact Nat.le_trans (ih _) (by simp)
    · simp

theorem fmt_key (all : Bytes) :
    (((all.dropWhile isFlag).dropWhile isNum).drop 1).length ≤ all.length - 1 := by
  have h1 := length_dropWhile_le isNum (all.dropWhile isFlag)
  have h2 := length_dropWhile_le isFlag all
  simp only [List.length_drop] at *; omega

theorem ite_le' {p : Prop} [Decidable p] {a b n : Nat} (ha : a ≤ n) (hb : b ≤ n) : (if p then a else b) ≤ n := by
  split <;> assumption

theorem stepFmt_length (c : Nat) (rest : Bytes) (s : St) : (stepFmt c rest s).1.length ≤ rest.length := by
  unfold stepFmt
  have := fmt_key (fmtChars c rest)
  have h2 : (fmtChars c rest).length - 1 ≤ rest.length := by
    unfold fmtChars; split <;> simp
  exact Nat.le_trans this h2

theorem execOp_length (v : Variant) (c : Nat) (rest : Bytes) (s : St) :
    (execOp v c rest s).1.length ≤ rest.length := by
  unfold execOp
  have hf := stepFmt_length c rest s
  have hr := readInt_length rest 0
  simp only [apply_ite Prod.fst, apply_ite List.length, List.length_drop]
  repeat' (first | apply ite_le' | omega)
theorem step_length (v : Variant) (inp : Bytes) (s : St) (k : Skip) (h : inp ≠ []) :
    (step v inp s k).1.length < inp.length := by
  cases inp with
  | nil => exact absurd rfl h
  | cons ch rest =>
    simp only [step]
    split
    · simp
    · cases rest with
      | nil => simp
      | cons c r =>
        simp only
        cases k with
        | emit => have := execOp_length v c r s; simp only [List.length_cons]; omega
        | toEnd d => simp only [List.length_cons]; omega
        | toElse d => simp only [List.length_cons]; omega

theorem run_nil (v : Variant) (f : Nat) (s : St) (k : Skip) : run v f [] s k = s := by
  cases f <;> simp [run]

theorem run_extra_fuel (v : Variant) (f : Nat) (inp : Bytes) (s : St) (k : Skip) (extra : Nat)
    (h : inp.length ≤ f) : run v (f + extra) inp s k = run v f inp s k := by
  induction f generalizing inp s k with
  | zero =>
    have : inp = [] := List.length_eq_zero_iff.mp (Nat.le_zero.mp h)
    subst this; simp [run_nil]
  | succ f ih =>
    cases inp with
    | nil => simp [run_nil]
    | cons b r =>
      have hs := step_length v (b :: r) s k (by simp)
      rw [show f + 1 + extra = (f + extra) + 1 by omega]
      simp only [run]
      apply ih
      simp only [List.length_cons] at hs h; omega

open Tcell.Spec.Terminfo5

/-- tokens whose meaning is proved equal in model and reference (everything but `%{n}`, printf formats, `%A`/`%O`) -/
def simpleTok : Tok → Bool
  | .num _ | .fmt _ | .bin .logAnd | .bin .logOr => false
  | _ => true

/-- only `#`, space, `A` and `O` are treated differently by the variants -/
theorem step_op (v : Variant) (c : Nat) (h : c ≠ 35 ∧ c ≠ 32 ∧ c ≠ 65 ∧ c ≠ 79) (rest : Bytes) (s : St) :
    step v (37 :: c :: rest) s .emit = execOp pinned c rest s := by
  show execOp v c rest s = _
  simp [execOp, h, pinned]

/-- straight-line program from a token list -/
def ofToks : List Tok → Prog
  | [] => .nil
  | t :: r => .tok t (ofToks r)

theorem render_ofToks (ts : List Tok) : (ofToks ts).render = ts.flatMap Tok.render := by
  induction ts with
  | nil => simp [ofToks, Prog.render]
  | cons t r ih => simp [ofToks, Prog.render, ih]

theorem valid_ofToks (ts : List Tok) : (ofToks ts).valid = ts.all Tok.valid := by
  induction ts with
  | nil => rfl
  | cons t r ih => simp [ofToks, Prog.valid, ih]

theorem all_ofToks (p : Tok → Bool) (ts : List Tok) : (ofToks ts).all p = ts.all p := by
  induction ts with
  | nil => rfl
  | cons t r ih => simp [ofToks, Prog.all, ih]

theorem depth_ofToks (ts : List Tok) : (ofToks ts).depth = 0 := by
  induction ts with
  | nil => rfl
  | cons t r ih => simpa [ofToks, Prog.depth] using ih

theorem evalG_ofToks {σ : Type} (sm : Tok → σ → σ) (tst : σ → Bool × σ) (ts : List Tok) (s : σ) :
    (ofToks ts).evalG sm tst s = ts.foldl (fun s t => sm t s) s := by
  induction ts generalizing s with
  | nil => rfl
  | cons t r ih => simp [ofToks, Prog.evalG, ih]

end Tcell.TParm
