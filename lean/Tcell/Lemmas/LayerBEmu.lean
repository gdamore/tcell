/-
Layer B of C01/C13/C09: emulator-side lemmas that do not depend on the terminal description — what a
cell payload (UTF-8 of a base glyph followed by combining marks) does to the reference emulator in *any* grid
context (halves of wide glyphs around the cursor included), in closed form, cell by cell (`Printed`, `feed_payload`); ICH in
the situation of the bottom-right corner trick (`insertBlanks_corner`).
-/
import Tcell.Spec.Ecma48Lemmas
import Tcell.Base.Utf8
namespace Tcell.LayerB
open Tcell Tcell.Spec.Ecma48 Tcell.Spec.Ecma48.Term

/-- static part of the simulation invariant: parser in the ground state, UTF-8 mode, primary font, no alternate
    character set invoked, replace mode, no complaint so far, the library's width table -/
structure Good (rw : Int → Int) (t : Term) : Prop where
  st : t.st = .ground
  utf8 : t.cfg.utf8 = true
  font : t.modes.altFont = 0
  g0 : t.modes.acsG0 = false
  so : t.modes.shiftOut = false
  irm : t.modes.insertMode = false
  mal : t.malformed = []
  rw : t.cfg.rw = rw

/-- a mode change that the draw invariant does not care about -/
structure ModesOk (m m' : Modes) : Prop where
  font : m'.altFont = m.altFont
  g0 : m'.acsG0 = m.acsG0
  so : m'.shiftOut = m.shiftOut
  irm : m'.insertMode = m.insertMode
  am : m'.autoMargin = m.autoMargin

theorem ModesOk.refl (m : Modes) : ModesOk m m := ⟨rfl, rfl, rfl, rfl, rfl⟩
theorem ModesOk.trans {a b c : Modes} (h1 : ModesOk a b) (h2 : ModesOk b c) : ModesOk a c :=
  ⟨h2.font.trans h1.font, h2.g0.trans h1.g0, h2.so.trans h1.so, h2.irm.trans h1.irm, h2.am.trans h1.am⟩

theorem good_of_eq {rw} {t t' : Term} (g : Good rw t) (h1 : t'.st = t.st) (h2 : t'.cfg = t.cfg)
    (h3 : ModesOk t.modes t'.modes) (h4 : t'.malformed = t.malformed) : Good rw t' :=
  { st := h1.trans g.st, utf8 := by rw [h2]; exact g.utf8, font := h3.font.trans g.font, g0 := h3.g0.trans g.g0,
    so := h3.so.trans g.so, irm := h3.irm.trans g.irm, mal := h4.trans g.mal, rw := by rw [h2]; exact g.rw }

/-- requirements on the rune-width function beyond `RwOk`: printable ASCII is narrow; a rune with a non-zero
    width is a Unicode scalar value that is not DEL or a C1 control.  (`Props.C01B.rwClip_ok`: the regenerated
    go-runewidth table, restricted to Go's `rune` range, satisfies them.) -/
structure RwB (rw : Int → Int) : Prop where
  ascii : ∀ b : Int, 32 ≤ b → b < 127 → rw b = 1
  scalar : ∀ r, rw r ≠ 0 → Utf8.validRune r = true ∧ ¬ (127 ≤ r ∧ r ≤ 159)
  nonneg : ∀ r, 0 ≤ rw r
  le2 : ∀ r, rw r ≤ 2

/-- a combining rune the property admits: zero width, a scalar value, not a control -/
def CombOk (rw : Int → Int) (c : Int) : Prop := rw c = 0 ∧ Utf8.validRune c = true ∧ 160 ≤ c

theorem get_cont_inrange (g : Grid) (x y : Nat) (h : (g.get x y).cont = true) : x < g.w ∧ y < g.h := by
  by_cases hin : x < g.w ∧ y < g.h
  · exact hin
  · rw [Grid.get_out g x y hin] at h; simp at h

theorem get_clobber (g : Grid) (s x y i j : Nat) :
    (g.clobber s x y).get i j =
      if j = y ∧ i + 1 = x ∧ (g.get x y).cont = true then Grid.halfBlank (g.get i j) s
      else if j = y ∧ i = x + 1 ∧ (g.get (x + 1) y).cont = true then Grid.halfBlank (g.get i j) s
      else g.get i j := by
  unfold Grid.clobber
  simp only []
  -- the grid after the first `set` (or none)
  generalize hg1 : (if (g.get x y).cont = true ∧ 0 < x then g.set (x - 1) y (Grid.halfBlank (g.get (x - 1) y) s) else g) = g1
  have e1 : ∀ i j, g1.get i j =
      if j = y ∧ i + 1 = x ∧ (g.get x y).cont = true then Grid.halfBlank (g.get i j) s else g.get i j := fun i j => by
    rw [← hg1]
    split
    · rename_i h
      have := get_cont_inrange g x y h.1
      rw [Grid.get_set]
      split
      · rename_i h'; rw [if_pos ⟨h'.2.1, by omega, h.1⟩, h'.1, h'.2.1]
      · rename_i h'; rw [if_neg (fun e => h' ⟨by omega, e.1, by omega, this.2⟩)]
    · rename_i h; rw [if_neg (fun e => h ⟨e.2.2, by omega⟩)]
  have ew : g1.w = g.w ∧ g1.h = g.h := by rw [← hg1]; split <;> simp
  have e2 : g1.get (x + 1) y = g.get (x + 1) y := by rw [e1]; exact if_neg (fun e => absurd e.2.1 (by omega))
  rw [e2]
  split
  · rename_i h1
    have := get_cont_inrange g (x + 1) y h1
    rw [Grid.get_set, ew.1, ew.2, e1 i j]
    by_cases hB : j = y ∧ i = x + 1
    · obtain ⟨rfl, rfl⟩ := hB
      rw [if_pos ⟨rfl, rfl, this⟩, if_neg (fun e => absurd e.2.1 (by omega)), if_pos ⟨rfl, rfl, h1⟩]
    · rw [if_neg (show ¬ (i = x + 1 ∧ j = y ∧ x + 1 < g.w ∧ y < g.h) from fun e => hB ⟨e.2.1, e.1⟩),
        if_neg (show ¬ (j = y ∧ i = x + 1 ∧ (g.get (x + 1) y).cont = true) from fun e => hB ⟨e.1, e.2.1⟩)]
  · rename_i h1
    rw [e1 i j, if_neg (show ¬ (j = y ∧ i = x + 1 ∧ (g.get (x + 1) y).cont = true) from fun e => h1 e.2.2)]

/-- ICH of one character in the last-but-one column with no wide glyph around: the cell under the cursor moves into the
    last column, a blank takes its place -/
theorem insertBlanks_corner (g : Grid) (blank : GCell) (s cx cy : Nat) (hw : cx + 2 = g.w)
    (h0 : (g.get cx cy).cont = false) (h1 : (g.get (cx + 1) cy).cont = false) :
    (g.insertBlanks blank s cx cy 1).w = g.w ∧ (g.insertBlanks blank s cx cy 1).h = g.h ∧
    ∀ i j, (g.insertBlanks blank s cx cy 1).get i j =
      if i < g.w ∧ j < g.h then
        if j = cy ∧ i = cx then blank else if j = cy ∧ i = cx + 1 then Grid.touch (g.get cx cy) s else g.get i j
      else {} := by
  have hlast : g.w - 1 = cx + 1 := by omega
  simp only [Grid.insertBlanks, h0, hlast, h1, Bool.false_eq_true, if_false, false_and]
  refine ⟨rfl, rfl, fun i j => ?_⟩
  split
  · rename_i h
    rw [Grid.get_build _ _ _ _ _ h.1 h.2]
    by_cases e : j = cy ∧ i = cx
    · simp [e]
    · by_cases e' : j = cy ∧ i = cx + 1
      · simp [e']
      · rw [if_neg e, if_neg e']
        split
        · rename_i h'; exact absurd ⟨h'.1, by omega⟩ e
        · rfl
  · rename_i h; exact Grid.get_out _ _ _ (by simpa using h)

/-- everything but the grid contents, the cursor and `last` is the same -/
structure Same (t t' : Term) : Prop where
  st : t'.st = t.st
  cfg : t'.cfg = t.cfg
  modes : t'.modes = t.modes
  pen : t'.pen = t.pen
  penKnown : t'.penKnown = t.penKnown
  linkKnown : t'.linkKnown = t.linkKnown
  cursorKnown : t'.cursorKnown = t.cursorKnown
  mal : t'.malformed = t.malformed
  blocks : t'.blocks = t.blocks
  w : t'.grid.w = t.grid.w
  h : t'.grid.h = t.grid.h

theorem Same.refl (t : Term) : Same t t := ⟨rfl, rfl, rfl, rfl, rfl, rfl, rfl, rfl, rfl, rfl, rfl⟩
theorem Same.trans {a b c : Term} (h1 : Same a b) (h2 : Same b c) : Same a c :=
  ⟨h2.st.trans h1.st, h2.cfg.trans h1.cfg, h2.modes.trans h1.modes, h2.pen.trans h1.pen, h2.penKnown.trans h1.penKnown,
   h2.linkKnown.trans h1.linkKnown, h2.cursorKnown.trans h1.cursorKnown, h2.mal.trans h1.mal, h2.blocks.trans h1.blocks,
   h2.w.trans h1.w, h2.h.trans h1.h⟩

theorem Good.of_same {rw} {t t' : Term} (g : Good rw t) (s : Same t t') : Good rw t' :=
  good_of_eq g s.st s.cfg (s.modes ▸ .refl _) s.mal

theorem widthOf_eq {rw} {t : Term} (g : Good rw t) (cp : Int) :
    t.widthOf cp = if rw cp ≤ 0 then 0 else if rw cp = 1 then 1 else 2 := by
  simp [widthOf, g.utf8, g.rw]

theorem feed_encode {rw} {t : Term} (g : Good rw t) (m : Int) (hv : Utf8.validRune m = true) (h32 : 32 ≤ m)
    (hc : ¬ (127 ≤ m ∧ m ≤ 159)) : t.feed (Utf8.encode m) = t.putGlyph m (t.widthOf m) := by
  simp only [Utf8.validRune, decide_eq_true_eq] at hv
  have hm : m = ((m.toNat : Nat) : Int) := by omega
  unfold Utf8.encode
  rw [if_pos (by simp [Utf8.validRune]; omega)]
  generalize m.toNat = n at hm
  subst hm
  by_cases hlo : n < 0x80
  · have e : Utf8.encodeNat n = [n] := by simp [Utf8.encodeNat, hlo]
    rw [e, feed_cons, feed_nil, feedByte_ascii t n g.st (by omega) g.font (by simp [acsActive, g.so, g.g0])]
  · have e : Utf8.encodeNat n = utf8Enc n := by simp [Utf8.encodeNat, utf8Enc, hlo]
    rw [e, feed_utf8Enc t g.st g.utf8 n (by omega) (by omega) (by omega)]
    have : ¬ n < 0xA0 := by omega
    simp [printCp, this]

/-- the emulator `t'` after a glyph of `wd` columns (1 or 2) with runes `rs` was printed at the cursor of `t`, cell by cell:
    the cell under the cursor, its continuation cell, and the halves of wide glyphs that lost their other half -/
structure Printed (t t' : Term) (wd : Nat) (rs : List Int) : Prop where
  same : Same t t'
  cy : t'.cy = t.cy
  cx : t'.cx = if t.cx + wd < t.grid.w then t.cx + wd else t.cx + wd - 1
  pw : t'.pendingWrap = if t.cx + wd < t.grid.w then false else t.modes.autoMargin
  glyph : (t'.grid.get t.cx t.cy).runes = rs ∧ (t'.grid.get t.cx t.cy).pen = t.pen ∧
    (t'.grid.get t.cx t.cy).cont = false ∧ (t'.grid.get t.cx t.cy).garbage = !(t.penKnown && t.linkKnown)
  right : wd = 2 → (t'.grid.get (t.cx + 1) t.cy).cont = true ∧ (t'.grid.get (t.cx + 1) t.cy).garbage = !(t.penKnown && t.linkKnown)
  other : ∀ i j, ¬ (j = t.cy ∧ t.cx ≤ i ∧ i < t.cx + wd) → t'.grid.get i j =
    if j = t.cy ∧ i + 1 = t.cx ∧ (t.grid.get t.cx t.cy).cont = true then Grid.halfBlank (t.grid.get i j) t.blocks
    else if j = t.cy ∧ i = t.cx + wd ∧ (t.grid.get (t.cx + wd) t.cy).cont = true then Grid.halfBlank (t.grid.get i j) t.blocks
    else t.grid.get i j

theorem Printed.marks {rw} {t : Term} {wd : Nat} (g : Good rw t) (hk : t.cursorKnown = true)
    (hx : t.cx < t.grid.w) (hy : t.cy < t.grid.h) (hwd : 0 < wd) (comb : List Int) (hcomb : ∀ c ∈ comb, CombOk rw c) :
    ∀ (t1 : Term) (rs : List Int), Printed t t1 wd rs → rs ≠ [] → t1.last = some (t.cx, t.cy, t1.cx, t1.cy, t1.pendingWrap) →
      Printed t (t1.feed (comb.flatMap Utf8.encode)) wd (rs ++ comb) := by
  induction comb with
  | nil => intro t1 rs P _ _; simpa using P
  | cons c cs ih =>
    intro t1 rs P hne hl
    have hcc := hcomb c (by simp)
    have g1 := g.of_same P.same
    have e1 : t1.feed (Utf8.encode c) = t1.addMark t.cx t.cy c := by
      rw [feed_encode g1 c hcc.2.1 (by have := hcc.2.2; omega) (by have := hcc.2.2; omega), widthOf_eq g1, hcc.1]
      simp [putGlyph, putCombining, P.same.cursorKnown, hk, hl]
    have hr : (t1.grid.get t.cx t.cy).runes.isEmpty = false := by rw [P.glyph.1]; cases rs <;> simp_all
    have hget : ∀ i j, (t1.addMark t.cx t.cy c).grid.get i j =
        if i = t.cx ∧ j = t.cy then { t1.grid.get t.cx t.cy with runes := (t1.grid.get t.cx t.cy).runes ++ [c], stamp := t1.blocks }
        else t1.grid.get i j := fun i j => by
      simp only [addMark, hr, Bool.false_eq_true, if_false, Grid.get_set, P.same.w, P.same.h, hx, hy, and_true]
    rw [List.flatMap_cons, ← feed_append, e1, show rs ++ c :: cs = (rs ++ [c]) ++ cs by simp]
    refine ih (fun c' h' => hcomb c' (by simp [h'])) _ _ ?_ (by simp) hl
    exact {
      same := P.same.trans ⟨rfl, rfl, rfl, rfl, rfl, rfl, rfl, rfl, rfl, by simp [addMark], by simp [addMark]⟩
      cy := P.cy, cx := P.cx, pw := P.pw
      glyph := by rw [hget, if_pos ⟨rfl, rfl⟩]; exact ⟨by rw [P.glyph.1], P.glyph.2.1, P.glyph.2.2.1, P.glyph.2.2.2⟩
      right := fun h => by rw [hget, if_neg (by omega)]; exact P.right h
      other := fun i j h => by rw [hget, if_neg (fun e => h ⟨e.2, by omega, by omega⟩)]; exact P.other i j h }

theorem printed_narrow {rw} {t : Term} (g : Good rw t) (m : Int) (hk : t.cursorKnown = true) (hpw : t.pendingWrap = false)
    (hx : t.cx < t.grid.w) (hy : t.cy < t.grid.h) :
    Printed t (t.putNarrow m) 1 [m] ∧
      (t.putNarrow m).last = some (t.cx, t.cy, (t.putNarrow m).cx, (t.putNarrow m).cy, (t.putNarrow m).pendingWrap) := by
  rw [putNarrow_eq t m hk hpw g.irm]
  refine ⟨⟨⟨rfl, rfl, rfl, rfl, rfl, rfl, rfl, rfl, rfl, by simp, by simp⟩, rfl, by simp only []; split <;> omega, rfl, ?_,
    fun h => by omega, fun i j h => ?_⟩, rfl⟩
  · simp [Grid.get_set, hx, hy, glyphCell]
  · simp only []
    rw [Grid.get_set_other _ _ _ _ _ _ (fun e => h ⟨e.2, by omega, by omega⟩), get_clobber]

theorem printed_wide {rw} {t : Term} (g : Good rw t) (m : Int) (hk : t.cursorKnown = true) (hpw : t.pendingWrap = false)
    (hx : t.cx + 2 ≤ t.grid.w) (hy : t.cy < t.grid.h) :
    Printed t (t.putWide m) 2 [m] ∧
      (t.putWide m).last = some (t.cx, t.cy, (t.putWide m).cx, (t.putWide m).cy, (t.putWide m).pendingWrap) := by
  rw [putWide_eq t m hk hpw g.irm hx]
  -- the grid after the first `clobber` / `set`, as the second `clobber` sees it
  generalize hG : (t.grid.clobber t.blocks t.cx t.cy).set t.cx t.cy (t.glyphCell m) = G1
  have e1 : ∀ i j, ¬ (i = t.cx ∧ j = t.cy) → G1.get i j =
      if j = t.cy ∧ i + 1 = t.cx ∧ (t.grid.get t.cx t.cy).cont = true then Grid.halfBlank (t.grid.get i j) t.blocks
      else if j = t.cy ∧ i = t.cx + 1 ∧ (t.grid.get (t.cx + 1) t.cy).cont = true then Grid.halfBlank (t.grid.get i j) t.blocks
      else t.grid.get i j := fun i j h => by rw [← hG, Grid.get_set_other _ _ _ _ _ _ h, get_clobber]
  have c1 : (G1.get (t.cx + 1) t.cy).cont = false := by
    rw [e1 _ _ (by omega), if_neg (by omega)]
    by_cases h : (t.grid.get (t.cx + 1) t.cy).cont = true
    · rw [if_pos ⟨rfl, rfl, h⟩]; rfl
    · rw [if_neg (fun e => h e.2.2)]; simpa using h
  have c2 : G1.get (t.cx + 1 + 1) t.cy = t.grid.get (t.cx + 2) t.cy := by
    rw [e1 _ _ (by omega), if_neg (by omega), if_neg (by omega)]
  have hw : G1.w = t.grid.w ∧ G1.h = t.grid.h := by rw [← hG]; simp
  refine ⟨⟨⟨rfl, rfl, rfl, rfl, rfl, rfl, rfl, rfl, rfl, by simp [hw.1], by simp [hw.2]⟩, rfl, by simp only []; split <;> omega,
    rfl, ?_, fun _ => ?_, fun i j h => ?_⟩, rfl⟩
  · simp only []
    rw [Grid.get_set_other _ _ _ _ _ _ (by omega), get_clobber, if_neg (by simp [c1]), if_neg (by omega), ← hG]
    simp [Grid.get_set, hy, show t.cx < t.grid.w by omega, glyphCell]
  · simp [Grid.get_set, hy, hw, show t.cx + 1 < t.grid.w by omega, glyphCell]
  · have hij : ¬ (i = t.cx ∧ j = t.cy) := fun e => h ⟨e.2, by omega, by omega⟩
    have hij1 : ¬ (i = t.cx + 1 ∧ j = t.cy) := fun e => h ⟨e.2, by omega, by omega⟩
    simp only []
    rw [Grid.get_set_other _ _ _ _ _ _ hij1, get_clobber, if_neg (by simp [c1]), c2, e1 i j hij]
    have n1 : ¬ (j = t.cy ∧ i = t.cx + 1 ∧ (t.grid.get (t.cx + 1) t.cy).cont = true) := fun e => hij1 ⟨e.2.1, e.1⟩
    simp only [n1, if_false]
    by_cases hA : j = t.cy ∧ i = t.cx + 2
    · obtain ⟨rfl, rfl⟩ := hA
      have n2 : ¬ (t.cx + 2 + 1 = t.cx ∧ (t.grid.get t.cx t.cy).cont = true) := by omega
      simp only [true_and, n2, if_false]
    · have n3 : ¬ (j = t.cy ∧ i = t.cx + 1 + 1 ∧ (t.grid.get (t.cx + 2) t.cy).cont = true) := fun e => hA ⟨e.1, e.2.1⟩
      simp only [n3, if_false]

theorem feed_payload {rw} {t : Term} (g : Good rw t) (m : Int) (comb : List Int) (wd : Nat)
    (hv : Utf8.validRune m = true) (h32 : 32 ≤ m) (hc : ¬ (127 ≤ m ∧ m ≤ 159)) (hw : rw m = wd) (hwd : wd = 1 ∨ wd = 2)
    (hcomb : ∀ c ∈ comb, CombOk rw c)
    (hk : t.cursorKnown = true) (hpw : t.pendingWrap = false) (hx : t.cx + wd ≤ t.grid.w) (hy : t.cy < t.grid.h) :
    Printed t (t.feed (Utf8.encode m ++ comb.flatMap Utf8.encode)) wd (m :: comb) := by
  rw [← feed_append, feed_encode g m hv h32 hc, widthOf_eq g, hw]
  rcases hwd with rfl | rfl
  · obtain ⟨P, hl⟩ := printed_narrow g m hk hpw (by omega) hy
    exact Printed.marks g hk (by omega) hy (by omega) comb hcomb _ _ P (by simp) hl
  · obtain ⟨P, hl⟩ := printed_wide g m hk hpw hx hy
    exact Printed.marks g hk (by omega) hy (by omega) comb hcomb _ _ P (by simp) hl

end Tcell.LayerB
