/-
Layer B of C01/C13/C09, library side: every command list the draw path emits, in any state reachable
through the screen operations, is admissible for the byte-level simulation (`AdmitAll`): cursor addresses are
non-negative Go ints, every payload is the UTF-8 of a printable scalar value of the right table width followed by
admissible combining runes, is printed at a known in-grid cursor position with a known pen, and fits in its row; the
`ich1` of the bottom-right corner trick (`corner_step`) is issued with the cursor in the last-but-one column on the narrow glyph
just written there (`AdmitIch`), on a screen of at least two columns.
No assumption about the display's contents is needed (so this also covers draws onto a corrupted display).
`paint_admits` and `trick_admits` (painting a cell, the first half of the trick, on the abstract terminal) serve both branches of
drawCell and `corner_trick_bytes` (`Lemmas/LayerBCorner.lean`).
-/
import Tcell.Lemmas.LayerBCmd
import Tcell.Lemmas.World
namespace Tcell.LayerB
open Tcell Tcell.Buf

/-! ## extra buffer invariant: combining runes and styles stay inside the domain of the statement -/

def CellB (rw : Rune → Int) (c : Cell) : Prop := (∀ k ∈ c.currComb, CombOk rw k) ∧ c.currStyle.url = ""
def BufB (rw : Rune → Int) (b : Buf) : Prop := ∀ i j, CellB rw (b.cells i j)

theorem cellB_closed (rw) : Cell.Closed (CellB rw) :=
  ⟨⟨nofun, rfl⟩, fun _ h => h, fun _ h => h, fun _ h => h, fun _ _ h => h⟩

theorem CellB.of_markRel {rw} {o n : Cell} (h : CellB rw o) (r : MarkRel o n) : CellB rw n := by
  unfold CellB; rw [r.1, r.2.1]; exact h

/-- every buffer operation keeps `BufB`, if what it writes does (`Buf.applyV_cells`) -/
theorem BufB.applyV {rw} {b : Buf} (h : BufB rw b) (fz : Bool) (op : CbOp) (hw : ∀ c, CellB rw c → CellB rw (op.write fz rw c)) :
    BufB rw (b.applyV fz rw op) :=
  applyV_cells (cellB_closed rw) fz rw b op hw h

theorem BufB.setDirty {rw} {b : Buf} (h : BufB rw b) (x y : Int) (v : Bool) : BufB rw (b.setDirty x y v) :=
  h.applyV false (.setDirty x y v) fun _ h => h

theorem BufB.setContent {rw} {b : Buf} (h : BufB rw b) (x y : Int) (m : Rune) (comb : List Rune) (st : Style)
    (hc : ∀ k ∈ comb, CombOk rw k) (hs : st.url = "") : BufB rw (b.setContent rw x y m comb st) :=
  h.applyV false (.setContent x y m comb st) fun _ _ => ⟨hc, hs⟩

theorem BufB.fillV {rw} {b : Buf} (h : BufB rw b) (fz : Bool) (r : Rune) (st : Style) (hs : st.url = "") :
    BufB rw (b.fillV fz rw r st) :=
  h.applyV fz (.fill r st) fun _ _ => ⟨nofun, hs⟩

theorem BufB.resize {rw} {b : Buf} (h : BufB rw b) (w' h' : Int) : BufB rw (b.resize w' h') :=
  h.applyV false (.resize w' h') fun _ h => h

theorem BufB.invalidate {rw} {b : Buf} (h : BufB rw b) : BufB rw b.invalidate :=
  h.applyV false .invalidate fun _ h => h

theorem bufB_lockSteps (rw) (lock : Bool) : LockSteps lock (BufB rw) :=
  ⟨fun _ _ x y h => h.applyV false (.lockCell x y) fun _ h => h, fun _ _ x y h => h.applyV false (.unlockCell x y) fun _ h => h,
    fun _ _ x y h => h.setDirty x y true⟩

/-- what Layer B needs of the screen state beyond Layer A's buffer invariant -/
structure BInv (c : DrawCfg) (s : Scr) : Prop where
  buf : BufB c.rw s.cells
  style : s.style.url = ""
  size : 0 ≤ s.w ∧ 0 ≤ s.h ∧ s.w + 1 < TParm.maxInt64 ∧ s.h + 1 < TParm.maxInt64
  ccol : Color.valid s.cursorColor = false ∧ s.cursorColor ≠ colorReset

theorem BInv.of_rel {c : DrawCfg} {s s' : Scr} (h : BInv c s) (r : ScrRel s s') : BInv c s' :=
  { buf := fun i j => (h.buf i j).of_markRel (r.cells i j), style := by rw [r.style]; exact h.style,
    size := by rw [r.w, r.h]; exact h.size, ccol := by rw [r.cursor.2.2.2]; exact h.ccol }

/-! ## the invariant of a draw pass, as far as admissibility is concerned -/

structure AInv (c : DrawCfg) (s : Scr) (t : ATerm) : Prop where
  tw : t.w = s.w
  th : t.h = s.h
  buf : BufOkS c s
  kcur : s.cells.inRange s.cx s.cy → t.cur = some (s.cx, s.cy)
  kpen : s.curstyle ≠ styleInvalid → t.pen = some s.curstyle
  ext : BInv c s
  /-- a screen on which the bottom-right corner trick is used has at least two columns (part of `CornerSafe`) -/
  w2 : c.cornerTrick = true → 2 ≤ s.w

/-- what a draw needs to be admissible: sizes agree, the buffer invariants, at least two columns where the bottom-right corner
    trick is in use (part of Layer A's `CornerSafe`) — nothing about the display -/
structure PreA (c : DrawCfg) (s : Scr) (t : ATerm) : Prop where
  tw : t.w = s.w
  th : t.h = s.h
  buf : BufOkS c s
  ext : BInv c s
  w2 : c.cornerTrick = true → 2 ≤ s.w

theorem AInv.pre {c : DrawCfg} {s : Scr} {t : ATerm} (inv : AInv c s t) : PreA c s t := { inv with }

/-- draw-path steps (`ScrRel`) and commands (which keep the terminal's size) keep `PreA`; the two caches are the step's business -/
theorem PreA.ainv {c : DrawCfg} (hrw : RwOk c.rw) {s s' : Scr} {t t' : ATerm} (pre : PreA c s t) (r : ScrRel s s')
    (hw : t'.w = t.w) (hh : t'.h = t.h) (kcur : s'.cells.inRange s'.cx s'.cy → t'.cur = some (s'.cx, s'.cy))
    (kpen : s'.curstyle ≠ styleInvalid → t'.pen = some s'.curstyle) : AInv c s' t' :=
  { tw := by rw [hw, pre.tw, r.w], th := by rw [hh, pre.th, r.h], buf := pre.buf.of_rel hrw r, kcur := kcur, kpen := kpen,
    ext := pre.ext.of_rel r, w2 := by rw [r.w]; exact pre.w2 }

/-- the payload function of a UTF-8 locale -/
def Utf8Payload (c : DrawCfg) : Prop := ∀ m comb, c.payload m comb = Utf8.encode m ++ comb.flatMap Utf8.encode

theorem encode_63 (m : Int) (r : List Nat) (h : Utf8.encode m ++ r = [63]) : m = 63 := by
  unfold Utf8.encode at h
  split at h
  · rename_i hv
    simp only [Utf8.validRune, decide_eq_true_eq] at hv
    unfold Utf8.encodeNat at h
    split at h
    · simp at h; omega
    · split at h
      · simp at h
      · split at h <;> simp at h
  · simp at h

theorem payloadOk_blank {rw : Int → Int} (hrb : RwB rw) : PayloadOk rw [32] 1 :=
  ⟨32, [], by decide, by decide, by decide, by decide, hrb.ascii 32 (by decide) (by decide), Or.inl rfl, nofun⟩

theorem obsMain_ok {rw : Int → Int} (hrb : RwB rw) (cm : Rune) :
    Utf8.validRune (obsMain rw cm) = true ∧ 32 ≤ obsMain rw cm ∧ ¬ (127 ≤ obsMain rw cm ∧ obsMain rw cm ≤ 159) ∧
      rw (obsMain rw cm) = obsWidth rw cm := by
  by_cases h : rw cm = 0 ∨ cm < 32
  · simp only [obsMain, obsWidth, if_pos h]
    exact ⟨by decide, by decide, by decide, hrb.ascii 32 (by decide) (by decide)⟩
  · simp only [obsMain, obsWidth, if_neg h]
    have := hrb.scalar cm fun e => h (.inl e)
    exact ⟨this.1, Int.not_lt.mp fun h' => h (.inr h'), this.2, trivial⟩

theorem payloadOk_cellText {c : DrawCfg} (hrw : RwOk c.rw) (hrb : RwB c.rw) (hp : Utf8Payload c) (w x : Int) (cm : Rune)
    (comb : List Rune) (hc : ∀ k ∈ comb, CombOk c.rw k) :
    let tx := Scr.cellText c w x (obsMain c.rw cm) comb (obsWidth c.rw cm)
    PayloadOk c.rw tx.1 tx.2 ∧ (x < w → x + tx.2 ≤ w) := by
  have hwd := obsWidth_pos hrw cm
  have hm := obsMain_ok hrb cm
  simp only [Scr.cellText, if_neg (show ¬ obsWidth c.rw cm < 1 by omega), show ∀ m comb, c.payload m comb = _ from hp]
  split
  · exact ⟨payloadOk_blank hrb, fun h => by omega⟩
  · -- a wide `?` would be padded; `?` is narrow
    have hne : ¬ (obsWidth c.rw cm > 1 ∧ Utf8.encode (obsMain c.rw cm) ++ comb.flatMap Utf8.encode = [63]) := fun h => by
      have := hrb.ascii 63 (by decide) (by decide)
      rw [encode_63 _ _ h.2] at hm; omega
    rw [if_neg hne]
    exact ⟨⟨obsMain c.rw cm, comb, rfl, hm.1, hm.2.1, hm.2.2.1, hm.2.2.2, by omega, hc⟩, fun _ => by simp only; omega⟩

theorem payloadOk_cellTextG {c : DrawCfg} (hrw : RwOk c.rw) (hrb : RwB c.rw) (hp : Utf8Payload c) (w x : Int) (cm : Rune)
    (comb : List Rune) (hc : ∀ k ∈ comb, CombOk c.rw k) (nl : Bool) :
    let tx := Scr.cellTextG c w x (obsMain c.rw cm) comb (obsWidth c.rw cm) nl
    PayloadOk c.rw tx.1 tx.2 ∧ (x < w → x + tx.2 ≤ w) := by
  simp only [Scr.cellTextG]
  split
  · exact ⟨payloadOk_blank hrb, fun h => by simp only; omega⟩
  · exact payloadOk_cellText hrw hrb hp w x cm comb hc

theorem apply_goto_in (t : ATerm) (x y : Int) (h : t.inGrid x y) : t.apply (.goto x y) = { t with cur := some (x, y) } := by
  obtain ⟨h0, h1, h2, h3⟩ := h
  simp only [ATerm.apply, ATerm.clampX, ATerm.clampY, if_neg (Int.not_lt.mpr h0), if_neg (Int.not_le.mpr h1),
    if_neg (Int.not_lt.mpr h2), if_neg (Int.not_le.mpr h3), ge_iff_le]

theorem apply_insertChar_in (t : ATerm) (x y : Int) (hc : t.cur = some (x, y)) (h : t.inGrid x y) :
    t.apply .insertChar = t.insertAt x y := by
  simp only [ATerm.apply, hc, if_pos h]

/-- the commands `l` are admissible from `t` on, and lead to `t'` -/
def Runs (c : DrawCfg) (t : ATerm) (l : List Cmd) (t' : ATerm) : Prop := AdmitAll c t l ∧ t.applyAll l = t'

theorem Runs.nil {c : DrawCfg} {t : ATerm} : Runs c t [] t := ⟨trivial, rfl⟩

theorem Runs.one {c : DrawCfg} {t : ATerm} {cmd : Cmd} (h : Admit c t cmd) : Runs c t [cmd] (t.apply cmd) := ⟨⟨h, trivial⟩, rfl⟩

theorem Runs.append {c : DrawCfg} {t t1 t2 : ATerm} {l1 l2 : List Cmd} (h1 : Runs c t l1 t1) (h2 : Runs c t1 l2 t2) :
    Runs c t (l1 ++ l2) t2 := by
  obtain ⟨a1, rfl⟩ := h1; obtain ⟨a2, rfl⟩ := h2
  exact ⟨(admitAll_append ..).2 ⟨a1, a2⟩, applyAll_append ..⟩

theorem Runs.goto {c : DrawCfg} {t : ATerm} {x y : Int} (hin : t.inGrid x y) (hmax : x + 1 < TParm.maxInt64 ∧ y + 1 < TParm.maxInt64) :
    Runs c t [.goto x y] { t with cur := some (x, y) } :=
  apply_goto_in t x y hin ▸ .one ⟨hin.1, hin.2.2.1, hmax⟩

/-- painting a cell: the cursor address unless the cursor is known to be there (`gt`), the pen unless it is known to be set (`pn`), the
payload.  At an in-grid cell in which the glyph fits the three are admissible and print the glyph. -/
theorem paint_admits {c : DrawCfg} {t : ATerm} {x y w : Int} {st : Style} {bytes : List Nat} (gt pn : Prop) [Decidable gt] [Decidable pn]
    (hin : t.inGrid x y) (hmax : x + 1 < TParm.maxInt64 ∧ y + 1 < TParm.maxInt64) (hs : StyleOk st)
    (hg : ¬ gt → t.cur = some (x, y)) (hp : ¬ pn → t.pen = some st) (hpay : PayloadOk c.rw bytes w) (hfit : x + w ≤ t.w) :
    Runs c t ((if gt then [Cmd.goto x y] else []) ++ ((if pn then [Cmd.setPen st] else []) ++ [.put bytes w]))
      (({ t with cur := some (x, y), pen := some st } : ATerm).putAt x y bytes w st) := by
  have g1 : Runs c t (if gt then [Cmd.goto x y] else []) { t with cur := some (x, y) } := by
    split
    · exact .goto hin hmax
    · rename_i h; rw [← hg h]; exact .nil
  have g2 : Runs c { t with cur := some (x, y) } (if pn then [Cmd.setPen st] else []) { t with cur := some (x, y), pen := some st } := by
    split
    · exact .one hs
    · rename_i h; rw [← hp h]; exact .nil
  have g3 := Runs.one (c := c) (t := { t with cur := some (x, y), pen := some st }) (cmd := .put bytes w)
    ⟨x, y, st, rfl, rfl, hin, hfit, hpay⟩
  simp only [ATerm.apply, if_pos (show ({ t with cur := some (x, y), pen := some st } : ATerm).inGrid x y from hin)] at g3
  exact g1.append (g2.append g3)

/-- the first half of the corner trick on the abstract terminal: the cursor address, the pen, the glyph — one column wide, in the
last-but-one column —, the cursor address again.  All admissible, and they leave the terminal in the situation `AdmitIch`, the cursor
on the glyph. -/
theorem trick_admits {c : DrawCfg} {t : ATerm} {x y : Int} {st : Style} {bytes : List Nat} (pn : Prop) [Decidable pn]
    (hin : t.inGrid x y) (hw : x + 2 = t.w) (hmax : x + 1 < TParm.maxInt64 ∧ y + 1 < TParm.maxInt64) (hs : StyleOk st)
    (hp : ¬ pn → t.pen = some st) (hpay : PayloadOk c.rw bytes 1) :
    ∃ t', Runs c t (Cmd.goto x y :: ((if pn then [Cmd.setPen st] else []) ++ [.put bytes 1, .goto x y])) t' ∧ AdmitIch t' ∧
      t'.w = t.w ∧ t'.h = t.h ∧ t'.cur = some (x, y) ∧ t'.pen = some st ∧ t'.grid x y = .shown bytes false st := by
  have run := paint_admits (c := c) True pn hin hmax hs (fun h => absurd trivial h) hp hpay (by omega)
  generalize ht1 : ({ t with cur := some (x, y), pen := some st } : ATerm) = t1 at run
  have hw1 : t1.w = t.w := by rw [← ht1]
  have hh1 : t1.h = t.h := by rw [← ht1]
  have hin' : (t1.putAt x y bytes 1 st).inGrid x y := by simpa [ATerm.inGrid, hw1, hh1] using hin
  have g0 : (t1.putAt x y bytes 1 st).grid x y = .shown bytes false st := by rw [ATerm.putAt_grid]; simp
  have g1 : (t1.putAt x y bytes 1 st).grid (x + 1) y ≠ .cont := by
    rw [ATerm.putAt_grid, if_neg (by omega), if_neg (by omega), if_neg (by omega)]
    split
    · exact ACell.noConfusion
    · rename_i h; rw [if_neg (by omega)]; exact fun hc => h ⟨rfl, rfl, Int.le_refl 1, hc⟩
  refine ⟨{ t1.putAt x y bytes 1 st with cur := some (x, y) }, ?_, ⟨x, y, bytes, st, rfl, hin', g0, g1, by simpa [hw1] using hw⟩,
    by simp [hw1], by simp [hh1], rfl, by simp [← ht1], g0⟩
  simpa using run.append (.goto hin' hmax)

/-- what one drawCell leaves for the next: its commands are admissible, and where its cursor and style caches claim something the
abstract terminal agrees -/
def CellStep (c : DrawCfg) (s : Scr) (t : ATerm) (r : Scr × List Cmd × Int) : Prop :=
  AdmitAll c t r.2.1 ∧ (s.cells.inRange r.1.cx r.1.cy → (t.applyAll r.2.1).cur = some (r.1.cx, r.1.cy)) ∧
    (r.1.curstyle ≠ styleInvalid → (t.applyAll r.2.1).pen = some r.1.curstyle) ∧ 1 ≤ r.2.2

theorem glyph_ok {c : DrawCfg} (hrw : RwOk c.rw) (hrb : RwB c.rw) (hp : Utf8Payload c) {s : Scr} {t : ATerm} {x y : Int}
    (inv : AInv c s t) (hr : s.cells.inRange x y) :
    PayloadOk c.rw (s.txAt c x y).1 (s.txAt c x y).2 ∧ (x < s.w → x + (s.txAt c x y).2 ≤ s.w) ∧
      StyleOk (resolveStyle s.style (s.cells.getContent x y).2.2.1) ∧
      resolveStyle s.style (s.cells.getContent x y).2.2.1 ≠ styleInvalid := by
  have hgc := getContent_wok hrw s.cells x y hr (inv.buf.wok x y)
  simp only [Scr.txAt, hgc]
  refine ⟨(payloadOk_cellTextG hrw hrb hp s.w x _ _ (inv.ext.buf x y).1 _).1,
    (payloadOk_cellTextG hrw hrb hp s.w x _ _ (inv.ext.buf x y).1 _).2, ?_, resolveStyle_valid _ _ inv.buf.valid.1 (inv.buf.valid.2 x y)⟩
  unfold resolveStyle; split
  · exact inv.ext.style
  · exact (inv.ext.buf x y).2

/-- the cached pen is the terminal's, so drawCell's test whether to set the pen is sound -/
theorem AInv.pen_cached {c : DrawCfg} {s : Scr} {t : ATerm} (inv : AInv c s t) {st : Style} (hv : st ≠ styleInvalid) :
    ¬ st ≠ s.curstyle → t.pen = some st := fun h => by
  have e : st = s.curstyle := Decidable.not_not.mp h
  rw [e]; exact inv.kpen (e ▸ hv)

theorem plain_step {c : DrawCfg} (hrw : RwOk c.rw) (hrb : RwB c.rw) (hp : Utf8Payload c)
    {s : Scr} {t : ATerm} {x y : Int} (inv : AInv c s t) (hr : s.cells.inRange x y) : CellStep c s t (s.drawCellPlain c x y) := by
  cases hd : s.cells.dirty x y
  · rw [Scr.drawCellPlain_clean c s x y hd]
    refine ⟨trivial, inv.kcur, inv.kpen, ?_⟩
    have hgc := getContent_wok hrw s.cells x y hr (inv.buf.wok x y)
    have := (obsWidth_pos hrw (s.cells.cells x y).currMain).1
    rcases retWidth_cases c s x y with h | h
    · simp only; rw [h, hgc]; exact this
    · simp only; omega
  · rw [Scr.drawCellPlain_dirty c s x y hd]
    obtain ⟨hpay, hfit, hst, hsv⟩ := glyph_ok hrw hrb hp inv hr
    generalize s.txAt c x y = tx at hpay hfit ⊢
    generalize resolveStyle s.style (s.cells.getContent x y).2.2.1 = st at hst hsv ⊢
    have hw1 : 1 ≤ tx.2 := by obtain ⟨_, _, _, _, _, _, _, h12, _⟩ := hpay; omega
    have hxy : 0 ≤ x ∧ 0 ≤ y ∧ x < s.w ∧ y < s.h := by
      have := inv.buf.cw; have := inv.buf.ch; simp only [inRange_iff] at hr; omega
    have hsz := inv.ext.size
    have hin : t.inGrid x y := by simp only [ATerm.inGrid, inv.tw, inv.th]; omega
    obtain ⟨ad, ea⟩ := paint_admits (c := c) (s.cy ≠ y ∨ s.cx ≠ x) (st ≠ s.curstyle) hin (by omega) hst
      (fun h => by
        have e : s.cx = x ∧ s.cy = y := by omega
        rw [← e.1, ← e.2]; exact inv.kcur (by rw [e.1, e.2]; exact hr))
      (inv.pen_cached hsv) hpay (by rw [inv.tw]; exact hfit hxy.2.2.1)
    refine ⟨ad, fun hrange => ?_, fun _ => ?_, hw1⟩
    · simp only [ea, ATerm.putAt_cur]
      split
      · rename_i hw; simp only [hw, if_true, inRange_iff] at hrange; omega
      · rfl
    · simp only [ea, ATerm.putAt_pen]

/-- the `px` loop of the trick stops in a column left of the corner column -/
theorem coverStart_bounds (b : Buf) (y : Int) : ∀ (fuel : Nat) (cx x : Int), cx < x →
    cx ≤ Scr.coverStart b y fuel cx x ∧ Scr.coverStart b y fuel cx x < x := by
  intro fuel
  induction fuel with
  | zero => intro cx x h; exact ⟨Int.le_refl _, h⟩
  | succ n ih =>
    intro cx x h
    rw [coverStart_succ]
    have := rawW_pos b cx y
    split
    · rename_i h'; have := ih (cx + rawW b cx y) x h'; omega
    · exact ⟨Int.le_refl _, h⟩

/-- **the trick branch of drawCell is admissible** (tscreen.go drawCell, corner trick): `goto (w-2, y)`, the pen, the corner glyph — always
one column wide —, `goto (w-2, y)`, `ich1` in exactly the situation `AdmitIch` describes, an ordinary drawCell on the cell that
covers column `w-2`, `goto (0, 0)`; all that is needed of the screen is that it has at least two columns (`AInv.w2`).  Nothing
about locks: this is admissibility of the byte-level simulation, not correctness of what is shown (Layer A, `visit_corner`). -/
theorem corner_step {c : DrawCfg} (hrw : RwOk c.rw) (hrb : RwB c.rw) (hp : Utf8Payload c)
    {s : Scr} {t : ATerm} {x y : Int} (inv : AInv c s t) (hr : s.cells.inRange x y)
    (hd : s.cells.dirty x y = true) (hcor : y = s.h - 1 ∧ x = s.w - 1 ∧ c.cornerTrick = true) :
    AdmitAll c t (s.drawCell c x y).2.1 ∧
      (s.cells.inRange (s.drawCell c x y).1.cx (s.drawCell c x y).1.cy →
        (t.applyAll (s.drawCell c x y).2.1).cur = some ((s.drawCell c x y).1.cx, (s.drawCell c x y).1.cy)) ∧
      ((s.drawCell c x y).1.curstyle ≠ styleInvalid →
        (t.applyAll (s.drawCell c x y).2.1).pen = some (s.drawCell c x y).1.curstyle) ∧
      1 ≤ (s.drawCell c x y).2.2 := by
  have hw2 := inv.w2 hcor.2.2
  have hcw := inv.buf.cw; have hch := inv.buf.ch
  have hsz := inv.ext.size
  have hxy : 0 ≤ x ∧ x < s.w ∧ 0 ≤ y ∧ y < s.h := by simp only [inRange_iff] at hr; omega
  obtain ⟨p, hpdef⟩ : ∃ p, Scr.coverStart (s.cells.setDirty x y false) y x.toNat 0 x = p := ⟨_, rfl⟩
  have hpb := coverStart_bounds (s.cells.setDirty x y false) y x.toNat 0 x (by omega)
  rw [hpdef] at hpb
  -- the corner glyph is one column wide
  have hlock : s.cells.locked (x + 1) y = false := by
    cases h : s.cells.locked (x + 1) y
    · rfl
    · have := ((locked_true_iff s.cells (x + 1) y).1 h).1
      simp only [inRange_iff] at this; omega
  obtain ⟨hpay, _, hst, hsv⟩ := glyph_ok hrw hrb hp inv hr
  have hcmds := congrArg (·.2.1) (Scr.paint_eq c s x y)
  have hwid := congrArg (·.2.2) (Scr.paint_eq c s x y)
  simp only [txAt_last_col c s x y hcor.2.1 hlock] at hpay hcmds hwid
  obtain ⟨st, est⟩ : ∃ st, st = resolveStyle s.style (s.cells.getContent x y).2.2.1 := ⟨_, rfl⟩
  rw [← est] at hst hsv hcmds
  -- the first half of the trick, then `ich1`
  have hin : t.inGrid (x - 1) y := by simp only [ATerm.inGrid, inv.tw, inv.th]; omega
  obtain ⟨t4, run4, ich, hw4, hh4, hc4, hp4, _⟩ :=
    trick_admits (c := c) (st ≠ s.curstyle) hin (by rw [inv.tw]; omega) (by omega) hst (inv.pen_cached hsv) hpay
  have run5 := Runs.one (c := c) (t := t4) (cmd := .insertChar) ⟨hcor.2.2, ich⟩
  rw [apply_insertChar_in t4 _ _ hc4 (by simpa [ATerm.inGrid, hw4, hh4] using hin)] at run5
  -- the inner drawCell on the cell that covers column w-2
  have hrel : ScrRel s (s.cornerS2 x y p) :=
    (ScrRel.setDirty s { s with cells := s.cells.setDirty x y false } x y false rfl rfl rfl rfl rfl rfl ⟨rfl, rfl, rfl, rfl⟩).trans
      (ScrRel.setDirty _ (s.cornerS2 x y p) p y true rfl rfl rfl rfl rfl rfl ⟨rfl, rfl, rfl, rfl⟩)
  have inv5 : AInv c (s.cornerS2 x y p) (t4.insertAt (x - 1) y) :=
    inv.pre.ainv hrw hrel hw4 hh4 (fun _ => hc4) (fun _ => hp4.trans (congrArg some est))
  obtain ⟨ad6, _, kp6, _⟩ := plain_step hrw hrb hp inv5 (x := p) (y := y) (by simp only [inRange_iff, hrel.cw, hrel.ch]; omega)
  have d6 := applyAll_dims (t4.insertAt (x - 1) y) ((s.cornerS2 x y p).drawCellPlain c p y).2.1
  have run7 : Runs c _ [.goto 0 0] _ := .goto (t := (t4.insertAt (x - 1) y).applyAll ((s.cornerS2 x y p).drawCellPlain c p y).2.1)
    (x := 0) (y := 0) (by
      simp only [ATerm.inGrid, d6.1, d6.2]; show 0 ≤ 0 ∧ 0 < t4.w ∧ 0 ≤ 0 ∧ 0 < t4.h
      have := inv.tw; have := inv.th; omega) (by omega)
  -- the whole list
  have run := ((run4.append run5).append ⟨ad6, rfl⟩).append run7
  rw [Scr.drawCell_corner c s x y p hd hcor hpdef, hcmds]
  simp only [List.append_assoc, List.cons_append, List.nil_append] at run ⊢
  exact ⟨run.1, fun _ => by rw [run.2], fun h => by rw [run.2]; exact kp6 h, by rw [hwid]; omega⟩

/-- one iteration of the inner loop of draw -/
theorem visit_step {c : DrawCfg} (hrw : RwOk c.rw) (hrb : RwB c.rw) (hp : Utf8Payload c)
    {s : Scr} {t : ATerm} {x y : Int} (inv : AInv c s t) (hr : s.cells.inRange x y) :
    AdmitAll c t (s.visit c x y).2.1 ∧ AInv c (s.visit c x y).1 (t.applyAll (s.visit c x y).2.1) ∧
      1 ≤ (s.visit c x y).2.2 := by
  have H : CellStep c s t (s.drawCell c x y) := by
    by_cases hcor : s.cells.dirty x y = true ∧ y = s.h - 1 ∧ x = s.w - 1 ∧ c.cornerTrick = true
    · exact corner_step hrw hrb hp inv hr hcor.1 hcor.2
    · have e : s.drawCell c x y = s.drawCellPlain c x y := by
        unfold Scr.drawCell
        split
        · rename_i hd; unfold Scr.drawCellPlain; rw [if_pos hd]
        · rename_i hd; rw [if_neg fun h => hcor ⟨Decidable.not_not.mp hd, h⟩]
      rw [e]; exact plain_step hrw hrb hp inv hr
  -- beyond drawCell, visit only marks the hidden half of a wide glyph dirty
  obtain ⟨b', e⟩ : ∃ b', s.visit c x y = ({ (s.drawCell c x y).1 with cells := b' }, (s.drawCell c x y).2) := by
    simp only [Scr.visit]; split <;> exact ⟨_, rfl⟩
  have hrel := visit_rel c s x y
  have hd := applyAll_dims t (s.drawCell c x y).2.1
  rw [e] at hrel ⊢
  refine ⟨H.1, inv.pre.ainv hrw hrel hd.1 hd.2 (fun h => H.2.1 ?_) H.2.2.1, H.2.2.2⟩
  simpa only [inRange_iff, show b'.w = _ from hrel.cw, show b'.h = _ from hrel.ch] using h

/-- a stage of draw, from terminal `t`: its commands are admissible and leave the invariant for the screen state it returns -/
def Step (c : DrawCfg) (t : ATerm) (r : Scr × List Cmd) : Prop := AdmitAll c t r.2 ∧ AInv c r.1 (t.applyAll r.2)

theorem Step.append {c : DrawCfg} {t : ATerm} {l1 l2 : List Cmd} {s1 s2 : Scr} (h1 : Step c t (s1, l1))
    (h2 : Step c (t.applyAll l1) (s2, l2)) : Step c t (s2, l1 ++ l2) :=
  ⟨(admitAll_append ..).2 ⟨h1.1, h2.1⟩, applyAll_append t l1 l2 ▸ h2.2⟩

theorem drawRow_admits {c : DrawCfg} (hrw : RwOk c.rw) (hrb : RwB c.rw) (hp : Utf8Payload c) (y : Int) :
    ∀ (fuel : Nat) (x : Int) (s : Scr) (t : ATerm), 0 ≤ x → 0 ≤ y → y < s.h → AInv c s t → Step c t (Scr.drawRow c y fuel x s) := by
  intro fuel
  induction fuel with
  | zero => intro x s t _ _ _ inv; exact ⟨trivial, inv⟩
  | succ n ih =>
    intro x s t hx0 hy0 hy1 inv
    rw [drawRow_succ]
    split
    · rename_i hlt
      have hr : s.cells.inRange x y := by
        have := inv.buf.cw; have := inv.buf.ch; simp only [inRange_iff]; omega
      obtain ⟨ad, inv', hw⟩ := visit_step hrw hrb hp inv hr
      exact Step.append (s1 := (s.visit c x y).1) ⟨ad, inv'⟩
        (ih _ _ _ (by omega) hy0 (by rw [(visit_rel c s x y).h]; exact hy1) inv')
    · exact ⟨trivial, inv⟩

theorem drawRows_admits {c : DrawCfg} (hrw : RwOk c.rw) (hrb : RwB c.rw) (hp : Utf8Payload c) :
    ∀ (fuel : Nat) (y : Int) (s : Scr) (t : ATerm), 0 ≤ y → AInv c s t → Step c t (Scr.drawRows c fuel y s) := by
  intro fuel
  induction fuel with
  | zero => intro y s t _ inv; exact ⟨trivial, inv⟩
  | succ n ih =>
    intro y s t hy0 inv
    rw [drawRows_succ]
    split
    · rename_i hlt
      have r := drawRow_admits hrw hrb hp y s.w.toNat 0 s t (by omega) hy0 hlt inv
      exact r.append (ih (y + 1) _ _ (by omega) r.2)
    · exact ⟨trivial, inv⟩

/-- hiding the cursor: the hide string, or (terminals without one) the cursor parked just outside the bottom-right corner -/
theorem hide_step {c : DrawCfg} (hrw : RwOk c.rw) {s : Scr} {t : ATerm} (inv : AInv c s t) :
    Step c t (s.hideCursor c) ∧
      (¬ s.cells.inRange s.cx s.cy → ¬ (s.hideCursor c).1.cells.inRange (s.hideCursor c).1.cx (s.hideCursor c).1.cy) ∧
      (s.hideCursor c).1.curstyle = s.curstyle := by
  have := inv.buf.cw; have := inv.buf.ch; have := inv.ext.size
  unfold Scr.hideCursor; split
  · rename_i hh
    exact ⟨⟨⟨hh, trivial⟩, inv.pre.ainv hrw (.refl s) rfl rfl inv.kcur inv.kpen⟩, id, rfl⟩
  · refine ⟨⟨⟨?_, trivial⟩, inv.pre.ainv hrw (.of_eq s _ rfl rfl rfl rfl rfl rfl ⟨rfl, rfl, rfl, rfl⟩) rfl rfl (fun h => ?_) inv.kpen⟩,
      fun _ h => ?_, rfl⟩
    · show 0 ≤ s.cells.w ∧ 0 ≤ s.cells.h ∧ s.cells.w + 1 < TParm.maxInt64 ∧ s.cells.h + 1 < TParm.maxInt64; omega
    · simp only [inRange_iff] at h; omega
    · simp only [inRange_iff] at h; omega

theorem showCursor_admits {c : DrawCfg} (hrw : RwOk c.rw) {s : Scr} {t : ATerm} (inv : AInv c s t) :
    AdmitAll c t (s.showCursor c).2 := by
  unfold Scr.showCursor; simp only
  split
  · exact (hide_step hrw inv).1.1
  · have := inv.buf.cw; have := inv.buf.ch; have := inv.ext.size
    exact ⟨⟨by omega, by omega, by omega, by omega⟩, inv.ext.ccol, trivial⟩

/-- **every command of a draw is admissible**, whatever the display holds — the bottom-right corner trick included -/
theorem draw_admits {c : DrawCfg} (hrw : RwOk c.rw) (hrb : RwB c.rw) (hp : Utf8Payload c)
    {s : Scr} {t : ATerm} (pre : PreA c s t) : AdmitAll c t (s.draw c).2 := by
  rw [draw_eq]; simp only
  -- the caches are forgotten: they claim nothing
  have inv0 : AInv c { s with cx := -1, cy := -1, curstyle := styleInvalid } t :=
    pre.ainv hrw (.of_eq s _ rfl rfl rfl rfl rfl rfl ⟨rfl, rfl, rfl, rfl⟩) rfl rfl
      (fun h => by simp only [inRange_iff] at h; omega) (fun h => absurd rfl h)
  obtain ⟨st1, hout, hsty⟩ := hide_step hrw inv0
  generalize Scr.hideCursor c { s with cx := -1, cy := -1, curstyle := styleInvalid } = r1 at st1 hout hsty ⊢
  replace hout := hout (fun h => by simp only [inRange_iff] at h; omega)
  -- clear: cursor and pen are unknown afterwards, and the caches, off-screen and invalid, still claim nothing
  have st2 : Step c (t.applyAll r1.2) (if r1.1.clear then r1.1.clearScreen else (r1.1, [])) := by
    split
    · exact ⟨⟨trivial, trivial⟩,
        { st1.2 with buf := { st1.2.buf with }, ext := { st1.2.ext with }, kcur := fun h => absurd h hout, kpen := fun h => absurd hsty h }⟩
    · exact ⟨trivial, st1.2⟩
  generalize (if r1.1.clear then r1.1.clearScreen else (r1.1, [])) = r2 at st2 ⊢
  have st3 := drawRows_admits hrw hrb hp r2.1.h.toNat 0 r2.1 _ (by omega) st2.2
  generalize Scr.drawRows c r2.1.h.toNat 0 r2.1 = r3 at st3 ⊢
  simp only [admitAll_append, applyAll_append]
  exact ⟨⟨⟨st1.1, st2.1⟩, st3.1⟩, showCursor_admits hrw st3.2⟩

end Tcell.LayerB
