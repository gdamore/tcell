/-
`CapsFx` for every terminal description whose strings are in the class (`CapsOk`): the effect on the reference emulator of
sendFgBg (`xl_sendFgBg_effect`), of the underline part of the style block (`xl_underline_effect`), of the whole style block for
every style without hyperlink (`xl_setPen_effect`: pen = `penOf rc s`), of showCursor (`xl_show_effect`) and of clearScreen
(`xl_clear_effect`); together `xl_capsFx`.

`FitOk rc` is the only thing asked of the colour-fitting function `rc.fit` (go-colorful's nearest-palette-colour search, an
external function and a parameter of the Render model): its result is one of the screen's palette entries.
-/
import Tcell.Lemmas.LayerBXterm
import Tcell.Lemmas.FindColor
namespace Tcell.LayerB
open Tcell Tcell.Spec.Ecma48 Tcell.Spec.Ecma48.Term
open Tcell.Render (tp parm ints)

theorem withPen_withPen (t : Term) (p q : Pen) : withPen (withPen t p) q = withPen t q := rfl
theorem withPen_self (t : Term) : withPen t t.pen = t := rfl

theorem _root_.Tcell.Spec.Ecma48.Term.SgrActs.tp_feed {a F} (h : SgrActs a F) (rc : RenderCfg) {rw} {t : Term} (g : Good rw t) :
    t.feed (tp rc (csiSeq a 0x6d)) = F t := by
  obtain ⟨_, hp, _⟩ := h.params
  rw [tp_clean rc _ (csiParams_clean hp 0x6d (by omega))]
  exact h.feed t g.st

/-- the SGR numbers of the foreground (`3n`, `9n`, `38`) or of the background (`4n`, `10n`, `48`) -/
def Chan (base bright which : Nat) : Prop := (base = 30 ∧ bright = 90 ∧ which = 38) ∨ (base = 40 ∧ bright = 100 ∧ which = 48)

theorem sgrActs_low {base bright which : Nat} (hc : Chan base bright which) (n : Nat) (hn : n < 8) :
    SgrActs (dec (base + n)) (fun t => { t with pen := setExt t.pen which (.idx n) }) ∧
    SgrActs (dec (bright + n)) (fun t => { t with pen := setExt t.pen which (.idx (n + 8)) }) := by
  rcases hc with ⟨rfl, rfl, rfl⟩ | ⟨rfl, rfl, rfl⟩
  · exact ⟨sgrActs_simple _ _ (fun p => (sgrSimple_color p n hn).1) (by omega),
      sgrActs_simple _ _ (fun p => (sgrSimple_color p n hn).2.2.1) (by omega)⟩
  · exact ⟨sgrActs_simple _ _ (fun p => (sgrSimple_color p n hn).2.1) (by omega),
      sgrActs_simple _ _ (fun p => (sgrSimple_color p n hn).2.2.2) (by omega)⟩

/-- palette colour `n` the way the conditional `setaf` / `setab` strings write it: `3n`, `9(n-8)`, or an extended form -/
theorem sgrActs_idx {base bright which : Nat} (hc : Chan base bright which) (n : Nat) (last : List Nat)
    (hl : SgrActs last fun t => { t with pen := setExt t.pen which (.idx n) }) :
    SgrActs (if n < 8 then dec (base + n) else if n < 16 then dec (bright + (n - 8)) else last)
      fun t => { t with pen := setExt t.pen which (.idx n) } := by
  split
  · exact (sgrActs_low hc n ‹_›).1
  · split
    · have := (sgrActs_low hc (n - 8) (by omega)).2
      rwa [show n - 8 + 8 = n by omega] at this
    · exact hl

theorem chan_which {base bright which : Nat} (hc : Chan base bright which) : which = 38 ∨ which = 48 ∨ which = 58 := by
  rcases hc with ⟨_, _, rfl⟩ | ⟨_, _, rfl⟩ <;> simp

theorem sgrActs_idxBody {base bright which : Nat} (hc : Chan base bright which) (n : Nat) (hn : n ≤ 255) :
    SgrActs (idxBody base bright which n) fun t => { t with pen := setExt t.pen which (.idx n) } :=
  sgrActs_idx hc n _ (sgrActs_ext5 which n (chan_which hc) hn)

theorem sgrActs_idxBodyC {base bright which : Nat} (hc : Chan base bright which) (n : Nat) (hn : n ≤ 255) :
    SgrActs (idxBodyC base bright which n) fun t => { t with pen := setExt t.pen which (.idx n) } :=
  sgrActs_idx hc n _ (sgrActs_colon which (chan_which hc) (.idx n) ((subparams_dec 5).colon (subparams_dec n)) rfl
    (by simpa [colorOk] using hn))

theorem valid_of_isRGB (c : Nat) (h : Color.isRGB c = true) : Color.valid c = true := by
  rw [Color.isRGB_eq] at h; rw [Color.valid_eq]; simp only [Bool.and_eq_true] at h; exact h.1

theorem valid_zero : Color.valid 0 = false := by decide

/-- all that is asked of the colour-fitting function (go-colorful's nearest-colour search over the screen's palette):
    its result is an entry of that palette -/
def FitOk0 (rc : RenderCfg) : Prop := ∀ col, 2^32 ≤ rc.fit col ∧ rc.fit col < 2^32 + Render.nColors rc

/-- … asked only of screens that have a palette at all (on a monochrome terminal nothing is ever fitted to a palette) -/
def FitOk (rc : RenderCfg) : Prop := Render.nColors rc ≠ 0 → FitOk0 rc

theorem nColors_le (rc : RenderCfg) : Render.nColors rc ≤ 256 := by
  unfold Render.nColors; split <;> omega

theorem fitColor_range {rc : RenderCfg} (hfit : FitOk0 rc) (c : Nat) :
    2^32 ≤ Render.fitColor rc c ∧ Render.fitColor rc c < 2^32 + Render.nColors rc := by
  unfold Render.fitColor; split
  · rename_i h; exact h
  · exact hfit c

theorem fitColor_valid {rc : RenderCfg} (hfit : FitOk0 rc) (c : Nat) : Color.valid (Render.fitColor rc c) = true := by
  have := fitColor_range hfit c; have := nColors_le rc
  obtain ⟨k, hk⟩ : ∃ k, Render.fitColor rc c = 2^32 + k := ⟨Render.fitColor rc c - 2^32, by omega⟩
  rw [Color.valid_eq, hk, Nat.testBit_two_pow_add_eq, Nat.testBit_lt_two_pow (by omega)]; rfl

theorem fitColor_idx {rc : RenderCfg} (hfit : FitOk0 rc) (c : Nat) : Render.fitColor rc c % 256 < Render.nColors rc := by
  have := fitColor_range hfit c; have := nColors_le rc
  omega

/-- the palette the screen keeps (tscreen.go:226-236: `t.palette[i] = Color(i) | ColorValid`, `i < nColors`; `FindColor(fg, t.palette)` at 791, 801, 896) -/
def screenPalette (rc : RenderCfg) : List Nat := (List.range (Render.nColors rc)).map (2^32 + ·)

/-- **`FitOk` holds for tcell's own `FindColor`** (colorfit.go, model `Color.findColor`) over the screen's palette, whatever
the colour distance is (go-colorful's CIE76 `float64` distance is an arbitrary `Metric` here): the scan returns one of the
colours it was given.  So for a screen with at least one colour `FitOk` is not an assumption about tcell. -/
theorem fitOk_findColor {α : Type} (m : Color.Metric α) (rc : RenderCfg)
    (hf : ∀ c, rc.fit c = Color.findColor m c (screenPalette rc)) : FitOk rc := by
  intro hn col
  have hne : screenPalette rc ≠ [] := by
    intro h
    have := congrArg List.length h
    simp [screenPalette] at this
    exact hn this
  have := Color.findColor_mem' m col (screenPalette rc) hne
  rw [← hf] at this
  simp only [screenPalette, List.mem_map, List.mem_range] at this
  obtain ⟨k, hk, e⟩ := this
  rw [← e]; omega

/-- the colour is written as direct colour.  The test names `setFgRGB` for the background too: the two strings come together
    (`ColCaps.coh1`), and only under that hypothesis is this sendFgBg's test for `bg` -/
def dirF (rc : RenderCfg) (c : Nat) : Prop := rc.truecolor = true ∧ Color.isRGB c = true ∧ (!rc.ti.setFgRGB.isEmpty) = true
instance (rc : RenderCfg) (c : Nat) : Decidable (dirF rc c) := by unfold dirF; infer_instance

/-- one channel of sendFgBg past its direct-colour string (`d`: the string was written and the colour set to 0): what is left
    for the palette strings is valid iff nothing was written and `c` is valid — and is then `c` fitted -/
theorem valid_rest {rc : RenderCfg} (hfit : FitOk0 rc) (d : Prop) [Decidable d] (c : Nat) :
    (Color.valid (if Color.valid (if d then 0 else c) = true then Render.fitColor rc (if d then 0 else c) else if d then 0 else c) = true) =
      (¬ d ∧ Color.valid c = true) := by
  by_cases hd : d
  · simp [hd, valid_zero]
  · by_cases hv : Color.valid c = true
    · simp [hd, hv, fitColor_valid hfit]
    · simp [hd, hv]

theorem ite_pair {α β} (d : Prop) [Decidable d] (a a' : α) (b b' : β) :
    (if d then (a, b) else (a', b')) = (if d then a else a', if d then b else b') := by split <;> rfl

/-- tscreen.go sendFgBg with the local rebindings of `fg` / `bg` resolved -/
theorem sendFgBg_unfold (rc : RenderCfg) (hcol : rc.ti.colors ≠ 0) (hfit : FitOk0 rc)
    (hcoh : rc.ti.setFgRGB.isEmpty = rc.ti.setBgRGB.isEmpty) (fg bg attr : Nat) :
    Render.sendFgBg rc fg bg attr =
      ((if fg = colorReset ∨ bg = colorReset then tp rc rc.ti.resetFgBg else []) ++
       (if rc.truecolor = true ∧ (!rc.ti.setFgBgRGB.isEmpty) = true ∧ Color.isRGB fg = true ∧ Color.isRGB bg = true then
          tp rc (parm rc.ti.setFgBgRGB (ints (Render.rgbOf fg ++ Render.rgbOf bg)))
        else
          (if dirF rc fg then tp rc (parm rc.ti.setFgRGB (ints (Render.rgbOf fg))) else []) ++
          ((if dirF rc bg then tp rc (parm rc.ti.setBgRGB (ints (Render.rgbOf bg))) else []) ++
          (if (¬ dirF rc fg ∧ Color.valid fg = true) ∧ (¬ dirF rc bg ∧ Color.valid bg = true) ∧ (!rc.ti.setFgBg.isEmpty) = true then
             tp rc (parm rc.ti.setFgBg (ints [((Render.fitColor rc fg % 256 : Nat) : Int), ((Render.fitColor rc bg % 256 : Nat) : Int)]))
           else
             (if (¬ dirF rc fg ∧ Color.valid fg = true) ∧ (!rc.ti.setFg.isEmpty) = true then
                tp rc (parm rc.ti.setFg (ints [((Render.fitColor rc fg % 256 : Nat) : Int)])) else []) ++
             (if (¬ dirF rc bg ∧ Color.valid bg = true) ∧ (!rc.ti.setBg.isEmpty) = true then
                tp rc (parm rc.ti.setBg (ints [((Render.fitColor rc bg % 256 : Nat) : Int)])) else [])))), attr) := by
  unfold Render.sendFgBg dirF
  simp only [hcol, if_false, ← hcoh, ite_pair, ite_self, valid_rest hfit]
  by_cases hA : rc.truecolor = true ∧ (!rc.ti.setFgBgRGB.isEmpty) = true ∧ Color.isRGB fg = true ∧ Color.isRGB bg = true
  · rw [if_pos hA, if_pos hA]
  · rw [if_neg hA, if_neg hA]
    -- under each test of the palette strings the colour left is the fitted one
    simp (config := {contextual := true}) only [List.append_assoc, if_true, if_false]

/-- what the class says about the colour strings of a terminal that has colours, in the form the effect lemmas use: the
    *effect on the emulator* of `setaf` / `setab` / `setfgbg` for every palette index the screen has (the five families of
    `palKind` write different bytes for the same colour) -/
structure ColCaps (rc : RenderCfg) : Prop where
  colors : rc.ti.colors ≠ 0
  ncol : Render.nColors rc ≠ 0
  fgNe : (!rc.ti.setFg.isEmpty) = true
  bgNe : (!rc.ti.setBg.isEmpty) = true
  af : ∀ {rw : Int → Int} {t : Term}, Good rw t → ∀ n, n < Render.nColors rc →
    t.feed (tp rc (parm rc.ti.setFg (ints [((n : Nat) : Int)]))) = withPen t { t.pen with fg := .idx n }
  ab : ∀ {rw : Int → Int} {t : Term}, Good rw t → ∀ n, n < Render.nColors rc →
    t.feed (tp rc (parm rc.ti.setBg (ints [((n : Nat) : Int)]))) = withPen t { t.pen with bg := .idx n }
  afab : rc.ti.setFgBg = [] ∨ ∀ {rw : Int → Int} {t : Term}, Good rw t → ∀ f b, f < Render.nColors rc → b < Render.nColors rc →
    t.feed (tp rc (parm rc.ti.setFgBg (ints [((f : Nat) : Int), ((b : Nat) : Int)]))) =
      withPen t { t.pen with fg := .idx f, bg := .idx b }
  /-- `op`, written where sendFgBg writes it: right after `sgr0` (`PenReset`) -/
  reset : ∀ {rw : Int → Int} {t : Term}, Good rw t → PenReset t →
    t.feed (tp rc rc.ti.resetFgBg) = withPen t { t.pen with fg := (opSel rc).1, bg := (opSel rc).2 }
  fRGB : rc.ti.setFgRGB = [] ∨ rc.ti.setFgRGB = setfRGB
  bRGB : rc.ti.setBgRGB = [] ∨ rc.ti.setBgRGB = setbRGB
  fbRGB : rc.ti.setFgBgRGB = [] ∨ rc.ti.setFgBgRGB = setfbRGB
  coh1 : rc.ti.setFgRGB.isEmpty = rc.ti.setBgRGB.isEmpty
  coh2 : rc.ti.setFgBgRGB.isEmpty = true ∨ rc.ti.setFgRGB.isEmpty = false

structure Mono (rc : RenderCfg) : Prop where
  colors : rc.ti.colors = 0
  setFg : rc.ti.setFg = []
  setBg : rc.ti.setBg = []
  setFgBg : rc.ti.setFgBg = []
  reset : rc.ti.resetFgBg = []
  fRGB : rc.ti.setFgRGB = []
  bRGB : rc.ti.setBgRGB = []
  fbRGB : rc.ti.setFgBgRGB = []

theorem pen_eta_fgbg (p : Pen) (h1 : p.fg = .default) (h2 : p.bg = .default) :
    ({ p with fg := .default, bg := .default } : Pen) = p := by
  cases p; simp_all

/-- `op` in its five forms, written where sendFgBg writes it: right after `sgr0` -/
theorem op_effect {rc : RenderCfg} (hop : rc.ti.resetFgBg ∈ opForms) {rw : Int → Int} {t : Term} (g : Good rw t) (hpr : PenReset t) :
    t.feed (tp rc rc.ti.resetFgBg) = withPen t { t.pen with fg := (opSel rc).1, bg := (opSel rc).2 } := by
  have hkeep : withPen t { t.pen with fg := .default, bg := .default } = t := by
    rw [pen_eta_fgbg _ (by rw [hpr.2]) (by rw [hpr.2])]; rfl
  have hdef : rc.ti.resetFgBg ≠ opAix → rc.ti.resetFgBg ≠ opPc → opSel rc = (.default, .default) := fun h1 h2 => by
    unfold opSel; rw [if_neg h1, if_neg h2]
  simp only [opForms, List.mem_cons, List.not_mem_nil, or_false] at hop
  rcases hop with h | h | h | h | h <;> rw [h] at hdef ⊢ <;> rw [tp_clean rc _ (by decide)]
  · rw [hdef (by decide) (by decide)]; exact fgbgReset_effect g
  · rw [show opSel rc = (.idx 2, .idx 0) by unfold opSel; rw [h, if_pos rfl]]; exact opAix_effect g
  · rw [show opSel rc = (.idx 7, .idx 0) by unfold opSel; rw [h, if_neg (by decide), if_pos rfl]]; exact opPc_effect g
  · rw [hdef (by decide) (by decide), hkeep]; exact (sgrReset_effect g _ (.inl rfl) []).trans (reset_of_penReset hpr)
  · rw [hdef (by decide) (by decide), hkeep]; exact (sgrReset_effect g _ (.inr (.inl rfl)) []).trans (reset_of_penReset hpr)

theorem palForm {c : Bool} {ti : Terminfo} {sf sb sfb : Bytes}
    (h : (c && ti.setFg == sf && ti.setBg == sb && optForm ti.setFgBg sfb) = true) :
    c = true ∧ ti.setFg = sf ∧ ti.setBg = sb ∧ (ti.setFgBg = [] ∨ ti.setFgBg = sfb) := by
  simp only [Bool.and_eq_true, beq_iff_eq] at h
  exact ⟨h.1.1.1, h.1.1.2, h.1.2, opt_of h.2⟩

theorem palKind_cases {ti : Terminfo} (h : (palKind ti).isSome = true) :
    (ti.colors = 8 ∧ ti.setFg = setafBasic ∧ ti.setBg = setabBasic ∧ (ti.setFgBg = [] ∨ ti.setFgBg = setfgbgBasic)) ∨
    (ti.colors = 8 ∧ ti.setFg = setafAdd ∧ ti.setBg = setabAdd ∧ (ti.setFgBg = [] ∨ ti.setFgBg = setfgbgAdd)) ∨
    (8 ≤ ti.colors ∧ ti.setFg = setaf256 ∧ ti.setBg = setab256 ∧ (ti.setFgBg = [] ∨ ti.setFgBg = setfgbg256)) ∨
    (8 ≤ ti.colors ∧ ti.setFg = setafExt ∧ ti.setBg = setabExt ∧ (ti.setFgBg = [] ∨ ti.setFgBg = setfgbgExt)) ∨
    (8 ≤ ti.colors ∧ ti.setFg = setafColon ∧ ti.setBg = setabColon ∧ (ti.setFgBg = [] ∨ ti.setFgBg = setfgbgColon)) := by
  unfold palKind at h
  split at h
  · rename_i c; exact .inl (by simpa using palForm c)
  split at h
  · rename_i c; exact .inr (.inl (by simpa using palForm c))
  split at h
  · rename_i c; exact .inr (.inr (.inl (by simpa using palForm c)))
  split at h
  · rename_i c; exact .inr (.inr (.inr (.inl (by simpa using palForm c))))
  split at h
  · rename_i c; exact .inr (.inr (.inr (.inr (by simpa using palForm c))))
  · simp at h

/-- a colour terminal whose `setaf` / `setab` (`sf` / `sb`) expand, for every palette index the screen has, to `ESC [ fb n m` /
    `ESC [ bb n m` with parameter texts that select that colour, and whose `setfgbg` (`sfb`, if any) joins the two texts with `;` -/
theorem colCaps_of {rc : RenderCfg} (F : TiFacts rc.ti) (hop : rc.ti.resetFgBg ∈ opForms) {sf sb sfb : Bytes}
    (hsf : rc.ti.setFg = sf) (hsb : rc.ti.setBg = sb) (hsfb : rc.ti.setFgBg = [] ∨ rc.ti.setFgBg = sfb)
    (hne : sf ≠ [] ∧ sb ≠ []) (fb bb : Nat → List Nat) (hc : 8 ≤ rc.ti.colors)
    (hf : ∀ n, n < Render.nColors rc → parm sf (ints [((n : Nat) : Int)]) = csiSeq (fb n) 0x6d ∧
      SgrActs (fb n) fun t => { t with pen := setExt t.pen 38 (.idx n) })
    (hb : ∀ n, n < Render.nColors rc → parm sb (ints [((n : Nat) : Int)]) = csiSeq (bb n) 0x6d ∧
      SgrActs (bb n) fun t => { t with pen := setExt t.pen 48 (.idx n) })
    (hfb : ∀ f b, f < Render.nColors rc → b < Render.nColors rc →
      parm sfb (ints [((f : Nat) : Int), ((b : Nat) : Int)]) = csiSeq (fb f ++ 0x3b :: bb b) 0x6d) : ColCaps rc :=
  { colors := by omega
    ncol := by unfold Render.nColors; split <;> omega
    fgNe := by rw [hsf]; cases sf <;> simp_all
    bgNe := by rw [hsb]; cases sb <;> simp_all
    af := fun g n h => by rw [hsf, (hf n h).1]; exact (hf n h).2.tp_feed rc g
    ab := fun g n h => by rw [hsb, (hb n h).1]; exact (hb n h).2.tp_feed rc g
    afab := hsfb.imp id fun e _ _ g f b h h' => by rw [e, hfb f b h h']; exact ((hf f h).2.append (hb b h').2).tp_feed rc g
    reset := op_effect hop
    fRGB := F.fRGB, bRGB := F.bRGB, fbRGB := F.fbRGB, coh1 := F.coh1, coh2 := F.coh2 }

/-- **the colour strings of the class**: a colour terminal of one of the five palette families, or a monochrome one -/
theorem xl_colcaps {rc : RenderCfg} (hx : CapsOk rc.ti = true) : ColCaps rc ∨ Mono rc := by
  have F := tiFacts hx
  have fg : Chan 30 90 38 := .inl ⟨rfl, rfl, rfl⟩
  have bg : Chan 40 100 48 := .inr ⟨rfl, rfl, rfl⟩
  have l := nColors_le rc
  rcases F.col with ⟨hk, hop⟩ | hm
  · left
    rcases palKind_cases hk with ⟨hc, hf, hb, hfb⟩ | ⟨hc, hf, hb, hfb⟩ | ⟨hc, hf, hb, hfb⟩ | ⟨hc, hf, hb, hfb⟩ | ⟨hc, hf, hb, hfb⟩
    · -- 8 colours, `3n` / `4n`
      have hn : Render.nColors rc = 8 := by simp [Render.nColors, hc]
      exact colCaps_of F hop hf hb hfb (by decide) (fun n => dec (30 + n)) (fun n => dec (40 + n)) (by omega)
        (fun n h => ⟨by rw [parm_setafBasic, dec_30 n (by omega)], (sgrActs_low fg n (by omega)).1⟩)
        (fun n h => ⟨by rw [parm_setabBasic, dec_40 n (by omega)], (sgrActs_low bg n (by omega)).1⟩)
        (fun f b h h' => by rw [parm_setfgbgBasic, dec_30 f (by omega), dec_40 b (by omega)])
    · -- 8 colours, `%p1%{30}%+%d` (Eterm)
      have hn : Render.nColors rc = 8 := by simp [Render.nColors, hc]
      exact colCaps_of F hop hf hb hfb (by decide) (fun n => dec (30 + n)) (fun n => dec (40 + n)) (by omega)
        (fun n h => ⟨parm_setafAdd n (by omega), (sgrActs_low fg n (by omega)).1⟩)
        (fun n h => ⟨parm_setabAdd n (by omega), (sgrActs_low bg n (by omega)).1⟩)
        (fun f b h h' => parm_setfgbgAdd f b (by omega) (by omega))
    · -- 16 / 88 / 256 colours, the conditional form
      exact colCaps_of F hop hf hb hfb (by decide) _ _ hc
        (fun n h => ⟨parm_setaf256 n, sgrActs_idxBody fg n (by omega)⟩)
        (fun n h => ⟨parm_setab256 n, sgrActs_idxBody bg n (by omega)⟩) (fun f b _ _ => parm_setfgbg256 f b)
    · -- always `38;5;n` (rxvt-unicode)
      exact colCaps_of F hop hf hb hfb (by decide) _ _ hc
        (fun n h => ⟨parm_setafExt n, sgrActs_ext5 38 n (.inl rfl) (by omega)⟩)
        (fun n h => ⟨parm_setabExt n, sgrActs_ext5 48 n (.inr (.inl rfl)) (by omega)⟩) (fun f b _ _ => parm_setfgbgExt f b)
    · -- the conditional form with `38:5:n` (foot)
      exact colCaps_of F hop hf hb hfb (by decide) _ _ hc
        (fun n h => ⟨parm_setafColon n, sgrActs_idxBodyC fg n (by omega)⟩)
        (fun n h => ⟨parm_setabColon n, sgrActs_idxBodyC bg n (by omega)⟩) (fun f b _ _ => parm_setfgbgColon f b)
  · right
    simp only [monoOk, Bool.and_eq_true, beq_iff_eq, and_assoc] at hm
    obtain ⟨m1, m2, m3, m4, m5, m6, m7, m8⟩ := hm
    exact ⟨m1, m2, m3, m4, m5, m6, m7, m8⟩

/-- the components of a direct colour: what `sendFgBg` passes to the RGB strings and what the colour denotes -/
theorem rgb_forms (c : Nat) (h : Color.isRGB c = true) :
    ∃ r g b : Nat, r ≤ 255 ∧ g ≤ 255 ∧ b ≤ 255 ∧ Render.rgbOf c = [(r : Int), (g : Int), (b : Int)] ∧ rgbSel c = .rgb r g b := by
  rw [Color.isRGB_eq] at h; simp only [Bool.and_eq_true] at h
  have hh := Color.hex_of_rgbBit c h.1 h.2
  have e := Color.rgb_of_hex_nonneg c (by rw [hh]; omega)
  rw [hh] at e
  have e' : Color.rgb c = (((c % 2^24 / 65536 % 256 : Nat) : Int), ((c % 2^24 / 256 % 256 : Nat) : Int), ((c % 2^24 % 256 : Nat) : Int)) := by
    rw [e]; refine Prod.ext ?_ (Prod.ext ?_ ?_) <;> simp only [] <;> omega
  exact ⟨c % 2^24 / 65536 % 256, c % 2^24 / 256 % 256, c % 2^24 % 256, by omega, by omega, by omega,
    by simp only [Render.rgbOf, e'], by simp only [rgbSel, e', Int.toNat_natCast]⟩

/-- a direct-colour string, written when `d` holds -/
theorem rgbPiece {rw} {rc : RenderCfg} {t : Term} (g : Good rw t) (d : Prop) [Decidable d] (c : Nat) (s : Bytes) (which : Nat)
    (hw : which = 38 ∨ which = 48 ∨ which = 58) (hd : d → Color.isRGB c = true)
    (hs : d → ∀ r g b : Nat, parm s (ints [(r : Int), (g : Int), (b : Int)]) = csiSeq (ext2 which r g b) 0x6d) :
    t.feed (if d then tp rc (parm s (ints (Render.rgbOf c))) else []) =
      withPen t (if d then setExt t.pen which (rgbSel c) else t.pen) := by
  by_cases h : d
  · obtain ⟨r, gg, b, hr, hg, hb, e1, e2⟩ := rgb_forms c (hd h)
    rw [if_pos h, if_pos h, e1, hs h, e2]
    exact (sgrActs_ext2 which r gg b hw hr hg hb).tp_feed rc g
  · rw [if_neg h, if_neg h]; rfl

theorem fPiece {rw} {rc : RenderCfg} (C : ColCaps rc) {t : Term} (g : Good rw t) (fg : Nat) :
    t.feed (if dirF rc fg then tp rc (parm rc.ti.setFgRGB (ints (Render.rgbOf fg))) else []) =
      withPen t (if dirF rc fg then { t.pen with fg := rgbSel fg } else t.pen) :=
  rgbPiece g _ fg _ 38 (.inl rfl) (fun h => h.2.1) fun h r gg b => by
    rw [C.fRGB.resolve_left fun e => by simp [dirF, e] at h]; exact parm_setfRGB r gg b

theorem bPiece {rw} {rc : RenderCfg} (C : ColCaps rc) {t : Term} (g : Good rw t) (bg : Nat) :
    t.feed (if dirF rc bg then tp rc (parm rc.ti.setBgRGB (ints (Render.rgbOf bg))) else []) =
      withPen t (if dirF rc bg then { t.pen with bg := rgbSel bg } else t.pen) :=
  rgbPiece g _ bg _ 48 (.inr (.inl rfl)) (fun h => h.2.1) fun h r gg b => by
    rw [C.bRGB.resolve_left fun e => by simp [dirF, C.coh1, e] at h]; exact parm_setbRGB r gg b

theorem palPiece {rw} {rc : RenderCfg} (C : ColCaps rc) {t : Term} (g : Good rw t) (pF pB : Prop) [Decidable pF] [Decidable pB]
    (nF nB : Nat) (hF : nF < Render.nColors rc) (hB : nB < Render.nColors rc) :
    t.feed (if pF ∧ pB ∧ (!rc.ti.setFgBg.isEmpty) = true then
        tp rc (parm rc.ti.setFgBg (ints [((nF : Nat) : Int), ((nB : Nat) : Int)]))
      else
        (if pF ∧ (!rc.ti.setFg.isEmpty) = true then tp rc (parm rc.ti.setFg (ints [((nF : Nat) : Int)])) else []) ++
        (if pB ∧ (!rc.ti.setBg.isEmpty) = true then tp rc (parm rc.ti.setBg (ints [((nB : Nat) : Int)])) else [])) =
      withPen t { t.pen with fg := if pF then .idx nF else t.pen.fg, bg := if pB then .idx nB else t.pen.bg } := by
  have eF : ∀ {t : Term}, Good rw t → t.feed (tp rc (parm rc.ti.setFg (ints [((nF : Nat) : Int)]))) = withPen t { t.pen with fg := .idx nF } :=
    fun g => C.af g nF hF
  have eB : ∀ {t : Term}, Good rw t → t.feed (tp rc (parm rc.ti.setBg (ints [((nB : Nat) : Int)]))) = withPen t { t.pen with bg := .idx nB } :=
    fun g => C.ab g nB hB
  by_cases hpF : pF <;> by_cases hpB : pB
  · by_cases hE : (!rc.ti.setFgBg.isEmpty) = true
    · rw [if_pos ⟨hpF, hpB, hE⟩]
      rcases C.afab with h | h
      · simp [h] at hE
      · rw [h g nF nB hF hB]; simp [hpF, hpB]
    · rw [if_neg (fun h => hE h.2.2), if_pos ⟨hpF, C.fgNe⟩, if_pos ⟨hpB, C.bgNe⟩, ← feed_append, eF g, eB (good_withPen g _)]
      simp [hpF, hpB, withPen]
  · rw [if_neg (fun h => hpB h.2.1), if_pos ⟨hpF, C.fgNe⟩, if_neg (fun h => hpB h.1), List.append_nil, eF g]
    simp [hpF, hpB]
  · rw [if_neg (fun h => hpF h.1), if_neg (fun h => hpF h.1), if_pos ⟨hpB, C.bgNe⟩, List.nil_append, eB g]
    simp [hpF, hpB]
  · rw [if_neg (fun h => hpF h.1), if_neg (fun h => hpF h.1), if_neg (fun h => hpB h.1)]
    simp [hpF, hpB, withPen]

theorem hasRGB_iff_dirF (rc : RenderCfg) (c : Nat) : (hasRGB rc && Color.isRGB c) = true ↔ dirF rc c := by
  simp only [hasRGB, dirF, Bool.and_eq_true]; constructor
  · rintro ⟨⟨a, b⟩, c⟩; exact ⟨a, c, b⟩
  · rintro ⟨a, c, b⟩; exact ⟨⟨a, b⟩, c⟩

/-- sendFgBg on a colour terminal (`xl_sendFgBg_effect` has the description) -/
theorem col_sendFgBg_effect {rw} {rc : RenderCfg} (C : ColCaps rc) (hfit : FitOk0 rc) {t : Term} (g : Good rw t)
    (hpr : PenReset t) (fg bg attr : Nat) :
    t.feed (Render.sendFgBg rc fg bg attr).1 = withPen t { t.pen with fg := fgSel rc fg bg, bg := bgSel rc fg bg } ∧
      (Render.sendFgBg rc fg bg attr).2 = attr := by
  have h1 : t.pen.fg = .default := by rw [hpr.2]
  have h2 : t.pen.bg = .default := by rw [hpr.2]
  rw [sendFgBg_unfold rc C.colors hfit C.coh1]
  refine ⟨?_, rfl⟩
  simp only []
  rw [← feed_append]
  -- `op`, when either colour is ColorReset
  generalize hp0 : (if fg = colorReset ∨ bg = colorReset then ({ t.pen with fg := (opSel rc).1, bg := (opSel rc).2 } : Pen) else t.pen) = p0
  have e0 : t.feed (if fg = colorReset ∨ bg = colorReset then tp rc rc.ti.resetFgBg else []) = withPen t p0 := by
    rw [← hp0]; split
    · exact C.reset g hpr
    · rfl
  rw [e0]
  have g0 := good_withPen g p0
  have hover : ∀ a b : ColorSel, ({ p0 with fg := a, bg := b } : Pen) = { t.pen with fg := a, bg := b } := by
    intro a b; rw [← hp0]; split <;> rfl
  by_cases hA : rc.truecolor = true ∧ (!rc.ti.setFgBgRGB.isEmpty) = true ∧ Color.isRGB fg = true ∧ Color.isRGB bg = true
  · rw [if_pos hA]
    obtain ⟨r, gg, b, hr, hg, hb, e1, e2⟩ := rgb_forms fg hA.2.2.1
    obtain ⟨r', g', b', hr', hg', hb', e1', e2'⟩ := rgb_forms bg hA.2.2.2
    have hne : rc.ti.setFgBgRGB = setfbRGB := by
      rcases C.fbRGB with h | h
      · have := hA.2.1; simp [h] at this
      · exact h
    have hF : dirF rc fg := by
      refine ⟨hA.1, hA.2.2.1, ?_⟩
      rcases C.coh2 with h | h
      · have := hA.2.1; simp [h] at this
      · simp [h]
    have hB : dirF rc bg := ⟨hA.1, hA.2.2.2, hF.2.2⟩
    have c1 : colSel rc fg = .rgb r gg b := by unfold colSel; rw [if_pos ((hasRGB_iff_dirF rc fg).2 hF), e2]
    have c2 : colSel rc bg = .rgb r' g' b' := by unfold colSel; rw [if_pos ((hasRGB_iff_dirF rc bg).2 hB), e2']
    have f1 : fgSel rc fg bg = .rgb r gg b := by unfold fgSel; rw [c1, if_neg (by simp)]
    have f2 : bgSel rc fg bg = .rgb r' g' b' := by unfold bgSel; rw [c2, if_neg (by simp)]
    rw [hne, e1, e1']
    show (withPen t p0).feed (tp rc (parm setfbRGB (ints [(r : Int), (gg : Int), (b : Int), (r' : Int), (g' : Int), (b' : Int)]))) = _
    rw [parm_setfbRGB, f1, f2, ← hover]
    exact ((sgrActs_ext2 38 r gg b (.inl rfl) hr hg hb).append
      (sgrActs_ext2 48 r' g' b' (.inr (.inl rfl)) hr' hg' hb')).tp_feed rc g0
  · rw [if_neg hA, ← feed_append, fPiece C g0, ← feed_append, bPiece C (good_withPen g0 _),
      palPiece C (good_withPen (good_withPen g0 _) _) _ _ _ _ (fitColor_idx hfit fg) (fitColor_idx hfit bg)]
    have cf := hasRGB_iff_dirF rc fg
    have cb := hasRGB_iff_dirF rc bg
    have r1 : ∀ c, Color.isRGB c = true → rgbSel c ≠ .default := by intro c _; simp [rgbSel]
    subst hp0
    by_cases hR : fg = colorReset ∨ bg = colorReset <;>
    by_cases dF : dirF rc fg <;> by_cases dB : dirF rc bg <;> by_cases vF : Color.valid fg = true <;>
      by_cases vB : Color.valid bg = true <;>
      simp [withPen, fgSel, bgSel, colSel, hR, dF, dB, cf.2, cb.2, cf, cb, vF, vB, h1, h2, C.colors, rgbSel]

/-- the attributes sendFgBg hands back: on a monochrome terminal a dark foreground flips reverse video (tscreen.go:756) -/
def effAttr (rc : RenderCfg) (fg attr : Nat) : Nat := if monoFlip rc fg = true then attr ^^^ Render.attrReverse else attr

/-- the attributes sendFgBg hands back differ from `attr` in reverse video (`attrReverse` = 2²) only -/
theorem bit_effAttr (rc : RenderCfg) (fg a b i : Nat) (hb : b = 2^i) :
    bit (effAttr rc fg a) b = (bit a b != (decide (i = 2) && monoFlip rc fg)) := by
  have tb : ∀ a, bit a b = a.testBit i := fun a => by unfold bit; rw [hb, Nat.testBit_eq_decide_div_mod_eq]
  unfold effAttr; cases monoFlip rc fg
  · simp
  · rw [if_pos rfl, tb, tb, show Render.attrReverse = 2^2 from rfl, Nat.testBit_xor, Nat.testBit_two_pow]
    by_cases h : i = 2 <;> simp [h, eq_comm]

/-- sendFgBg on a monochrome description (tscreen.go:741-758 and, for a foreground that fits neither black nor white, the
    fall-through into the colour code, where every string is empty): nothing is written; the attributes come back with
    reverse video flipped for a dark foreground -/
theorem mono_sendFgBg {rc : RenderCfg} (M : Mono rc) (fg bg attr : Nat) :
    Render.sendFgBg rc fg bg attr = ([], effAttr rc fg attr) := by
  have hwb : Render.colorWhite ≠ Render.colorBlack := by decide
  unfold Render.sendFgBg effAttr monoFlip
  simp only [M.colors, M.setFg, M.setBg, M.setFgBg, M.reset, M.fRGB, M.bRGB, M.fbRGB]
  by_cases hv : Color.valid fg = true
  · by_cases hw : rc.fit0 fg = Render.colorWhite
    · simp [hv, hw, hwb]
    · by_cases hb : rc.fit0 fg = Render.colorBlack
      · simp [hv, hb, Ne.symm hwb]
      · simp [hv, hw, hb]
  · simp [hv]

theorem sel_mono {rc : RenderCfg} (M : Mono rc) (f b : Nat) : fgSel rc f b = .default ∧ bgSel rc f b = .default := by
  simp [fgSel, bgSel, colSel, hasRGB, M.fRGB, M.colors, opSel, M.reset, opAix, opPc]

/-- **sendFgBg on the emulator, every terminal of the class**: with default colours in the pen (the style block and clearScreen
call it right after `sgr0`), the colours become what the two colour values denote on this terminal (`colSel`): default for
`ColorDefault`/`ColorReset`/invalid and on monochrome terminals, the exact RGB value in direct-colour mode, the palette index for
palette colours the terminal has, and the FITTED palette colour (`rc.fit`) for everything else; the attributes handed back are
`effAttr` -/
theorem xl_sendFgBg_effect {rw} {rc : RenderCfg} (hx : CapsOk rc.ti = true) (hfit : FitOk rc) {t : Term} (g : Good rw t)
    (hpr : PenReset t) (fg bg attr : Nat) :
    t.feed (Render.sendFgBg rc fg bg attr).1 = withPen t { t.pen with fg := fgSel rc fg bg, bg := bgSel rc fg bg } ∧
      (Render.sendFgBg rc fg bg attr).2 = effAttr rc fg attr := by
  rcases xl_colcaps hx with C | M
  · have := col_sendFgBg_effect C (hfit C.ncol) g hpr fg bg attr
    refine ⟨this.1, ?_⟩
    rw [this.2]; simp [effAttr, monoFlip, C.colors]
  · rw [mono_sendFgBg M, (sel_mono M _ _).1, (sel_mono M _ _).2]
    refine ⟨?_, rfl⟩
    rw [pen_eta_fgbg _ (by rw [hpr.2]) (by rw [hpr.2])]; rfl

/-! From here on the pen is a variable on top of a terminal `t` that is `Good`: `withPen t p`. -/

theorem stylePiece {rw} {rc : RenderCfg} {t : Term} (g : Good rw t) (p : Pen) (k : Nat) (hk : k ≤ 5) (s : Bytes)
    (hs : s = [] ∨ s = ulStyleStd k) :
    (withPen t p).feed (tp rc s) = withPen t { p with ul := if (!s.isEmpty) = true then k else p.ul } := by
  rcases hs with rfl | rfl
  · simp [withPen]
  · have : ((!(ulStyleStd k).isEmpty) = true) := by simp [ulStyleStd]
    rw [if_pos this, tp_clean rc _ (by
      intro b hb; simp only [ulStyleStd, List.mem_cons, List.not_mem_nil, or_false] at hb
      rcases hb with h | h | h | h | h | h <;> omega), ulStyle_effect (good_withPen g p) k hk]
    rfl

theorem ulColour_effect {rw} {rc : RenderCfg} (U : UCaps rc) {t : Term} (g : Good rw t) (p : Pen) (h2 : p.ulColor = .default) (uc : Nat) :
    (withPen t p).feed (if (!rc.d.underColor.isEmpty) = true ∨ (!rc.d.underRGB.isEmpty) = true then
          if uc = colorReset then tp rc rc.d.underFg
          else if Color.isRGB uc = true then
            if (!rc.d.underRGB.isEmpty) = true then tp rc (parm rc.d.underRGB (ints (Render.rgbOf uc)))
            else tp rc (parm rc.d.underColor (ints [((Render.fitColor rc uc % 256 : Nat) : Int)]))
          else if Color.valid uc = true then tp rc (parm rc.d.underColor (ints [((uc % 256 : Nat) : Int)]))
          else []
        else []) = withPen t { p with ulColor := ulSel rc uc } := by
  have gp := good_withPen g p
  have keep : ulSel rc uc = .default → withPen t p = withPen t { p with ulColor := ulSel rc uc } := fun hc => by rw [hc, ← h2]
  rcases U.uc with e | e
  · have e' : rc.d.underRGB.isEmpty = true := by rw [U.coh, e]; rfl
    rw [if_neg (by simp [e', e])]
    exact keep (by simp [ulSel, e])
  · have ne : rc.d.underColor.isEmpty = false := by rw [e]; rfl
    have ne' : rc.d.underRGB.isEmpty = false := by rw [U.coh, ne]
    rw [if_pos (by simp [ne])]
    by_cases hr : uc = colorReset
    · rw [if_pos hr]
      have : ulSel rc uc = .default := by simp [ulSel, hr]
      rcases U.ufg with h | h
      · rw [h, tp_nil]; exact keep this
      · rw [h, tp_clean rc _ (by decide), ulReset_effect gp, this]; rfl
    · rw [if_neg hr]
      by_cases hrgb : Color.isRGB uc = true
      · obtain ⟨r, gg, b, hr', hg, hb, e1, e2⟩ := rgb_forms uc hrgb
        rw [if_pos hrgb, if_pos (by simp [ne']), U.urgb.resolve_left (by intro h; simp [h] at ne'), e1]
        show (withPen t p).feed (tp rc (parm ulRGB (ints [(r : Int), (gg : Int), (b : Int)]))) = _
        rw [parm_ulRGB, show ulSel rc uc = .rgb r gg b by simp [ulSel, ne, hr, hrgb, e2]]
        exact (sgrActs_colon 58 (.inr (.inr rfl)) (.rgb r gg b) ((subparams_dec 2).colon (subparams_nil.colon
          ((subparams_dec r).colon ((subparams_dec gg).colon (subparams_dec b))))) rfl (by simp [colorOk, hr', hg, hb])).tp_feed rc gp
      · rw [if_neg hrgb]
        by_cases hv : Color.valid uc = true
        · rw [if_pos hv, e, parm_ulIdx, show ulSel rc uc = .idx (uc % 256) by simp [ulSel, ne, hr, hrgb, hv]]
          exact (sgrActs_colon 58 (.inr (.inr rfl)) (.idx (uc % 256)) ((subparams_dec 5).colon (subparams_dec _)) rfl
            (by simp [colorOk]; omega)).tp_feed rc gp
        · rw [if_neg hv]
          exact keep (by simp [ulSel, ne, hr, hrgb, hv])

/-- the underline-style string written for style `us`, and what `ulStyleOf` says then -/
theorem ulStyle_string {rc : RenderCfg} (U : UCaps rc) {us : Nat} (h0 : us ≠ 0) :
    ∃ k s, k ≤ 5 ∧ (s = [] ∨ s = ulStyleStd k) ∧
      (if us = 2 then tp rc rc.d.doubleUnder else if us = 3 then tp rc rc.d.curlyUnder
        else if us = 4 then tp rc rc.d.dottedUnder else if us = 5 then tp rc rc.d.dashedUnder else []) = tp rc s ∧
      ulStyleOf rc us = if (!s.isEmpty) = true then k else if rc.ti.underline.isEmpty = true then 0 else 1 := by
  by_cases h2 : us = 2
  · exact ⟨2, _, by omega, U.du, if_pos h2, by simp [ulStyleOf, h2]⟩
  by_cases h3 : us = 3
  · exact ⟨3, _, by omega, U.cu, by rw [if_neg h2, if_pos h3], by simp [ulStyleOf, h3]⟩
  by_cases h4 : us = 4
  · exact ⟨4, _, by omega, U.dou, by rw [if_neg h2, if_neg h3, if_pos h4], by simp [ulStyleOf, h4]⟩
  by_cases h5 : us = 5
  · exact ⟨5, _, by omega, U.dau, by rw [if_neg h2, if_neg h3, if_neg h4, if_pos h5], by simp [ulStyleOf, h5]⟩
  · exact ⟨0, [], by omega, .inl rfl, by rw [if_neg h2, if_neg h3, if_neg h4, if_neg h5, tp_nil],
      by simp [ulStyleOf, h0, h2, h3, h4, h5]⟩

/-- **the underline part of the style block**: underline colour (indexed, direct, reset), `smul`, underline style -/
theorem xl_underline_effect {rw} {rc : RenderCfg} (U : UCaps rc) {t : Term} (g : Good rw t) (p : Pen)
    (h1 : p.ul = 0) (h2 : p.ulColor = .default) (us uc : Nat) :
    (withPen t p).feed (Render.underline rc us uc) =
      withPen t { p with ul := ulStyleOf rc us, ulColor := if us = 0 then .default else ulSel rc uc } := by
  unfold Render.underline
  by_cases h0 : us = 0
  · simp only [h0, if_true, ulStyleOf]
    rw [← h1, ← h2]; rfl
  · simp only [h0, if_false]
    rw [← feed_append, ← feed_append, ulColour_effect U g p h2]
    -- `smul`, where the description has one
    obtain ⟨p', eU, hp'⟩ := opt_attr (rc := rc) g { p with ulColor := ulSel rc uc } true rc.ti.underline 4 (by decide) U.underline
      (·.ul) ({ · with ul := · }) 1 (fun _ => rfl) fun _ => rfl
    rw [show tp rc rc.ti.underline = (if true = true then tp rc rc.ti.underline else []) from rfl, eU]
    subst hp'
    obtain ⟨k, s, hk, hs, es, eo⟩ := ulStyle_string U h0
    rw [es, stylePiece g _ k hk s hs, eo]
    cases hE : s.isEmpty <;> cases hU : rc.ti.underline.isEmpty <;> simp [h1]

/-- the hyperlink part of the style block for a style without URL: OSC 8 off — or nothing at all on a terminal without
    hyperlink strings, where no hyperlink is active in the first place (`Quiet`) -/
theorem urlTail_effect {rw} {rc : RenderCfg}
    (D : (rc.d.enterUrl = urlOpen ∧ rc.d.exitUrl = urlClose) ∨ (rc.d.enterUrl = [] ∧ rc.d.exitUrl = [])) {t : Term} (g : Good rw t)
    (q : rc.d.enterUrl = [] → t.linkKnown = true ∧ t.pen.link = none) :
    t.feed (if (!rc.d.enterUrl.isEmpty) = true then tp rc rc.d.exitUrl else []) =
      { t with linkKnown := true, pen := { t.pen with link := none } } := by
  rcases D with ⟨h1, h2⟩ | ⟨h1, h2⟩
  · rw [if_pos (by rw [h1]; decide), h2, tp_clean rc urlClose (by decide)]; exact urlClose_effect g
  · rw [if_neg (by rw [h1]; decide)]
    obtain ⟨q1, q2⟩ := q h1
    show t = _
    cases t with | mk cfg grid other cx cy pw pen pk lk ck modes st sv svo last mal blocks =>
    cases pen
    simp only at q1 q2
    subst q1; subst q2; rfl

/-- **`CapsFx.pen` for the class**: the whole `if style != t.curstyle` block of drawCell (tscreen.go:841-910) — `sgr0`,
sendFgBg, bold, underline colour / `smul` / underline style, reverse, blink, dim, italic, strike-through, hyperlink off —
for EVERY style without hyperlink, on every terminal of the class: the emulator's pen becomes exactly `penOf rc s`, pen and
hyperlink state are known, the parser is back in the ground state and nothing else has changed. -/
theorem xl_setPen_effect {rw} {rc : RenderCfg} (hx : CapsOk rc.ti = true) (hd : rc.d = derive rc.ti) (hfit : FitOk rc)
    {t : Term} (g : Good rw t) (q : Quiet rc t) (s : Style) (hurl : s.url = "") :
    t.feed (Render.render rc (.setPen s)) = { t with pen := penOf rc s, penKnown := true, linkKnown := true } := by
  have F := tiFacts hx
  obtain ⟨U, D⟩ := xl_dOk hx hd
  have g0 := good_reset g
  obtain ⟨hs1, hs2⟩ := xl_sendFgBg_effect hx hfit g0 ⟨rfl, rfl⟩ s.fg s.bg s.attrs
  obtain ⟨cb, hcb⟩ : ∃ cb, Render.sendFgBg rc s.fg s.bg s.attrs = (cb, effAttr rc s.fg s.attrs) := ⟨_, Prod.ext rfl hs2⟩
  rw [hcb] at hs1
  have e : Render.render rc (.setPen s) =
      tp rc rc.ti.attrOff ++ cb ++ (if bit (effAttr rc s.fg s.attrs) Render.attrBold then tp rc rc.ti.bold else []) ++
      Render.underline rc s.ulStyle s.ulColor ++
      (if bit (effAttr rc s.fg s.attrs) Render.attrReverse then tp rc rc.ti.reverse else []) ++
      (if bit (effAttr rc s.fg s.attrs) Render.attrBlink then tp rc rc.ti.blink else []) ++
      (if bit (effAttr rc s.fg s.attrs) Render.attrDim then tp rc rc.ti.dim else []) ++
      (if bit (effAttr rc s.fg s.attrs) Render.attrItalic then tp rc rc.ti.italic else []) ++
      (if bit (effAttr rc s.fg s.attrs) Render.attrStrike then tp rc rc.ti.strikeThrough else []) ++
      (if (!rc.d.enterUrl.isEmpty) = true then tp rc rc.d.exitUrl else []) := by
    simp only [Render.render, Render.setPen, hcb, hurl,
      bit, ne_eq, not_true_eq_false, if_false, decide_eq_true_eq]
  rw [e]
  simp only [bit_effAttr rc _ _ Render.attrBold 0 rfl, bit_effAttr rc _ _ Render.attrReverse 2 rfl, bit_effAttr rc _ _ Render.attrBlink 1 rfl,
    bit_effAttr rc _ _ Render.attrDim 4 rfl, bit_effAttr rc _ _ Render.attrItalic 5 rfl, bit_effAttr rc _ _ Render.attrStrike 6 rfl,
    Nat.reduceEqDiff, decide_false, decide_true, Bool.false_and, Bool.true_and, Bool.bne_false]
  simp only [← feed_append]
  rw [xl_attrOff_effect hx g, hs1]
  generalize hp0 : ({ (reset t).pen with fg := fgSel rc s.fg s.bg, bg := bgSel rc s.fg s.bg } : Pen) = p0
  obtain ⟨p1, e1, hp1⟩ := opt_attr (rc := rc) g0 p0 (bit s.attrs Render.attrBold) rc.ti.bold 1 (by decide) F.bold
    (·.bold) ({ · with bold := · }) true (fun _ => rfl) fun _ => rfl
  rw [e1]
  have u1 : p1.ul = 0 := by rw [hp1, ← hp0]; rfl
  have u2 : p1.ulColor = .default := by rw [hp1, ← hp0]; rfl
  rw [xl_underline_effect U g0 p1 u1 u2]
  generalize hp2 : ({ p1 with ul := ulStyleOf rc s.ulStyle, ulColor := if s.ulStyle = 0 then .default else ulSel rc s.ulColor } : Pen) = p2
  obtain ⟨p3, e3, hp3⟩ := opt_attr (rc := rc) g0 p2 (bit s.attrs Render.attrReverse != monoFlip rc s.fg) rc.ti.reverse 7 (by decide)
    F.reverse (·.reverse) ({ · with reverse := · }) true (fun _ => rfl) fun _ => rfl
  rw [e3]
  obtain ⟨p4, e4, hp4⟩ := opt_attr (rc := rc) g0 p3 (bit s.attrs Render.attrBlink) rc.ti.blink 5 (by decide) F.blink
    (·.blink) ({ · with blink := · }) true (fun _ => rfl) fun _ => rfl
  rw [e4]
  obtain ⟨p5, e5, hp5⟩ := opt_attr (rc := rc) g0 p4 (bit s.attrs Render.attrDim) rc.ti.dim 2 (by decide) F.dim
    (·.dim) ({ · with dim := · }) true (fun _ => rfl) fun _ => rfl
  rw [e5]
  obtain ⟨p6, e6, hp6⟩ := opt_attr (rc := rc) g0 p5 (bit s.attrs Render.attrItalic) rc.ti.italic 3 (by decide) F.italic
    (·.italic) ({ · with italic := · }) true (fun _ => rfl) fun _ => rfl
  rw [e6]
  obtain ⟨p7, e7, hp7⟩ := opt_attr (rc := rc) g0 p6 (bit s.attrs Render.attrStrike) rc.ti.strikeThrough 9 (by decide) F.strike
    (·.strike) ({ · with strike := · }) true (fun _ => rfl) fun _ => rfl
  rw [e7]
  have hp : p7 = { penOf rc s with link := t.pen.link } := by
    subst hp7; subst hp6; subst hp5; subst hp4; subst hp3; subst hp2; subst hp1; subst hp0
    simp only [reset, Bool.if_true_left, Bool.decide_eq_true, Bool.or_false]
    simp [penOf]
  have ql : rc.d.enterUrl = [] → (withPen (reset t) p7).linkKnown = true ∧ (withPen (reset t) p7).pen.link = none :=
    fun h => ⟨(q.link h).1, (congrArg Pen.link hp).trans (q.link h).2⟩
  rw [urlTail_effect D (good_withPen g0 p7) ql, hp]
  simp [withPen, reset, penOf, hurl]

/-- the five `cnorm` forms of the class: the cursor becomes visible; blink (`?12`) / `34` / the linux console cursor setting
    may change, nothing else -/
theorem showForm_effect {rw} {t : Term} (g : Good rw t) (s : Bytes) (hs : s ∈ showForms) :
    ∃ m', t.feed s = { t with modes := m' } ∧ ModesOk t.modes m' ∧ m'.cursorVisible = true ∧
      m'.cursorShape = t.modes.cursorShape := by
  have v := modeFx_25 (rw := rw) true
  have b12 : ∀ on, ModeFx rw (csiSeq (0x3f :: dec 12) (if on then 0x68 else 0x6c)) ({ · with cursorBlink12 := on }) :=
    fun on => modeFx_dec 12 on _ (fun _ => by simp [decMode]) fun _ => ⟨rfl, rfl, rfl, rfl, rfl⟩
  have sm34 : ModeFx rw (csiSeq (dec 34) 0x68) ({ · with sm34 := true }) :=
    ⟨fun {t} g => by rw [(csiParams_dec 34).feed t g.st 0x68 (by omega)]; simp [dispatchPlain, flat, eachParam, ansiMode],
     fun _ => ⟨rfl, rfl, rfl, rfl, rfl⟩⟩
  simp only [showForms, List.mem_cons, List.not_mem_nil, or_false] at hs
  rcases hs with rfl | rfl | rfl | rfl | rfl
  · exact v.cursor g fun _ => ⟨rfl, rfl⟩
  · exact ((b12 false).append v).cursor g fun _ => ⟨rfl, rfl⟩
  · exact (sm34.append v).cursor g fun _ => ⟨rfl, rfl⟩
  · exact ((b12 true).append v).cursor g fun _ => ⟨rfl, rfl⟩
  · exact (v.append (modeFx_linux 0 (by omega))).cursor g fun _ => ⟨rfl, rfl⟩

/-- **DECSCUSR** `ESC [ n SP q` for the seven cursor styles tcell has (0 default … 6 steady bar) -/
theorem decscusr_effect {rw} {t : Term} (g : Good rw t) (n : Nat) (hn : n < 7) :
    t.feed (decscusr n) = { t with modes := { t.modes with cursorShape := n } } := by
  have e : decscusr n = csiSeq [48 + n, 32] 0x71 := rfl
  rw [e, feed_csi t g.st _ _ (by intro b hb; simp at hb; rcases hb with h | h <;> omega) (by omega)]
  have hp : parseCsiBody [48 + n, 32] = some { priv := 0, params := [[some n]], inter := [32] } := by
    have : n = 0 ∨ n = 1 ∨ n = 2 ∨ n = 3 ∨ n = 4 ∨ n = 5 ∨ n = 6 := by omega
    rcases this with rfl | rfl | rfl | rfl | rfl | rfl | rfl <;> decide
  have h6 : n ≤ 6 := by omega
  simp [dispatchCsi, hp, flat, arg, h6]

theorem cursorStylesStd_get (cs : Nat) :
    cursorStylesStd[cs]? = if cs < 7 then some (decscusr cs) else none := by
  have : cs = 0 ∨ cs = 1 ∨ cs = 2 ∨ cs = 3 ∨ cs = 4 ∨ cs = 5 ∨ cs = 6 ∨ 7 ≤ cs := by omega
  rcases this with rfl | rfl | rfl | rfl | rfl | rfl | rfl | h
  all_goals first | rfl | skip
  have : ¬ cs < 7 := by omega
  rw [if_neg this]
  simp [cursorStylesStd]; omega

/-- **`CapsFx.show_` for the class**: showCursor (tscreen.go:977-991) with no cursor-colour request — `cnorm` in any of
the five forms of the class (nothing on a terminal without cursor-visibility strings, where the cursor is always visible), then
DECSCUSR for the cursor styles 0…6 when the screen has cursor-style strings (styles ≥ 7 do not exist in tcell; nothing is written
for them).  Only `modes` changes: the cursor is visible, the shape is the
requested one (or unchanged when no style string is written); the fields the draw invariant depends on are untouched. -/
theorem xl_show_effect {rw} {rc : RenderCfg} (hx : CapsOk rc.ti = true) (hd : rc.d = derive rc.ti) {t : Term} (g : Good rw t)
    (q : Quiet rc t) (cs cc : Nat) (hv : Color.valid cc = false) (hr : cc ≠ colorReset) :
    ∃ m', t.feed (Render.render rc (.showCursor cs cc)) = { t with modes := m' } ∧ ModesOk t.modes m' ∧
      m'.cursorVisible = true ∧ (cs < 7 → rc.d.cursorStyles ≠ none → m'.cursorShape = cs) ∧
      (7 ≤ cs ∨ rc.d.cursorStyles = none → m'.cursorShape = t.modes.cursorShape) := by
  have U := (xl_dOk hx hd).1
  have ecol : (if (!rc.d.cursorRGB.isEmpty) = true then
       (if cc = colorReset then tp rc rc.d.cursorFg
        else if Color.valid cc = true then tp rc (parm rc.d.cursorRGB (ints (Render.rgbOf cc))) else [])
     else []) = ([] : Bytes) := by
    simp [hv, hr]
  obtain ⟨m1, e1, mo1, v1, s1⟩ : ∃ m1, t.feed (tp rc rc.ti.showCursor) = { t with modes := m1 } ∧ ModesOk t.modes m1 ∧
      m1.cursorVisible = true ∧ m1.cursorShape = t.modes.cursorShape := by
    rcases (tiFacts hx).vis with h | h
    · rw [tp_strip]; exact showForm_effect g _ h.1
    · rw [h.1, tp_nil]; exact ⟨t.modes, rfl, ModesOk.refl _, q.vis h.2, rfl⟩
  have g1 : Good rw { t with modes := m1 } := good_of_eq g rfl rfl mo1 rfl
  simp only [Render.render, ecol, List.append_nil]
  rw [← feed_append, e1]
  rcases U.cstyles with hn | hs
  · rw [hn]
    exact ⟨m1, rfl, mo1, v1, fun _ h => absurd rfl h, fun _ => s1⟩
  · rw [hs]
    simp only [cursorStylesStd_get]
    by_cases h7 : cs < 7
    · simp only [if_pos h7, tp_clean rc (decscusr cs) (by
        intro b hb; simp only [decscusr, List.mem_cons, List.not_mem_nil, or_false] at hb
        rcases hb with h | h | h | h | h <;> omega)]
      rw [decscusr_effect g1 cs h7]
      refine ⟨{ m1 with cursorShape := cs }, rfl, mo1.trans ⟨rfl, rfl, rfl, rfl, rfl⟩, v1, fun _ _ => rfl, ?_⟩
      rintro (h | h)
      · omega
      · cases h
    · simp only [if_neg h7]
      refine ⟨m1, rfl, mo1, v1, fun h => absurd h h7, fun _ => s1⟩

/-- `ESC [ J` (ED 0) with the cursor at home erases every cell -/
theorem ed0_home_effect (t : Term) (hst : t.st = .ground) (hk : t.cursorKnown = true) (hx : t.cx = 0) (hy : t.cy = 0) :
    ∃ G : Grid, t.feed [27, 91, 74] = { t with grid := G } ∧ G.w = t.grid.w ∧ G.h = t.grid.h ∧
      ∀ x y, x < t.grid.w → y < t.grid.h → G.get x y = t.blankCell := by
  have := feed_csi_plain t hst [] 0x4a [[none]] (by simp) (by omega) rfl
  simp only [csiSeq, List.append_nil, List.cons_append, List.nil_append] at this
  refine ⟨(if (t.grid.get 0 0).cont then t.grid.clobber t.blocks 0 0 else t.grid).eraseSel t.blankCell
    (fun x y => decide (0 < y) || (decide (y = 0) && decide (0 ≤ x))), ?_, ?_, ?_, ?_⟩
  · rw [this]
    simp [dispatchPlain, flat, arg, eraseDisplay, hk, hx, hy]
  · simp only [Grid.eraseSel, Grid.build]; split <;> simp
  · simp only [Grid.eraseSel, Grid.build]; split <;> simp
  · intro x y hx' hy'
    simp only [Grid.eraseSel]
    rw [Grid.get_build _ _ _ _ _ (by split <;> simpa using hx') (by split <;> simpa using hy')]
    have : 0 < y ∨ y = 0 := by omega
    rcases this with h | h <;> simp [h]

/-- the three `clear` forms of the class (`ESC [ H ESC [ 2 J`, `ESC [ H ESC [ J`, and FF on a terminal that clears on FF —
    `Config.ffClears`, the Sun console): cursor home, every cell blank with the current background -/
theorem clearForm_effect {rw} {t : Term} (g : Good rw t) (s : Bytes) (hs : s ∈ clearForms) (hff : s = clearFF → t.cfg.ffClears = true) :
    ∃ G : Grid, t.feed s = { t with grid := G, cx := 0, cy := 0, pendingWrap := false, cursorKnown := true } ∧
      G.w = t.grid.w ∧ G.h = t.grid.h ∧ ∀ x y, x < t.grid.w → y < t.grid.h → G.get x y = t.blankCell := by
  simp only [clearForms, List.mem_cons, List.not_mem_nil, or_false] at hs
  rcases hs with rfl | rfl | rfl
  · exact ⟨_, clear_effect t g.st, rfl, rfl, fun x y hx hy => Grid.get_fill _ _ _ _ _ hx hy⟩
  · show ∃ G : Grid, t.feed ([27, 91, 72] ++ [27, 91, 74]) = _ ∧ _
    rw [← feed_append, cup_home_effect t g.st]
    obtain ⟨G, e, hw, hh, hc⟩ := ed0_home_effect
      { t with cx := 0, cy := 0, pendingWrap := false, cursorKnown := true } g.st rfl rfl rfl
    exact ⟨G, e, hw, hh, hc⟩
  · -- FF on a terminal that clears on it
    have e : t.feed [12] = t.clearHome := by
      have : t.feed [12] = if t.cfg.ffClears = true then t.clearHome else t.complain ("c0 " ++ hex2 12) := by
        simp [feedByte, g.st, feedGround, c0]
      rw [this, if_pos (hff rfl)]
    exact ⟨_, e, rfl, rfl, fun x y hx hy => Grid.get_fill _ _ _ _ _ hx hy⟩

/-- **`CapsFx.clear` for the class** — clearScreen (tscreen.go:1027): `sgr0`, hyperlink off, the colours of the style,
`clear`.  Every cell of the emulator grid becomes a known blank carrying the style's background (bce), the cursor is at
home, the pen is the style's colours and known; modes (cursor visibility and shape included) and size are unchanged. -/
theorem xl_clear_effect {rw} {rc : RenderCfg} (hx : CapsOk rc.ti = true) (hd : rc.d = derive rc.ti) (hfit : FitOk rc)
    {t : Term} (g : Good rw t) (q : Quiet rc t) (s : Style) :
    ∃ G : Grid, t.feed (Render.render rc (.clear s)) =
        { t with grid := G, cx := 0, cy := 0, pendingWrap := false, cursorKnown := true, penKnown := true, linkKnown := true,
                 pen := { fg := fgSel rc s.fg s.bg, bg := bgSel rc s.fg s.bg } } ∧
      G.w = t.grid.w ∧ G.h = t.grid.h ∧
      ∀ x y, x < t.grid.w → y < t.grid.h →
        G.get x y = { runes := [], pen := { bg := bgSel rc s.fg s.bg }, garbage := false, stamp := t.blocks } := by
  have F := tiFacts hx
  have D := (xl_dOk hx hd).2
  have eu : tp rc rc.d.exitUrl = (if (!rc.d.enterUrl.isEmpty) = true then tp rc rc.d.exitUrl else []) := by
    rcases D with ⟨h1, h2⟩ | ⟨h1, h2⟩
    · rw [if_pos (by rw [h1]; decide)]
    · rw [if_neg (by rw [h1]; decide), h2, tp_nil]
  simp only [Render.render]
  rw [eu, tp_strip rc rc.ti.clear]
  simp only [← feed_append]
  rw [xl_attrOff_effect hx g, urlTail_effect D (good_reset g) q.link]
  have g1 : Good rw ({ reset t with linkKnown := true, pen := { (reset t).pen with link := none } } : Term) :=
    good_of_eq g rfl rfl (.refl _) rfl
  rw [(xl_sendFgBg_effect hx hfit g1 ⟨rfl, rfl⟩ s.fg s.bg 0).1]
  have g2 := good_withPen g1 { ({ reset t with linkKnown := true, pen := { (reset t).pen with link := none } } : Term).pen with
    fg := fgSel rc s.fg s.bg, bg := bgSel rc s.fg s.bg }
  obtain ⟨G, e, hw, hh, hc⟩ := clearForm_effect g2 _ F.clear (fun h => q.ff h)
  refine ⟨G, ?_, hw, hh, ?_⟩
  · rw [e]; rfl
  · intro x y hx' hy'; rw [hc x y hx' hy']; rfl

/-- **the hypothesis `CfgB.fx` holds for every terminal description of the class**, whatever the draw configuration (as long as
it knows whether there is a hide-cursor string), the truecolor switch and the colour-fitting function (as long as it returns
palette entries where there is a palette, `FitOk`) -/
theorem xl_capsFx (dc : DrawCfg) {rc : RenderCfg} (hx : CapsOk rc.ti = true) (hd : rc.d = derive rc.ti) (hfit : FitOk rc)
    (hh : dc.hasHide = !rc.ti.hideCursor.isEmpty) : CapsFx dc rc :=
  { goto := fun _ x y g h1 h2 => xl_goto_effect hx g x y h1 h2
    pen := fun _ s g q hs => xl_setPen_effect hx hd hfit g q s hs
    hide := fun _ g h => xl_hide_effect hx g (by intro e; rw [hh, e] at h; cases h)
    hideEq := fun h => by rw [hh] at h; simpa using h
    show_ := fun t cs cc g q hv hr => by
      obtain ⟨m', e, mo, v, sh, _⟩ := xl_show_effect hx hd g q cs cc hv hr
      exact ⟨m', e, mo, v, sh⟩
    clear := fun t s g q => by
      obtain ⟨G, e, hw, hh, _⟩ := xl_clear_effect hx hd hfit g q s
      exact ⟨_, e, good_of_eq g rfl rfl (.refl _) rfl, ⟨fun _ => ⟨rfl, rfl⟩, q.vis, q.ff⟩, hw, hh, rfl, rfl⟩ }

end Tcell.LayerB
