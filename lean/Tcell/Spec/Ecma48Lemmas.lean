import Tcell.Spec.Ecma48
/-!
Compositional lemmas about the reference emulator `Tcell.Spec.Ecma48` (Layer B of C01/C13/C09/C04): what a complete,
well-formed control sequence with *symbolic* decimal parameters does to a terminal in the ground state.  Core Lean only.

The effect of a capability string on a symbolic terminal `t` with `t.st = .ground` is derived by cutting the string into
complete sequences (`feed_append`) and describing each body by the parameters it parses to: `CsiParams` (built from
`csiParams_dec`, `Subparams.colon`, `CsiParams.append`) with `CsiParams.feed`, for SGR `SgrActs` (what the parameters do,
alone or in front of others) with `SgrActs.feed` and `SgrActs.append`; `feed_csi` / `feed_osc_st` / `feed_osc_bel` for
bodies with private markers, intermediate bytes or text.
-/
namespace Tcell.Spec.Ecma48

open Tcell.Dec (showDec showDec_eq showDec_ne_nil showDec_allDigits)

/-- decimal rendering used for control-sequence parameters -/
abbrev dec (n : Nat) : List Nat := showDec n

namespace Term

@[simp] theorem feed_nil (t : Term) : t.feed [] = t := rfl
@[simp] theorem feed_cons (t : Term) (b : Nat) (bs : List Nat) : t.feed (b :: bs) = (t.feedByte b).feed bs := rfl

theorem feed_append (t : Term) (a b : List Nat) : (t.feed a).feed b = t.feed (a ++ b) := by
  simp [feed, List.foldl_append]

end Term

namespace Grid

@[simp] theorem set_w (g : Grid) (x y : Nat) (c : GCell) : (g.set x y c).w = g.w := by
  unfold set; split <;> rfl
@[simp] theorem set_h (g : Grid) (x y : Nat) (c : GCell) : (g.set x y c).h = g.h := by
  unfold set; split <;> rfl
@[simp] theorem fill_w (w h : Nat) (c : GCell) : (fill w h c).w = w := rfl
@[simp] theorem fill_h (w h : Nat) (c : GCell) : (fill w h c).h = h := rfl
@[simp] theorem build_w (w h : Nat) (f : Nat → Nat → GCell) : (build w h f).w = w := rfl
@[simp] theorem build_h (w h : Nat) (f : Nat → Nat → GCell) : (build w h f).h = h := rfl

/-! row-major indexing: `(x, y) ↦ y * w + x` is a bijection from the cells onto `[0, w * h)` -/

theorem idx_lt {w h x y : Nat} (hx : x < w) (hy : y < h) : y * w + x < w * h := by
  have h3 : (y + 1) * w ≤ h * w := Nat.mul_le_mul_right w (by omega)
  rw [Nat.add_mul] at h3
  rw [Nat.mul_comm w h]; omega

theorem idx_mod {w x : Nat} (y : Nat) (hx : x < w) : (y * w + x) % w = x := by
  rw [Nat.add_comm, Nat.add_mul_mod_self_right]; exact Nat.mod_eq_of_lt hx

theorem idx_div {w x : Nat} (y : Nat) (hx : x < w) : (y * w + x) / w = y := by
  rw [Nat.add_comm, Nat.add_mul_div_right _ _ (by omega), Nat.div_eq_of_lt hx]; omega

theorem get_out (g : Grid) (x y : Nat) (h : ¬ (x < g.w ∧ y < g.h)) : g.get x y = {} := by
  unfold get; simp [h]

theorem get_set (g : Grid) (x y x' y' : Nat) (c : GCell) :
    (g.set x y c).get x' y' = if x' = x ∧ y' = y ∧ x < g.w ∧ y < g.h then c else g.get x' y' := by
  unfold set
  split
  · rename_i hin
    unfold get
    by_cases hin' : x' < g.w ∧ y' < g.h
    · have hi' : y' * g.w + x' < g.cells.size := by rw [g.hsize]; exact idx_lt hin'.1 hin'.2
      by_cases he : x' = x ∧ y' = y
      · obtain ⟨rfl, rfl⟩ := he
        simp [hin, Array.getD, hi']
      · have hidx : y * g.w + x ≠ y' * g.w + x' := fun e =>
          he ⟨by rw [← idx_mod y' hin'.1, ← e, idx_mod y hin.1], by rw [← idx_div y' hin'.1, ← e, idx_div y hin.1]⟩
        have hc : ¬ (x' = x ∧ y' = y ∧ x < g.w ∧ y < g.h) := fun h => he ⟨h.1, h.2.1⟩
        simp only [hc, if_false, hin', and_self, if_true, Array.getD, Array.size_setIfInBounds, hi', dite_true]
        exact Array.getElem_setIfInBounds_ne hi' hidx
    · have : ¬ (x' = x ∧ y' = y ∧ x < g.w ∧ y < g.h) := fun h => hin' (by rw [h.1, h.2.1]; exact hin)
      simp [hin', this]
  · rename_i hin
    rw [if_neg (fun h => hin h.2.2)]

theorem get_set_other (g : Grid) (x y x' y' : Nat) (c : GCell) (hne : ¬ (x' = x ∧ y' = y)) :
    (g.set x y c).get x' y' = g.get x' y' := by
  rw [get_set, if_neg (fun h => hne ⟨h.1, h.2.1⟩)]

theorem get_fill (w h x y : Nat) (c : GCell) (hx : x < w) (hy : y < h) : (fill w h c).get x y = c := by
  simp [get, fill, hx, hy, Array.getD, idx_lt hx hy]

theorem get_build (w h x y : Nat) (f : Nat → Nat → GCell) (hx : x < w) (hy : y < h) : (build w h f).get x y = f x y := by
  simp [get, build, hx, hy, Array.getD, idx_lt hx hy, idx_mod y hx, idx_div y hx]

@[simp] theorem clobber_w (g : Grid) (s x y : Nat) : (g.clobber s x y).w = g.w := by
  unfold clobber; simp only; split <;> split <;> simp
@[simp] theorem clobber_h (g : Grid) (s x y : Nat) : (g.clobber s x y).h = g.h := by
  unfold clobber; simp only; split <;> split <;> simp

theorem clobber_noop (g : Grid) (s x y : Nat) (h0 : (g.get x y).cont = false) (h1 : (g.get (x + 1) y).cont = false) :
    g.clobber s x y = g := by
  simp [clobber, h0, h1]

end Grid

open Term

theorem parseNat_dec (n : Nat) : parseNat (dec n) = n := by
  induction n using Nat.strongRecOn with
  | _ n ih =>
    show parseNat (showDec n) = n
    rw [showDec_eq]
    by_cases h : n < 10
    · simp [h, parseNat]
    · have : parseNat (showDec (n / 10)) = n / 10 := ih (n / 10) (by omega)
      simp only [h, if_false, parseNat, List.foldl_append, List.foldl_cons, List.foldl_nil] at this ⊢
      omega

theorem dec_digits (n : Nat) : ∀ b ∈ dec n, 48 ≤ b ∧ b ≤ 57 := by
  intro b hb
  simpa [Tcell.Dec.isDigit] using showDec_allDigits n b hb

theorem semi_not_mem_dec (n : Nat) : 0x3b ∉ dec n := fun h => by have := dec_digits n _ h; omega
theorem colon_not_mem_dec (n : Nat) : 0x3a ∉ dec n := fun h => by have := dec_digits n _ h; omega

theorem parseNum_dec (n : Nat) : parseNum (dec n) = some (some n) := by
  have h1 : (dec n).isEmpty = false := by simpa using showDec_ne_nil n
  have h2 : (dec n).all isDigit = true := by
    rw [List.all_eq_true]; intro b hb; have := dec_digits n b hb; simp [isDigit, this.1, this.2]
  simp [parseNum, h1, h2, parseNat_dec]

@[simp] theorem parseNum_nil : parseNum [] = some none := rfl

theorem dec_lt10 (n : Nat) (h : n < 10) : dec n = [48 + n] := by
  show showDec n = _
  rw [showDec_eq]; simp [h]

theorem dec_append_digit (a d : Nat) (ha : 0 < a) (hd : d < 10) : dec (a * 10 + d) = dec a ++ [48 + d] := by
  show showDec (a * 10 + d) = showDec a ++ _
  rw [showDec_eq]
  have h1 : ¬ (a * 10 + d < 10) := by omega
  have h2 : (a * 10 + d) / 10 = a := by omega
  have h3 : (a * 10 + d) % 10 = d := by omega
  simp [h1, h2, h3]

theorem splitBy_noSep (sep : Nat) (a : List Nat) (h : sep ∉ a) : splitBy sep a = [a] := by
  induction a with
  | nil => rfl
  | cons b bs ih =>
    have hb : b ≠ sep := fun e => h (by simp [e])
    have hbs : sep ∉ bs := fun e => h (by simp [e])
    simp [splitBy, hb, ih hbs]

theorem splitBy_ne_nil (sep : Nat) (a : List Nat) : splitBy sep a ≠ [] := by
  cases a with
  | nil => simp [splitBy]
  | cons b bs =>
    unfold splitBy
    split
    · simp
    · split <;> simp

theorem splitBy_append (sep : Nat) (a b : List Nat) :
    splitBy sep (a ++ sep :: b) = splitBy sep a ++ splitBy sep b := by
  induction a with
  | nil => simp [splitBy]
  | cons x xs ih =>
    by_cases hx : x = sep
    · simp [splitBy, hx, ih]
    · cases hs : splitBy sep xs with
      | nil => exact absurd hs (splitBy_ne_nil sep xs)
      | cons p ps => simp [splitBy, hx, ih, hs]

@[simp] theorem allSome_nil {α : Type} : allSome ([] : List (Option α)) = some [] := rfl
@[simp] theorem allSome_cons_none {α : Type} (r : List (Option α)) : allSome (none :: r) = none := rfl
@[simp] theorem allSome_cons_some {α : Type} (a : α) (r : List (Option α)) :
    allSome (some a :: r) = (allSome r).map (a :: ·) := rfl

theorem allSome_append {α : Type} (l1 l2 : List (Option α)) :
    allSome (l1 ++ l2) = (allSome l1).bind fun a => (allSome l2).map (a ++ ·) := by
  induction l1 with
  | nil => cases h : allSome l2 <;> simp [h]
  | cons x xs ih =>
    cases x with
    | none => simp
    | some v =>
      simp only [List.cons_append, allSome_cons_some, ih]
      cases allSome xs <;> simp
      cases allSome l2 <;> simp

/-- fields separated by `sep`, each parsed by `f`: those of `a sep b` are those of `a` followed by those of `b` -/
theorem fields_append {α : Type} (f : List Nat → Option α) (sep : Nat) (a b : List Nat) (fa fb : List α)
    (ha : allSome ((splitBy sep a).map f) = some fa) (hb : allSome ((splitBy sep b).map f) = some fb) :
    allSome ((splitBy sep (a ++ sep :: b)).map f) = some (fa ++ fb) := by
  rw [splitBy_append, List.map_append, allSome_append, ha, hb]; rfl

/-- one parameter: its `:`-separated numbers -/
def parseParam (p : List Nat) : Option Param := allSome ((splitBy 0x3a p).map parseNum)

theorem parseParams_last (a : List Nat) (h : 0x3b ∉ a) : parseParams a = (parseParam a).map ([·]) := by
  show allSome ((splitBy 0x3b a).map parseParam) = _
  rw [splitBy_noSep _ _ h]
  cases h' : parseParam a <;> simp [List.map, h']

theorem parseParam_dec (n : Nat) : parseParam (dec n) = some [some n] := by
  unfold parseParam
  rw [splitBy_noSep _ _ (colon_not_mem_dec n)]
  simp [parseNum_dec]

/-- the text `a` of one parameter (digits and `:`) with the sub-parameters it parses to -/
structure Subparams (a : List Nat) (p : Param) : Prop where
  num : ∀ b ∈ a, (48 ≤ b ∧ b ≤ 57) ∨ b = 0x3a
  parse : parseParam a = some p

theorem subparams_dec (n : Nat) : Subparams (dec n) [some n] := ⟨fun b hb => Or.inl (dec_digits n b hb), parseParam_dec n⟩

theorem subparams_nil : Subparams [] [none] := ⟨by simp, rfl⟩

theorem Subparams.colon {a b p q} (ha : Subparams a p) (hb : Subparams b q) : Subparams (a ++ 0x3a :: b) (p ++ q) :=
  ⟨by simp only [List.forall_mem_append, List.forall_mem_cons]; exact ⟨ha.num, Or.inr trivial, hb.num⟩,
   fields_append parseNum 0x3a a b p q ha.parse hb.parse⟩

/-- a numeric CSI body (digits, `;`, `:`) with the parameters it parses to -/
structure CsiParams (a : List Nat) (pa : List Param) : Prop where
  num : ∀ b ∈ a, (48 ≤ b ∧ b ≤ 57) ∨ b = 0x3b ∨ b = 0x3a
  parse : parseParams a = some pa

theorem Subparams.params {a p} (h : Subparams a p) : CsiParams a [p] :=
  ⟨fun b hb => (h.num b hb).imp id Or.inr,
   by rw [parseParams_last a (fun hm => by have := h.num _ hm; omega), h.parse]; rfl⟩

theorem csiParams_dec (n : Nat) : CsiParams (dec n) [[some n]] := (subparams_dec n).params

theorem csiParams_nil : CsiParams [] [[none]] := subparams_nil.params

theorem CsiParams.append {a b pa pb} (ha : CsiParams a pa) (hb : CsiParams b pb) : CsiParams (a ++ 0x3b :: b) (pa ++ pb) :=
  ⟨by simp only [List.forall_mem_append, List.forall_mem_cons]; exact ⟨ha.num, Or.inr (Or.inl trivial), hb.num⟩,
   fields_append parseParam 0x3b a b pa pb ha.parse hb.parse⟩

/-- `which ; 5 ; n` / `which ; 2 ; r ; g ; b` bodies -/
def Term.ext5 (which n : Nat) : List Nat := dec which ++ 0x3b :: 0x35 :: 0x3b :: dec n
def Term.ext2 (which r g b : Nat) : List Nat := dec which ++ 0x3b :: 0x32 :: 0x3b :: (dec r ++ 0x3b :: (dec g ++ 0x3b :: dec b))

/-- `ESC [ body final` -/
def csiSeq (body : List Nat) (final : Nat) : List Nat := [0x1b, 0x5b] ++ body ++ [final]

theorem parseCsiBody_of_params (priv : Nat) (body : List Nat) (h : ∀ b ∈ body, (48 ≤ b ∧ b ≤ 57) ∨ b = 0x3b ∨ b = 0x3a)
    (hp : priv = 0 ∨ priv = 0x3f) :
    parseCsiBody (if priv = 0 then body else priv :: body) =
      (parseParams body).map fun ps => { priv := priv, params := ps, inter := [] } := by
  have hb : ∀ b ∈ body, isParamByte b = true ∧ ¬ (0x3c ≤ b ∧ b ≤ 0x3f) := by
    intro b hb
    rcases h b hb with h1 | rfl | rfl
    · simp [isParamByte]; omega
    · decide
    · decide
  have ht : body.takeWhile isParamByte = body := by
    simpa using List.takeWhile_append_of_pos (l₂ := []) fun b hb' => (hb b hb').1
  have hd : body.dropWhile isParamByte = [] := by
    simpa using List.dropWhile_append_of_pos (l₂ := []) fun b hb' => (hb b hb').1
  rcases hp with rfl | rfl
  · cases body with
    | nil => rfl
    | cons b r =>
      simp only [parseCsiBody, if_true, (hb b (by simp)).2, if_false, ht, hd]
      cases parseParams (b :: r) <;> simp
  · simp [parseCsiBody, ht, hd]
    cases parseParams body <;> simp

theorem parseCsiBody_private (body : List Nat) (h : ∀ b ∈ body, (48 ≤ b ∧ b ≤ 57) ∨ b = 0x3b ∨ b = 0x3a) :
    parseCsiBody (0x3f :: body) = (parseParams body).map fun ps => { priv := 0x3f, params := ps, inter := [] } :=
  parseCsiBody_of_params 0x3f body h (Or.inr rfl)

namespace Term

theorem with_ground (t : Term) (hst : t.st = .ground) : { t with st := .ground } = t := by
  cases t; simp at hst; subst hst; rfl

theorem feedByte_esc (t : Term) (hst : t.st = .ground) : t.feedByte 0x1b = { t with st := .esc } := by
  simp [feedByte, hst, feedGround, c0]

/-- bytes that a collecting parser state (`.csi`, `.osc`) pushes onto what it has collected so far -/
theorem feed_collect (t : Term) (st : List Nat → PState) (bs : List Nat)
    (h : ∀ b ∈ bs, ∀ rev, ({ t with st := st rev } : Term).feedByte b = { t with st := st (b :: rev) }) (rev : List Nat) :
    ({ t with st := st rev } : Term).feed bs = { t with st := st (bs.reverse ++ rev) } := by
  induction bs generalizing rev with
  | nil => simp
  | cons b bs ih =>
    rw [feed_cons, h b (by simp), ih (fun x hx => h x (by simp [hx]))]
    simp

/-- lexing of a complete control sequence: parameter/intermediate bytes are collected, the final byte dispatches -/
theorem feed_csi (t : Term) (hst : t.st = .ground) (body : List Nat) (final : Nat)
    (hbody : ∀ b ∈ body, 0x20 ≤ b ∧ b ≤ 0x3f) (hfinal : 0x40 ≤ final ∧ final ≤ 0x7e) :
    t.feed (csiSeq body final) = dispatchCsi t body final := by
  have e2 : ({ t with st := .esc } : Term).feedByte 0x5b = { t with st := .csi [] } := by simp [feedByte, feedEsc]
  have h1 : ¬ (0x20 ≤ final ∧ final ≤ 0x3f) := by omega
  have e3 : ∀ rev, ({ t with st := .csi rev } : Term).feedByte final = dispatchCsi { t with st := .ground } rev.reverse final := by
    intro rev; simp [feedByte, feedCsi, h1, hfinal.1, hfinal.2]
  show t.feed (0x1b :: 0x5b :: (body ++ [final])) = _
  have e : ∀ b ∈ body, ∀ rev, ({ t with st := .csi rev } : Term).feedByte b = { t with st := .csi (b :: rev) } :=
    fun b hb rev => by simp [feedByte, feedCsi, (hbody b hb).1, (hbody b hb).2]
  rw [feed_cons, feedByte_esc t hst, feed_cons, e2, ← feed_append, feed_collect t .csi body e, feed_cons, e3, feed_nil]
  simp [with_ground t hst]

/-- `ESC [ body final` with a purely numeric body (digits, `;`, `:`), fed to a terminal in the ground state,
    is `dispatchPlain` on the parsed parameters -/
theorem feed_csi_plain (t : Term) (hst : t.st = .ground) (body : List Nat) (final : Nat) (ps : List Param)
    (hbody : ∀ b ∈ body, (48 ≤ b ∧ b ≤ 57) ∨ b = 0x3b ∨ b = 0x3a) (hfinal : 0x40 ≤ final ∧ final ≤ 0x7e)
    (hps : parseParams body = some ps) :
    t.feed (csiSeq body final) = dispatchPlain t ps final := by
  rw [feed_csi t hst body final (fun b hb => by rcases hbody b hb with h | h | h <;> omega) hfinal]
  have := parseCsiBody_of_params 0 body hbody (Or.inl rfl)
  simp only [if_true] at this
  simp [dispatchCsi, this, hps]

theorem _root_.Tcell.Spec.Ecma48.CsiParams.feed {a pa} (h : CsiParams a pa) (t : Term) (hst : t.st = .ground) (final : Nat)
    (hfinal : 0x40 ≤ final ∧ final ≤ 0x7e) : t.feed (csiSeq a final) = dispatchPlain t pa final :=
  feed_csi_plain t hst a final pa h.num hfinal h.parse

theorem numeric_dec (n : Nat) : ∀ b ∈ dec n, (48 ≤ b ∧ b ≤ 57) ∨ b = 0x3b ∨ b = 0x3a := (csiParams_dec n).num

end Term

namespace Term

/-- the written-out recursion of `applySgr` is `sgrStep` with the recursive call as continuation -/
theorem applySgr_step (f : Nat) (p : Param) (rest : List Param) (t : Term) :
    applySgr (f + 1) (p :: rest) t = sgrStep (applySgr f) p rest t := by
  match p with
  | [] => rfl
  | [none] => rfl
  | [some n] => rfl
  | some n :: s :: subs => rfl
  | none :: s :: subs => rfl

/-- what SGR may change: pen (never its hyperlink), `penKnown`, the font selection in `modes`, complaints -/
def SgrFrame (t t' : Term) : Prop :=
  t'.st = t.st ∧ t'.cx = t.cx ∧ t'.cy = t.cy ∧ t'.pendingWrap = t.pendingWrap ∧ t'.grid = t.grid ∧ t'.other = t.other ∧
  t'.cursorKnown = t.cursorKnown ∧ t'.linkKnown = t.linkKnown ∧ t'.pen.link = t.pen.link ∧ t'.blocks = t.blocks ∧ t'.last = t.last

theorem SgrFrame.trans {a b c : Term} (h1 : SgrFrame a b) (h2 : SgrFrame b c) : SgrFrame a c := by
  obtain ⟨a1, a2, a3, a4, a5, a6, a7, a8, a9, a10, a11⟩ := h1
  obtain ⟨b1, b2, b3, b4, b5, b6, b7, b8, b9, b10, b11⟩ := h2
  exact ⟨b1.trans a1, b2.trans a2, b3.trans a3, b4.trans a4, b5.trans a5, b6.trans a6, b7.trans a7, b8.trans a8,
    b9.trans a9, b10.trans a10, b11.trans a11⟩

theorem sgrSimple_link (p p' : Pen) (n : Nat) (h : sgrSimple p n = some p') : p'.link = p.link := by
  have key : ((sgrSimple p n).map (fun q => q.link)).getD p.link = p.link := by
    simp [sgrSimple, apply_ite (Option.map (fun q : Pen => q.link)),
      apply_ite (fun o : Option (Option (String × String)) => o.getD p.link)]
  rw [h] at key
  simpa using key

theorem setExt_link (p : Pen) (w : Nat) (c : ColorSel) : (setExt p w c).link = p.link := by
  unfold setExt; split
  · rfl
  · split <;> rfl

/-- one SGR parameter, whatever the continuation: it is not called at all (an incomplete `38;…`), or once, on `rest` or a
    suffix of it; the terminal it is handed differs from `t` within the SGR frame -/
theorem sgrStep_spec (p : Param) (rest : List Param) (t : Term) :
    ∃ t', SgrFrame t t' ∧
      ((∀ k, sgrStep k p rest t = t') ∨ ∃ r, r.length ≤ rest.length ∧ ∀ k, sgrStep k p rest t = k r t') := by
  unfold sgrStep
  repeat' split
  all_goals first | refine ⟨_, ?_, Or.inl fun _ => rfl⟩ | refine ⟨_, ?_, Or.inr ⟨_, ?_, fun _ => rfl⟩⟩
  all_goals first
    | exact Nat.le_refl _
    | (simp only [List.length_cons]; omega)
    | exact ⟨rfl, rfl, rfl, rfl, rfl, rfl, rfl, rfl,
        by first | rfl | exact setExt_link _ _ _ | exact sgrSimple_link _ _ _ ‹_›, rfl, rfl⟩

/-- `sgrStep` only calls its continuation on `rest` or on a suffix of it -/
theorem sgrStep_congr (k k' : List Param → Term → Term) (p : Param) (rest : List Param) (t : Term)
    (h : ∀ r2 t', r2.length ≤ rest.length → k r2 t' = k' r2 t') : sgrStep k p rest t = sgrStep k' p rest t := by
  obtain ⟨t', _, h1 | ⟨r, hr, h1⟩⟩ := sgrStep_spec p rest t
  · rw [h1, h1]
  · rw [h1, h1, h r t' hr]

theorem applySgr_fuel : ∀ (f g : Nat) (ps : List Param) (t : Term), ps.length ≤ f → ps.length ≤ g →
    applySgr f ps t = applySgr g ps t := by
  intro f
  induction f with
  | zero =>
    intro g ps t hf _
    have : ps = [] := List.eq_nil_of_length_eq_zero (by omega)
    subst this
    cases g <;> rfl
  | succ f ih =>
    intro g ps t hf hg
    cases ps with
    | nil => cases g <;> rfl
    | cons p rest =>
      cases g with
      | zero => simp at hg
      | succ g =>
        rw [applySgr_step, applySgr_step]
        exact sgrStep_congr _ _ _ _ _ fun r2 t' h =>
          ih g r2 t' (by simp only [List.length_cons] at hf; omega) (by simp only [List.length_cons] at hg; omega)

theorem applySgr_frame : ∀ (f : Nat) (ps : List Param) (t : Term), SgrFrame t (applySgr f ps t) := by
  have refl : ∀ t, SgrFrame t t := fun t => ⟨rfl, rfl, rfl, rfl, rfl, rfl, rfl, rfl, rfl, rfl, rfl⟩
  intro f
  induction f with
  | zero => intro ps t; cases ps <;> exact refl t
  | succ f ih =>
    intro ps t
    cases ps with
    | nil => exact refl t
    | cons p rest =>
      rw [applySgr_step]
      obtain ⟨t', ht', h1 | ⟨r, _, h1⟩⟩ := sgrStep_spec p rest t
      · rw [h1]; exact ht'
      · rw [h1]; exact ht'.trans (ih r t')

theorem sgr_frame (t : Term) (ps : List Param) : SgrFrame t (t.sgr ps) := applySgr_frame _ _ _

theorem sgr_st (t : Term) (ps : List Param) : (t.sgr ps).st = t.st := (sgr_frame t ps).1

@[simp] theorem sgr_nil (t : Term) : t.sgr [] = t := by simp [sgr, applySgr]

/-- the SGR parameter text `a` — on its own, or followed by further parameters — acts on the terminal as `F` -/
structure SgrActs (a : List Nat) (F : Term → Term) : Prop where
  params : ∃ pa, CsiParams a pa ∧ ∀ (t : Term) (rest : List Param), t.sgr (pa ++ rest) = (F t).sgr rest

/-- `ESC [ a m` -/
theorem SgrActs.feed {a F} (h : SgrActs a F) (t : Term) (hst : t.st = .ground) : t.feed (csiSeq a 0x6d) = F t := by
  obtain ⟨pa, hp, hs⟩ := h.params
  have := hs t []
  rw [hp.feed t hst 0x6d (by omega)]
  simpa [dispatchPlain] using this

/-- `ESC [ a ; b m` = `ESC [ a m` followed by `ESC [ b m` -/
theorem SgrActs.append {a b F G} (ha : SgrActs a F) (hb : SgrActs b G) : SgrActs (a ++ 0x3b :: b) (fun t => G (F t)) := by
  obtain ⟨pa, hpa, hsa⟩ := ha.params
  obtain ⟨pb, hpb, hsb⟩ := hb.params
  exact ⟨pa ++ pb, hpa.append hpb, fun t rest => by rw [List.append_assoc, hsa, hsb]⟩

/-- a group of parameters `p ; ps` after which `sgrStep` continues with what follows the group -/
theorem SgrActs.of_step {a p ps F} (hp : CsiParams a (p :: ps))
    (h : ∀ (t : Term) (rest : List Param) k, sgrStep k p (ps ++ rest) t = k rest (F t)) : SgrActs a F :=
  ⟨p :: ps, hp, fun t rest => by
    show applySgr ((ps ++ rest).length + 1) (p :: (ps ++ rest)) t = _
    rw [applySgr_step, h]
    exact applySgr_fuel _ _ _ _ (by simp) (Nat.le_refl _)⟩

/-- a number `n` in the scope of `sgrSimple` (not 0, which also makes the pen known) -/
theorem sgrActs_simple (n : Nat) (f : Pen → Pen) (hs : ∀ p, sgrSimple p n = some (f p)) (hn : n ≠ 0) :
    SgrActs (dec n) fun t => { t with pen := f t.pen } :=
  .of_step (ps := []) (csiParams_dec n) fun t rest k => by
    have h38 : ¬ (n = 38 ∨ n = 48 ∨ n = 58) := by
      rintro (rfl | rfl | rfl) <;> cases hs {}
    have h10 : ¬ (n = 10 ∨ n = 11 ∨ n = 12) := by
      rintro (rfl | rfl | rfl) <;> cases hs {}
    simp [sgrStep, h38, hn, h10, hs]

/-- `0`, or no parameter at all: default pen (an open hyperlink stays open), and the pen is known again -/
theorem sgrActs_reset (a : List Nat) (ha : a = [] ∨ a = dec 0) :
    SgrActs a fun t => { t with pen := { link := t.pen.link }, penKnown := true } := by
  rcases ha with rfl | rfl
  · exact .of_step (ps := []) csiParams_nil fun t rest k => by simp [sgrStep]
  · exact .of_step (ps := []) (csiParams_dec 0) fun t rest k => by simp [sgrStep]

/-- `10`: primary font -/
theorem sgrActs_font0 : SgrActs (dec 10) fun t => { t with modes := { t.modes with altFont := 0 } } :=
  .of_step (ps := []) (csiParams_dec 10) fun t rest k => by simp [sgrStep]

/-- `38;5;n` / `48;5;n` / `58;5;n` -/
theorem sgrActs_ext5 (which n : Nat) (hw : which = 38 ∨ which = 48 ∨ which = 58) (hn : n ≤ 255) :
    SgrActs (ext5 which n) fun t => { t with pen := setExt t.pen which (.idx n) } :=
  .of_step ((csiParams_dec which).append ((csiParams_dec 5).append (csiParams_dec n))) fun t rest k => by
    simp [sgrStep, hw, hn]

/-- `38;2;r;g;b` / `48;2;r;g;b` / `58;2;r;g;b` -/
theorem sgrActs_ext2 (which r g b : Nat) (hw : which = 38 ∨ which = 48 ∨ which = 58) (hr : r ≤ 255) (hg : g ≤ 255) (hb : b ≤ 255) :
    SgrActs (ext2 which r g b) fun t => { t with pen := setExt t.pen which (.rgb r g b) } :=
  .of_step ((csiParams_dec which).append ((csiParams_dec 2).append ((csiParams_dec r).append
    ((csiParams_dec g).append (csiParams_dec b))))) fun t rest k => by simp [sgrStep, hw, colorOk, hr, hg, hb]

/-- the colon forms `38:5:n`, `38:2::r:g:b`, … (48, 58 alike): one parameter with sub-parameters -/
theorem sgrActs_colon (which : Nat) (hw : which = 38 ∨ which = 48 ∨ which = 58) {a subs} (c : ColorSel)
    (ha : Subparams a subs) (hc : colonColor subs = some c) (hok : colorOk c = true) :
    SgrActs (dec which ++ 0x3a :: a) fun t => { t with pen := setExt t.pen which c } :=
  .of_step (ps := []) ((subparams_dec which).colon ha).params fun t rest k => by
    have h4 : which ≠ 4 := by omega
    cases subs with
    | nil => simp [colonColor] at hc
    | cons s subs => simp [sgrStep, h4, hw, hc, hok]

/-- underline style `4:s` -/
theorem sgrActs_ulStyle (s : Nat) (hs : s ≤ 5) : SgrActs (dec 4 ++ 0x3a :: dec s) fun t => { t with pen := { t.pen with ul := s } } :=
  .of_step (ps := []) ((subparams_dec 4).colon (subparams_dec s)).params fun t rest k => by simp [sgrStep, hs]

/-- the sixteen colours of `30`–`37`, `40`–`47`, `90`–`97`, `100`–`107` -/
theorem sgrSimple_color (p : Pen) : ∀ n, n < 8 →
    sgrSimple p (30 + n) = some { p with fg := .idx n } ∧ sgrSimple p (40 + n) = some { p with bg := .idx n } ∧
    sgrSimple p (90 + n) = some { p with fg := .idx (n + 8) } ∧ sgrSimple p (100 + n) = some { p with bg := .idx (n + 8) }
  | 0, _ | 1, _ | 2, _ | 3, _ | 4, _ | 5, _ | 6, _ | 7, _ => ⟨rfl, rfl, rfl, rfl⟩
  | n + 8, h => absurd h (by omega)

end Term

namespace Term

/-- **CUP** `ESC [ r+1 ; c+1 H` (what `cup` = `\E[%i%p1%d;%p2%dH` expands to for row `r`, column `c`): the cursor goes
    to column `min c (w-1)`, row `min r (h-1)`, a pending wrap is cancelled; nothing else changes. -/
theorem cup_effect (t : Term) (hst : t.st = .ground) (r c : Nat) :
    t.feed (csiSeq (dec (r + 1) ++ 0x3b :: dec (c + 1)) 0x48) =
      { t with cx := min c (t.w - 1), cy := min r (t.h - 1), pendingWrap := false, cursorKnown := true } := by
  rw [((csiParams_dec (r + 1)).append (csiParams_dec (c + 1))).feed t hst 0x48 (by omega)]
  simp [dispatchPlain, flat, argCount, arg, cursorTo]

/-- `ESC [ H` homes the cursor -/
theorem cup_home_effect (t : Term) (hst : t.st = .ground) :
    t.feed [0x1b, 0x5b, 0x48] = { t with cx := 0, cy := 0, pendingWrap := false, cursorKnown := true } := by
  rw [show [0x1b, 0x5b, 0x48] = csiSeq [] 0x48 from rfl, csiParams_nil.feed t hst 0x48 (by omega)]
  simp [dispatchPlain, flat, argCount, arg, cursorTo]

/-- **ED 2** `ESC [ 2 J`: every cell becomes the blank cell (default pen with the current background colour,
    current stamp); cursor, pen and modes are unchanged -/
theorem ed2_effect (t : Term) (hst : t.st = .ground) :
    t.feed [0x1b, 0x5b, 0x32, 0x4a] = { t with grid := Grid.fill t.grid.w t.grid.h t.blankCell } := by
  rw [show [0x1b, 0x5b, 0x32, 0x4a] = csiSeq (dec 2) 0x4a from rfl, (csiParams_dec 2).feed t hst 0x4a (by omega)]
  simp [dispatchPlain, flat, arg, eraseDisplay, eraseAll]

theorem ed2_cells (t : Term) (hst : t.st = .ground) (x y : Nat) (hx : x < t.w) (hy : y < t.h) :
    (t.feed [0x1b, 0x5b, 0x32, 0x4a]).get x y = t.blankCell := by
  rw [ed2_effect t hst]
  exact Grid.get_fill _ _ _ _ _ hx hy

/-- `ESC [ H ESC [ 2 J` (`clear` of the xterm family) -/
theorem clear_effect (t : Term) (hst : t.st = .ground) :
    t.feed [0x1b, 0x5b, 0x48, 0x1b, 0x5b, 0x32, 0x4a] =
      { t with grid := Grid.fill t.grid.w t.grid.h t.blankCell, cx := 0, cy := 0, pendingWrap := false, cursorKnown := true } := by
  rw [show [0x1b, 0x5b, 0x48, 0x1b, 0x5b, 0x32, 0x4a] = [0x1b, 0x5b, 0x48] ++ [0x1b, 0x5b, 0x32, 0x4a] from rfl,
    ← feed_append, cup_home_effect t hst,
    ed2_effect { t with cx := 0, cy := 0, pendingWrap := false, cursorKnown := true } hst]
  rfl

theorem decmode_effect (t : Term) (hst : t.st = .ground) (n : Nat) (on : Bool) :
    t.feed (csiSeq (0x3f :: dec n) (if on then 0x68 else 0x6c)) = t.decMode n on := by
  rw [feed_csi t hst _ _ (fun b hb => by
    rcases List.mem_cons.mp hb with h | h
    · omega
    · have := dec_digits n b h; omega) (by cases on <;> decide)]
  cases on <;> simp [dispatchCsi, parseCsiBody_private _ (numeric_dec n), (csiParams_dec n).parse, eachParam]

/-- **DECSET** `ESC [ ? n h` -/
theorem decset_effect (t : Term) (hst : t.st = .ground) (n : Nat) :
    t.feed (csiSeq (0x3f :: dec n) 0x68) = t.decMode n true := decmode_effect t hst n true

/-- **DECRST** `ESC [ ? n l` -/
theorem decrst_effect (t : Term) (hst : t.st = .ground) (n : Nat) :
    t.feed (csiSeq (0x3f :: dec n) 0x6c) = t.decMode n false := decmode_effect t hst n false

/-- the mode-changing functions keep the parser in the ground state (so effects chain) -/
theorem decMode_st (t : Term) (n : Nat) (on : Bool) : (t.decMode n on).st = t.st := by
  simp [decMode, apply_ite Term.st, complain, saveCursor, swapScreens, restoreCursor, eraseAll]

/-- `ESC ] payload`, the payload free of controls: collected -/
theorem feed_osc_open (t : Term) (hst : t.st = .ground) (payload : List Nat)
    (h : ∀ b ∈ payload, 0x20 ≤ b ∧ b ≠ 0x7f ∧ (b = 0x9c → t.cfg.utf8 = true ∨ t.cfg.c1Controls = false)) :
    t.feed ([0x1b, 0x5d] ++ payload) = { t with st := .osc payload.reverse } := by
  have e : ∀ b ∈ payload, ∀ rev, ({ t with st := .osc rev } : Term).feedByte b = { t with st := .osc (b :: rev) } := by
    intro b hb rev
    obtain ⟨h0, h1, h2⟩ := h b hb
    have h3 : ¬ (b < 0x20 ∨ b = 0x7f) := by omega
    have h4 : b ≠ 0x07 ∧ b ≠ 0x1b := by omega
    simp [feedByte, feedOsc, h3, h4.1, h4.2]
    intro e1 hu hc
    rcases h2 e1 with h5 | h5 <;> simp [h5] at hu hc
  have e2 : ({ t with st := .esc } : Term).feedByte 0x5d = { t with st := .osc [] } := by simp [feedByte, feedEsc]
  show t.feed (0x1b :: 0x5d :: payload) = _
  rw [feed_cons, feedByte_esc t hst, feed_cons, e2, feed_collect t .osc payload e, List.append_nil]

/-- `ESC ] payload ESC \` (ST-terminated) with a payload free of controls = `dispatchOsc` on the payload -/
theorem feed_osc_st (t : Term) (hst : t.st = .ground) (payload : List Nat)
    (h : ∀ b ∈ payload, 0x20 ≤ b ∧ b ≠ 0x7f ∧ (b = 0x9c → t.cfg.utf8 = true ∨ t.cfg.c1Controls = false)) :
    t.feed ([0x1b, 0x5d] ++ payload ++ [0x1b, 0x5c]) = dispatchOsc t payload := by
  rw [← feed_append, feed_osc_open t hst payload h]
  simp [feedByte, feedOsc, feedOscEsc, with_ground t hst]

/-- `ESC ] payload BEL` -/
theorem feed_osc_bel (t : Term) (hst : t.st = .ground) (payload : List Nat)
    (h : ∀ b ∈ payload, 0x20 ≤ b ∧ b ≠ 0x7f ∧ (b = 0x9c → t.cfg.utf8 = true ∨ t.cfg.c1Controls = false)) :
    t.feed ([0x1b, 0x5d] ++ payload ++ [0x07]) = dispatchOsc t payload := by
  rw [← feed_append, feed_osc_open t hst payload h]
  simp [feedByte, feedOsc, with_ground t hst]

theorem splitFirst_append (l r : List Nat) (hl : ∀ b ∈ l, b ≠ 0x3b) : splitFirst (l ++ 0x3b :: r) = (l, some r) := by
  have hloop : ∀ (l acc : List Nat), (∀ b ∈ l, b ≠ 0x3b) →
      List.span.loop (· != 0x3b) (l ++ 0x3b :: r) acc = (acc.reverse ++ l, 0x3b :: r) := by
    intro l
    induction l with
    | nil => simp [List.span.loop]
    | cons x xs ih =>
      intro acc hl
      have hx' : (x != 0x3b) = true := by simpa using hl x (by simp)
      simp [List.span.loop, hx', ih (x :: acc) (fun b hb => hl b (by simp [hb]))]
  simp [splitFirst, List.span, hloop l [] hl]

/-- **hyperlink off** `ESC ] 8 ; ; ESC \` -/
theorem osc8_close_effect (t : Term) (hst : t.st = .ground) :
    t.feed [0x1b, 0x5d, 0x38, 0x3b, 0x3b, 0x1b, 0x5c] = { t with linkKnown := true, pen := { t.pen with link := none } } := by
  have := feed_osc_st t hst [0x38, 0x3b, 0x3b] (by simp)
  simp only [List.cons_append, List.nil_append] at this
  rw [this]
  have h1 : splitFirst [0x38, 0x3b, 0x3b] = ([0x38], some [0x3b]) := by decide
  have h2 : splitFirst [0x3b] = ([], some []) := by decide
  simp [dispatchOsc, h1, h2, isDigit, parseNat]

/-- **hyperlink on** `ESC ] 8 ; id ; uri ESC \` for a non-empty `uri` and an `id` without `;` -/
theorem osc8_open_effect (t : Term) (hst : t.st = .ground) (id uri : List Nat)
    (hid : ∀ b ∈ id, 0x20 ≤ b ∧ b ≠ 0x7f ∧ b ≠ 0x3b ∧ b ≠ 0x9c)
    (huri : ∀ b ∈ uri, 0x20 ≤ b ∧ b ≠ 0x7f ∧ b ≠ 0x9c) (hne : uri ≠ []) :
    t.feed ([0x1b, 0x5d] ++ (0x38 :: 0x3b :: (id ++ 0x3b :: uri)) ++ [0x1b, 0x5c]) =
      { t with linkKnown := true, pen := { t.pen with link := some (t.text id, t.text uri) } } := by
  rw [feed_osc_st t hst _ (by
    simp only [List.forall_mem_cons, List.forall_mem_append]
    exact ⟨by simp, by simp, fun b h => ⟨(hid b h).1, (hid b h).2.1, fun e => absurd e (hid b h).2.2.2⟩, by simp,
      fun b h => ⟨(huri b h).1, (huri b h).2.1, fun e => absurd e (huri b h).2.2⟩⟩)]
  have h1 : splitFirst (0x38 :: 0x3b :: (id ++ 0x3b :: uri)) = ([0x38], some (id ++ 0x3b :: uri)) :=
    splitFirst_append [0x38] _ (by simp)
  have h3 : uri.isEmpty = false := by cases uri <;> simp_all
  simp [dispatchOsc, h1, splitFirst_append id uri (fun b hb => (hid b hb).2.2.1), h3, isDigit, parseNat]

theorem feedByte_ascii (t : Term) (b : Nat) (hst : t.st = .ground) (hb : 0x20 ≤ b ∧ b < 0x7f)
    (hfont : t.modes.altFont = 0) (hacs : acsActive t.modes = false) : t.feedByte b = t.putGlyph b (t.widthOf b) := by
  have h1 : ¬ b < 0x20 := by omega
  have h2 : b ≠ 0x7f := by omega
  have h3 : b < 0x80 := by omega
  simp [feedByte, hst, feedGround, h1, h2, h3, printByte, hfont, hacs]

theorem widthOf_one (t : Term) (cp : Int) (hw : t.cfg.utf8 = true → t.cfg.rw cp = 1) : t.widthOf cp = 1 := by
  unfold widthOf
  cases hu : t.cfg.utf8 with
  | false => simp
  | true => simp [hw hu]

/-- closed form of printing a narrow glyph in replace mode with the cursor known and no wrap pending -/
theorem putNarrow_eq (t : Term) (cp : Int) (hk : t.cursorKnown = true) (hpw : t.pendingWrap = false)
    (hirm : t.modes.insertMode = false) :
    t.putNarrow cp =
      { t with
        grid := (t.grid.clobber t.blocks t.cx t.cy).set t.cx t.cy (t.glyphCell cp)
        cx := if t.cx + 1 < t.grid.w then t.cx + 1 else t.cx
        pendingWrap := if t.cx + 1 < t.grid.w then false else t.modes.autoMargin
        last := some (t.cx, t.cy, (if t.cx + 1 < t.grid.w then t.cx + 1 else t.cx), t.cy,
                      (if t.cx + 1 < t.grid.w then false else t.modes.autoMargin)) } := by
  by_cases hx : t.cx + 1 < t.grid.w <;> simp [putNarrow, hk, doWrap, hpw, hirm, putNarrowAt, hx]

/-- closed form of printing a wide glyph that fits, in replace mode with the cursor known and no wrap pending -/
theorem putWide_eq (t : Term) (cp : Int) (hk : t.cursorKnown = true) (hpw : t.pendingWrap = false)
    (hirm : t.modes.insertMode = false) (hfit : t.cx + 2 ≤ t.grid.w) :
    t.putWide cp =
      { t with
        grid := (((t.grid.clobber t.blocks t.cx t.cy).set t.cx t.cy (t.glyphCell cp)).clobber t.blocks (t.cx + 1) t.cy).set
                  (t.cx + 1) t.cy { t.glyphCell cp with runes := [], cont := true }
        cx := if t.cx + 2 < t.grid.w then t.cx + 2 else t.cx + 1
        pendingWrap := if t.cx + 2 < t.grid.w then false else t.modes.autoMargin
        last := some (t.cx, t.cy, (if t.cx + 2 < t.grid.w then t.cx + 2 else t.cx + 1), t.cy,
                      (if t.cx + 2 < t.grid.w then false else t.modes.autoMargin)) } := by
  have hfit' : ¬ t.grid.w < t.cx + 2 := by omega
  by_cases hx : t.cx + 2 < t.grid.w <;> simp [putWide, hk, doWrap, hpw, hirm, w, hfit', putWideAt, hx]

/-- **a narrow glyph** (any code point) away from the last column -/
theorem putNarrow_effect (t : Term) (cp : Int)
    (hk : t.cursorKnown = true) (hpw : t.pendingWrap = false) (hirm : t.modes.insertMode = false)
    (hx : t.cx + 1 < t.w)
    (hc0 : (t.get t.cx t.cy).cont = false) (hc1 : (t.get (t.cx + 1) t.cy).cont = false) :
    t.putNarrow cp =
      { t with
        grid := t.grid.set t.cx t.cy (t.glyphCell cp)
        cx := t.cx + 1
        last := some (t.cx, t.cy, t.cx + 1, t.cy, false) } := by
  have hxg : t.cx + 1 < t.grid.w := hx
  simp [putNarrow_eq t cp hk hpw hirm, Grid.clobber_noop _ _ _ _ hc0 hc1, hxg, ← hpw]

/-- **one narrow ASCII glyph** at a column that is not the last one, no wrap pending, replace mode, no alternate character
    set, over cells that are not halves of a wide glyph: the cell under the cursor becomes that glyph with the current pen
    and the current stamp, every other cell stays -/
theorem print_narrow_cells (t : Term) (b : Nat) (hst : t.st = .ground) (hb : 0x20 ≤ b ∧ b < 0x7f)
    (hw : t.cfg.utf8 = true → t.cfg.rw (b : Int) = 1)
    (hfont : t.modes.altFont = 0) (hacs : acsActive t.modes = false)
    (hk : t.cursorKnown = true) (hpw : t.pendingWrap = false) (hirm : t.modes.insertMode = false)
    (hx : t.cx + 1 < t.w) (hy : t.cy < t.h)
    (hc0 : (t.get t.cx t.cy).cont = false) (hc1 : (t.get (t.cx + 1) t.cy).cont = false) (x y : Nat) :
    (t.feedByte b).get x y =
      if x = t.cx ∧ y = t.cy then
        { runes := [(b : Int)], pen := t.pen, cont := false, garbage := !(t.penKnown && t.linkKnown), stamp := t.blocks }
      else t.get x y := by
  rw [feedByte_ascii t b hst hb hfont hacs, widthOf_one t b hw]
  show (t.putNarrow b).grid.get x y = _
  rw [putNarrow_effect t b hk hpw hirm hx hc0 hc1]
  have hx' : t.cx < t.grid.w := by have : t.w = t.grid.w := rfl; omega
  have hy' : t.cy < t.grid.h := hy
  simp only [Grid.get_set, hx', hy', and_true]
  rfl

/-- **a narrow ASCII glyph in the last column**: the cell is written, the cursor stays; with auto-margin a wrap
    becomes pending -/
theorem print_last_col_effect (t : Term) (b : Nat) (hst : t.st = .ground) (hb : 0x20 ≤ b ∧ b < 0x7f)
    (hw : t.cfg.utf8 = true → t.cfg.rw (b : Int) = 1)
    (hfont : t.modes.altFont = 0) (hacs : acsActive t.modes = false)
    (hk : t.cursorKnown = true) (hpw : t.pendingWrap = false) (hirm : t.modes.insertMode = false)
    (hx : t.cx + 1 = t.w)
    (hc0 : (t.get t.cx t.cy).cont = false) :
    t.feedByte b =
      { t with
        grid := t.grid.set t.cx t.cy (t.glyphCell b)
        pendingWrap := t.modes.autoMargin
        last := some (t.cx, t.cy, t.cx, t.cy, t.modes.autoMargin) } := by
  have hx' : ¬ t.cx + 1 < t.grid.w := by have : t.w = t.grid.w := rfl; omega
  have hc1 : (t.grid.get (t.cx + 1) t.cy).cont = false := by rw [Grid.get_out _ _ _ (fun h => hx' h.1)]
  rw [feedByte_ascii t b hst hb hfont hacs, widthOf_one t b hw]
  show t.putNarrow b = _
  simp [putNarrow_eq t b hk hpw hirm, Grid.clobber_noop _ _ _ _ hc0 hc1, hx']

/-- **a wide glyph** that fits with room to spare: two cells (glyph + continuation), the cursor advances by two -/
theorem putWide_effect (t : Term) (cp : Int)
    (hk : t.cursorKnown = true) (hpw : t.pendingWrap = false) (hirm : t.modes.insertMode = false)
    (hx : t.cx + 2 < t.w)
    (hc0 : (t.get t.cx t.cy).cont = false) (hc1 : (t.get (t.cx + 1) t.cy).cont = false)
    (hc2 : (t.get (t.cx + 2) t.cy).cont = false) :
    t.putWide cp =
      { t with
        grid := (t.grid.set t.cx t.cy (t.glyphCell cp)).set (t.cx + 1) t.cy { t.glyphCell cp with runes := [], cont := true }
        cx := t.cx + 2
        last := some (t.cx, t.cy, t.cx + 2, t.cy, false) } := by
  have hxg : t.cx + 2 < t.grid.w := hx
  have g1 : ((t.grid.set t.cx t.cy (t.glyphCell cp)).get (t.cx + 1) t.cy).cont = false := by
    rw [Grid.get_set_other _ _ _ _ _ _ (by omega)]; exact hc1
  have g2 : ((t.grid.set t.cx t.cy (t.glyphCell cp)).get (t.cx + 1 + 1) t.cy).cont = false := by
    rw [Grid.get_set_other _ _ _ _ _ _ (by omega)]; exact hc2
  simp [putWide_eq t cp hk hpw hirm (by omega), Grid.clobber_noop _ _ _ _ hc0 hc1, Grid.clobber_noop _ _ _ _ g1 g2, hxg, ← hpw]

/-- **a combining mark right after a glyph**: it joins the cell of that glyph, the cursor does not move -/
theorem putCombining_effect (t : Term) (cp : Int) (x y : Nat)
    (hk : t.cursorKnown = true) (hl : t.last = some (x, y, t.cx, t.cy, t.pendingWrap)) :
    t.putCombining cp =
      { t with grid := t.grid.set x y { t.grid.get x y with
                 runes := (if (t.grid.get x y).runes.isEmpty then [32] else (t.grid.get x y).runes) ++ [cp], stamp := t.blocks } } := by
  simp [putCombining, hk, hl, addMark]

/-! ### the hypotheses are satisfiable -/

example : (Term.init { w := 80, h := 24 }).st = .ground := rfl
example : let t := Term.init { w := 4, h := 2 }
    t.st = .ground ∧ t.modes.altFont = 0 ∧ acsActive t.modes = false ∧ t.cursorKnown = true ∧ t.pendingWrap = false ∧
    t.modes.insertMode = false ∧ t.cx + 1 < t.w ∧ t.cy < t.h ∧ (t.get t.cx t.cy).cont = false ∧ (t.get (t.cx + 1) t.cy).cont = false := by
  decide

end Term

/-- UTF-8 encoding of a code point ≥ 0x80 (reference encoder for the statement below) -/
def utf8Enc (cp : Nat) : List Nat :=
  if cp < 0x800 then [0xC0 + cp / 64, 0x80 + cp % 64]
  else if cp < 0x10000 then [0xE0 + cp / 4096, 0x80 + cp / 64 % 64, 0x80 + cp % 64]
  else [0xF0 + cp / 262144, 0x80 + cp / 4096 % 64, 0x80 + cp / 64 % 64, 0x80 + cp % 64]

namespace Term

theorem feedByte_lead (t : Term) (hst : t.st = .ground) (hu : t.cfg.utf8 = true) (b : Nat) (hb : 0x80 ≤ b) :
    t.feedByte b =
      if 0xC2 ≤ b ∧ b ≤ 0xDF then { t with st := .utf8 1 (b - 0xC0) 0x80 }
      else if 0xE0 ≤ b ∧ b ≤ 0xEF then { t with st := .utf8 2 (b - 0xE0) 0x800 }
      else if 0xF0 ≤ b ∧ b ≤ 0xF4 then { t with st := .utf8 3 (b - 0xF0) 0x10000 }
      else (t.complain ("utf8 invalid byte " ++ hex2 b)).replacement := by
  have h1 : ¬ b < 0x20 := by omega
  have h2 : b ≠ 0x7f := by omega
  have h3 : ¬ b < 0x80 := by omega
  simp [feedByte, hst, feedGround, h1, h2, h3, hu]

theorem feedByte_cont (t : Term) (need acc lo d : Nat) (hd : d < 64) :
    ({ t with st := .utf8 need acc lo } : Term).feedByte (0x80 + d) =
      if need ≤ 1 then
        if acc * 64 + d < lo ∨ 0x10FFFF < acc * 64 + d ∨ (0xD800 ≤ acc * 64 + d ∧ acc * 64 + d ≤ 0xDFFF) then
          (({ t with st := .ground } : Term).complain "utf8 overlong, surrogate or out-of-range code point").replacement
        else ({ t with st := .ground } : Term).printCp (acc * 64 + d)
      else { t with st := .utf8 (need - 1) (acc * 64 + d) lo } := by
  have h1 : 0x80 ≤ 0x80 + d ∧ 0x80 + d < 0xC0 := by omega
  simp [feedByte, feedUtf8, h1]

/-- **decoding**: the UTF-8 bytes of a scalar value ≥ 0x80, fed to a UTF-8 terminal in the ground state, print that
    code point (`printCp`: C1 code points are refused, everything else goes to `putGlyph` with its width) -/
theorem feed_utf8Enc (t : Term) (hst : t.st = .ground) (hu : t.cfg.utf8 = true) (cp : Nat)
    (hlo : 0x80 ≤ cp) (hhi : cp ≤ 0x10FFFF) (hsur : ¬ (0xD800 ≤ cp ∧ cp ≤ 0xDFFF)) :
    t.feed (utf8Enc cp) = t.printCp cp := by
  unfold utf8Enc
  split
  · simp only [feed_cons, feed_nil]
    rw [feedByte_lead t hst hu _ (by omega), if_pos (by omega), feedByte_cont _ _ _ _ _ (by omega), if_pos (by omega),
      show (0xC0 + cp / 64 - 0xC0) * 64 + cp % 64 = cp by omega, if_neg (by omega), with_ground t hst]
  · split
    · simp only [feed_cons, feed_nil]
      rw [feedByte_lead t hst hu _ (by omega), if_neg (by omega), if_pos (by omega), feedByte_cont _ _ _ _ _ (by omega),
        if_neg (by omega), feedByte_cont _ _ _ _ _ (by omega), if_pos (by omega),
        show ((0xE0 + cp / 4096 - 0xE0) * 64 + cp / 64 % 64) * 64 + cp % 64 = cp by omega, if_neg (by omega), with_ground t hst]
    · simp only [feed_cons, feed_nil]
      rw [feedByte_lead t hst hu _ (by omega), if_neg (by omega), if_neg (by omega), if_pos (by omega),
        feedByte_cont _ _ _ _ _ (by omega), if_neg (by omega), feedByte_cont _ _ _ _ _ (by omega), if_neg (by omega),
        feedByte_cont _ _ _ _ _ (by omega), if_pos (by omega),
        show (((0xF0 + cp / 262144 - 0xF0) * 64 + cp / 4096 % 64) * 64 + cp / 64 % 64) * 64 + cp % 64 = cp by omega,
        if_neg (by omega), with_ground t hst]

end Term

end Tcell.Spec.Ecma48
