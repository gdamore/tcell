-- Root of the `Tcell` library: models, specifications, lemmas and property theorems.
import Tcell.AuditLib
import Tcell.Model.Cell
import Tcell.Model.CellOps
import Tcell.Props.C08
import Tcell.Model.Views
import Tcell.Model.ViewsTree
import Tcell.Props.C20
import Tcell.Props.C16
import Tcell.Props.C07
import Tcell.Props.C15
import Tcell.Props.C14
import Tcell.Props.C14Colors
import Tcell.Props.C19
import Tcell.Props.C19Page
import Tcell.Spec.Ecma48
import Tcell.Spec.Ecma48Lemmas
import Tcell.Spec.Ecma48Test
import Tcell.Spec.ATermIchTest
import Tcell.Props.C12
import Tcell.Props.C02
import Tcell.Props.C11
import Tcell.Props.C03
import Tcell.Props.C10
import Tcell.Model.Encode
import Tcell.Model.Sim
import Tcell.Props.C17
import Tcell.Props.C17Locale
import Tcell.Props.C18
import Tcell.Props.C13
import Tcell.Props.C01B
import Tcell.Props.C09Acs
import Tcell.Props.C04
import Tcell.Props.C04B
import Tcell.Props.C05
import Tcell.Props.C06
import Tcell.Model.PipelineReal
import Tcell.Props.C05Real
import Tcell.Props.C06Real
